/-
C15 has NO open known finding.  This (non-gating) file evaluates the model on the witnesses of the
six defects repaired in /repo (commits 92174fd, 05c7da9, 4e42d87, 732dc8f, 5779005, df573a7): each
is rejected with `FIXMessageError`, respectively accepted, as by the code since its repair.  If one
of these stops checking, the model has been changed towards the defective behaviour
(`fixed_item_missing_required` excepted, see there).
-/
import AsyncFix.Props.C15
namespace AsyncFix.Findings.C15
open AsyncFix.Model.Schema AsyncFix.Props.C15

/-- 92174fd: message without its required group -/
theorem fixed_missing_required_group :
    validate vvToy toy ⟨"D", [.plain "11" "c"]⟩ = .raised .msgError := by decide +kernel

/-- 05c7da9 (an item without a required nested GROUP was accepted): the toy dictionary has no required
    nested group (802 is optional), so this item of 802 only lacks the required FIELD 803, which the code
    rejected before that commit as well -/
theorem fixed_item_missing_required :
    validate vvToy toy ⟨"D", [.plain "11" "c", .group "453" [[.plain "448" "p", .plain "452" "1",
      .group "802" [[.plain "523" "s"]]]]]⟩ = .raised .msgError := by decide +kernel

/-- 4e42d87: plain member of a group item given as a group (was AssertionError) -/
theorem fixed_group_for_field_in_item :
    validate vvToy toy ⟨"D", [.plain "11" "c",
      .group "453" [[.plain "448" "p", .group "452" [[.plain "448" "x"]]]]]⟩ = .raised .msgError := by
  decide +kernel

/-- 732dc8f: empty value / class object as value (was AssertionError) -/
theorem fixed_empty_value :
    validate vvToy toy ⟨"0", [.plain "58" ""]⟩ = .raised .msgError := by decide +kernel
theorem fixed_class_value :
    validate vvToy toy ⟨"0", [.cls "58" .repeating]⟩ = .raised .msgError := by decide +kernel

/-- 5779005: header member with an invalid value, without BeginString (was accepted) -/
theorem fixed_header_value_checked :
    validate vvToy toy ⟨"0", [.plain "35" "bad"]⟩ = .raised .msgError := by decide +kernel
theorem fixed_header_field_as_group :
    validate vvToy toy ⟨"0", [.group "35" [[.plain "58" "x"]]]⟩ = .raised .msgError := by decide +kernel

/-- df573a7: a trailer member of the dictionary (was rejected as "not allowed") -/
theorem fixed_trailer_member_accepted :
    validate vvToy toy ⟨"0", [.plain "58" "hello", .plain "93" "3"]⟩ = .ok := by decide +kernel

end AsyncFix.Findings.C15
