import AsyncFix.Props.C05

/-!
Machine-checked counter-example for the statement of Props/C05 that is kept as `def … : Prop`
(non-gating), and a witness for fix da179c4 of /repo (finding D9).

* `not_outInv_step_full` – finding `C05-app-own-number`: an application that passes a SequenceReset
  (or PossDupFlag=Y) message to `send_msg` chooses the number itself; `persist_msg` then sets the stored
  outbound counter to that number.  Witness: counter 43, the application sends
  `SequenceReset(34=3, 36=9)`: stored next-outbound becomes 3 (+1) while the session keeps 43 – after a
  restart the numbers 4 … 42 would be used again.
-/
namespace AsyncFix.Findings.C05

open AsyncFix.Session AsyncFix.Props.C05 AsyncFix.Generated AsyncFix.Generated.ConnEnum

/-- the connection after `hist`'s first three events: ACTIVE, counter 43 -/
def cA : Conn := (run (fun _ => true) c0 (hist.take 3)).1

theorem cA_inv : OutInv cA :=
  outInv_run _ c0 _ c0_inv (fun ev hev => (hist_ok ev (List.mem_of_mem_take hev)).1)

def appReset : Msg := Msg.mk' mSequenceReset [(tMsgSeqNum, "3"), (tNewSeqNo, "9")]

theorem not_outInv_step_full : ¬ outInv_step_full := by
  intro h
  have := (h (fun _ => true) cA env0 appReset cA_inv).counter
  revert this
  decide +kernel

/-! ### finding D9 (repaired by /repo da179c4): a bounded ResendRequest leaves the rows above EndSeqNo in place -/

def bounded : List Event := [
  .appSend env0 (order "one"),
  .appSend env0 (order "two"),
  .recv env0 (peer "2" 8 [(7, "43"), (16, "43")]) ]

def kept : Msg := buildFrame cA.sess env0.stamp (order "two") 44

/-- after `ResendRequest(7=43, 16=43)` the order sent under 44 is still in the journal, identically -/
theorem bounded_resend_keeps_row :
    Rows.find 44 (run (fun _ => true) cA bounded).1.journal.out = some kept := by decide +kernel

end AsyncFix.Findings.C05
