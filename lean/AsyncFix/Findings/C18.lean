/-
Open known finding of C18 as a machine-checked counter-example on the model (the same witness
`harness/c18.py` replays on the implementation).  NOT part of the gating build: if the code is repaired,
the model changes with it and this stops checking.
(Six other findings were repaired by /repo commits 7c684d5, 68fefe3, 9e4749c, 8584485; their
statements are theorems in `Props/C18.lean`.)
-/
import AsyncFix.Props.C18
namespace AsyncFix.Findings.C18
open AsyncFix.Py AsyncFix.Model.Container AsyncFix.Props.C18

theorem pyInt_01 : pyIntOfString [48, 49] = some 1 := by decide

/-- C18-noncanonical-tag-distinct-key: `c.set("01", v)` then `c[1]` → TagNotFoundError -/
theorem not_get_after_set_any_spelling_full : ¬ get_after_set_any_spelling_full := by
  intro h
  have hi : intLike [48, 49] = true := by simp [intLike, pyInt_01]
  have := h [] [([48, 49], .str [97])] [48, 49] 1 (.str [97]) pyInt_01
    (by simp [Model.Container.set, PyObj.pyStr, hi, dictSet])
  simp [Model.Container.get, PyObj.pyStr, renderInt_1, lookup, getCls] at this

end AsyncFix.Findings.C18
