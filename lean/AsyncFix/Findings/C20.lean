/-
Machine-checked counter-example of the open finding of C20: the helper accepts a ClOrdID that is neither the
order's ClOrdID nor its OrigClOrdID (/repo keeps the behaviour under test: `test_exec_report_clord_mismatch`).
Non-gating: when a finding is repaired in /repo and the model follows, the corresponding refutation stops compiling.
-/
import AsyncFix.Props.C20
import AsyncFix.Props.C20Lock
namespace AsyncFix.Findings.C20
open AsyncFix.Tester AsyncFix.Props.C20

def st0 : TState := { registered := ["c1"] }
def o0 : OrderView := { clordId := "c1", qty := ⟨80, true⟩, price := ⟨800, true⟩, status := "A" }
def aNew : Args := { clordId := "c1", execType := "0", ordStatus := "0", cumQty := some ⟨0, true⟩, leavesQty := some ⟨80, true⟩ }
def aForeign : Args := { aNew with clordId := "zzz" }

def msgOf (r : TState × Except Refusal RMsg) : RMsg := match r.2 with | .ok m => m | .error _ => default

theorem eq_of_isOk (r : TState × Except Refusal RMsg) (h : r.2.isOk = true) : r = (r.1, .ok (msgOf r)) := by
  obtain ⟨s, e⟩ := r
  cases e with
  | error x => simp [Except.isOk, Except.toBool] at h
  | ok m => rfl

def raisedFix (r : Except PExc (OrderView × Bool)) : Bool := match r with | .error .fixError => true | _ => false

theorem eq_of_raisedFix {r : Except PExc (OrderView × Bool)} (h : raisedFix r = true) : r = .error .fixError := by
  unfold raisedFix at h
  split at h
  · rfl
  · cases h

def r3 := fabricate none st0 o0 aForeign

/-- C20-foreign-clordid-accepted: accepted by the helper, `process_execution_report` raises FIXError -/
theorem foreign_clordid_witness :
    r3.2.isOk = true ∧ processExecReport o0 (msgOf r3) = .error .fixError :=
  ⟨by decide +kernel, eq_of_raisedFix (by decide +kernel)⟩

theorem fabricated_processable_full_refuted : ¬ fabricated_processable_full := by
  intro h
  have e : fabricate none st0 o0 aForeign = (r3.1, .ok (msgOf r3)) := eq_of_isOk r3 foreign_clordid_witness.1
  obtain ⟨o', b, hp⟩ := h none st0 r3.1 o0 aForeign (msgOf r3) (by decide +kernel) e
  rw [foreign_clordid_witness.2] at hp
  cases hp

end AsyncFix.Findings.C20
