/-
Open known findings of C10 as machine-checked counter-examples (kernel evaluation of the model on
the witness frames; the same witnesses are replayed on the real decoder by harness/c10.py).
NOT part of the gating build.
-/
import AsyncFix.Props.C10
namespace AsyncFix.Findings.C10
open AsyncFix.Model.Codec AsyncFix.Props.C10

/-- Boolean form of `BodyLengthOK` -/
def bodyLengthOKb (enc : Bytes) : Bool :=
  match fieldsOf enc with
  | f0 :: f1 :: _ =>
    (match splitEq f1 with
     | some (t, v1) => t == tag9 &&
        pyInt v1 == some (((join SOH (fieldsOf enc).dropLast).length + 1 - (f0.length + f1.length + 2) : Nat) : Int)
     | none => false)
  | _ => false

theorem bodyLengthOKb_of {enc : Bytes} (h : BodyLengthOK enc) : bodyLengthOKb enc = true := by
  obtain ⟨f0, f1, rest, v1, hf, hs, hp⟩ := h
  unfold bodyLengthOKb
  rw [hf] at hp ⊢
  simp only [hs, hp, beq_self_eq_true, Bool.and_self]

/-- the frame of tests/test_codec.py::test_decode_custom_msg_type: says `9=82`, has 84 body bytes -/
def pinnedFrame : Bytes :=
  [56, 61, 70, 73, 88, 46, 52, 46, 52, 1, 57, 61, 56, 50, 1, 51, 53, 61, 65, 83, 68, 1, 52, 57, 61, 115, 101,
   110, 100, 101, 114, 1, 53, 54, 61, 116, 97, 114, 103, 101, 116, 1, 51, 52, 61, 49, 1, 53, 50, 61, 50, 48,
   50, 51, 48, 57, 49, 57, 45, 48, 55, 58, 49, 51, 58, 50, 54, 46, 56, 48, 56, 1, 52, 52, 61, 49, 50, 51, 46,
   52, 53, 1, 51, 56, 61, 57, 56, 55, 54, 1, 53, 53, 61, 86, 79, 68, 46, 76, 1, 49, 48, 61, 50, 52, 56, 1]

/-- C10-bodylength-not-verified: the pinned frame is returned (consumed 104 of its 106 bytes!)
although BodyLength(9)=82 and the body has 84 bytes. -/
theorem not_bodylength_full : ¬ C10_bodylength_full := by
  intro h
  obtain ⟨m, hm⟩ : ∃ m, decode bs44 [] pinnedFrame = .msg m 104 pinnedFrame :=
    DecRes.of_returnedOf (by decide +kernel)
  have := bodyLengthOKb_of (h bs44 [] pinnedFrame m 104 pinnedFrame hm)
  revert this
  decide +kernel

/-- `8=FIX.4.4|9=17|35=0|49=S|34=100|10=010|` -/
def goodFields : List Fld := [⟨[51, 53], [48]⟩, ⟨[52, 57], [83]⟩, ⟨[51, 52], [49, 48, 48]⟩]
def goodFrame : Bytes := mkFrame bs44 goodFields

theorem goodFrame_wf : okBegin bs44 = true ∧ WFFrame bs44 goodFrame :=
  ⟨by decide +kernel, goodFields, rfl, by decide +kernel, by decide +kernel⟩

def gA : Bytes := [56, 61, 70, 73, 88, 46, 52, 46, 52, 1, 57, 61, 49, 55, 1, 51, 53, 61, 48, 1, 52, 57, 61, 83]
def gB : Bytes := [1, 51, 52, 61, 49, 48, 48, 1, 49, 48, 61, 48, 49, 48, 1]

theorem goodFrame_eq : goodFrame = gA ++ gB := by decide +kernel

/-- `…49=S\0|34=100|10=010|` -/
def nulFrame : Bytes := gA ++ 0 :: gB
/-- C10-bodylength-not-verified, single-byte form: a NUL inserted into a value (`49=S` → `49=S\0`)
keeps the byte sum, so the frame – one byte longer than its BodyLength says – is returned. -/
theorem nul_insertion_returned : ¬ C10_corruption_full := by
  intro h
  have he : Edit1 goodFrame nulFrame := by
    rw [goodFrame_eq]; exact Edit1.insert _ _ 0 (by decide)
  obtain ⟨m, hm⟩ : ∃ m, decode bs44 [] nulFrame = .msg m 39 nulFrame :=
    DecRes.of_returnedOf (by decide +kernel)
  exact h bs44 [] _ _ goodFrame_wf.1 goodFrame_wf.2 he _ m 39 hm

/-- the full statement of C10's second sentence does not hold for the unchanged code -/
theorem not_C10_full : ¬ C10_full := fun h => not_bodylength_full h.1

end AsyncFix.Findings.C10
