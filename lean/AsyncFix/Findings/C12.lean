/-
C12 has no open known finding.  This (non-gating) file keeps machine-checked evaluations of the
session model on concrete schedules: the two defects found by the C12 work as they behave AFTER their
repairs (fix e3d9663, fix 5623bd4 – if either is reverted and the model follows, these stop checking), and
two recorded quirks.
-/
import AsyncFix.Props.C12
namespace AsyncFix.Findings.C12
open AsyncFix.Session AsyncFix.Session.Watchdog AsyncFix.Generated AsyncFix.Generated.ConnEnum
open AsyncFix.Props.C12

/-- FIXED (e3d9663), known finding C12-traffic-does-not-answer-testrequest: h = 2 s, last frame at 100 000, a valid
Heartbeat every 2 s, the TestRequest (id 101) sent at 101 500 is never echoed, ticks every second.  Before
the fix the tick at 105 500 closed the socket 1.5 s after a valid frame; after it nothing is torn down. -/
theorem heartbeatingPeer_spared :
    (run (fun _ => true) c0 (hist heartbeatingPeer)).1.state = st_ACTIVE ∧
    Effect.closeSocket ∉ (run (fun _ => true) c0 (hist heartbeatingPeer)).2 := by
  decide +kernel

/-- … and once that peer falls silent (last frame 104 000) it is dropped by the first tick more than
`2·h` after it, without a second TestRequest. -/
theorem heartbeatingPeer_then_silent_dropped :
    (run (fun _ => true) c0 (hist (heartbeatingPeer ++
      [.tick (env0 106500), .tick (env0 107500), .tick (env0 108500)]))).1.state = st_DISCONNECTED_BROKEN_CONN := by
  decide +kernel

/-- FIXED (5623bd4), the stale `_message_last_time` after a wrong-id Logout: `_finalize_message` does not
stamp the receive time on the connection the dispatch has just disconnected, so the first watchdog
iteration after a later reconnect leaves the fresh connection alone. -/
theorem reconnect_after_wrong_id_survives :
    let c1 := (recv (fun _ => true) (env0 102000) c0armed (peerMsg "0" "5" [(112, "abc")])).1
    let c2 := (connected c1 .initiator).1
    c1.state = st_DISCONNECTED_BROKEN_CONN ∧ c1.lastTime = 0 ∧
    c2.state = st_NETWORK_CONN_ESTABLISHED ∧ c2.sock = true ∧ tick (env0 160000) c2 = (c2, []) := by
  decide +kernel

/-- `h = 1`: the idle threshold is 0 – a frame at 100 000 and a tick 1 ms later already probe. -/
theorem h1_probe_after_1ms :
    writes (tick (env0 100001) { c0 with hb := 1 }).2 ≠ [] := by
  decide +kernel

/-- Quirk (unreachable after 1970-01-01 00:00:01): `if not self._test_req_id` treats id 0 like "none"
while `send_test_req` refuses it (`is not None`): the iteration raises FIXConnectionError at every tick
and never reaches either timeout test. -/
theorem id_zero_watchdog_stuck :
    tick (env0 200000) { c0 with testReqId := some 0 } = ({ c0 with testReqId := some 0 }, [.raised .connection]) := by
  decide +kernel

end AsyncFix.Findings.C12
