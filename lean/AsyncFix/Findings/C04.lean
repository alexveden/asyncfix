/-
Open known finding of C04 as machine-checked counter-examples on the session model.
NOT part of the gating build: if the code (and with it the model) is repaired these stop checking, and
the check reports that the finding no longer reproduces.

C04-backward-reset-moves-counter-back (DESIGN §4 D6): a SequenceReset in Reset mode (no GapFillFlag)
whose NewSeqNo is BELOW the expected inbound number is honoured: the expected number goes back and
already delivered numbers are delivered to `on_message` a second time.  Pinned by the repository's own
unit test test_sequence_reset_request__incoming_seq_num_toolow_ignored.
-/
import AsyncFix.Props.C04
namespace AsyncFix.Findings.C04
open AsyncFix.Session AsyncFix.Props.C04 AsyncFix.Props.C04.Witness

/-- expecting 5: deliver 5, Reset-mode SequenceReset(34=6, NewSeqNo=3), then 3, 4, 5 again.
(The same history is replayed on the real connection by the oracle of harness/c04.py.) -/
def backwardHistory : List Event :=
  [.recv env0 (app "5"), .recv env0 (reset "6" "3"), .recv env0 (app "3"), .recv env0 (app "4"),
   .recv env0 (app "5")]

theorem backwardHistory_delivers :
    deliveredNums (run all active backwardHistory).2 = [some 5, some 3, some 4, some 5] := by
  decide +kernel

/-- the excluded class is exactly what this history contains -/
theorem backwardHistory_excluded : noBackward all active backwardHistory = false := by decide +kernel

theorem not_delivered_strictly_increasing_full : ¬ delivered_strictly_increasing_full := by
  intro h
  obtain ⟨ns, hns, hpw⟩ := h all active backwardHistory (by decide)
  rw [backwardHistory_delivers] at hns
  match ns, hns, hpw with
  | [a, b, c, d], hns, hpw =>
    simp only [List.map_cons, List.map_nil, List.cons.injEq, Option.some.injEq, and_true] at hns
    obtain ⟨rfl, rfl, rfl, rfl⟩ := hns
    simp at hpw

/-- one step: expecting 5, a Reset-mode SequenceReset with NewSeqNo 3 moves the expectation back -/
theorem not_nextIn_forward_full : ¬ nextIn_forward_full := by
  intro h
  have := h all env0 active (reset "5" "3")
  revert this
  decide +kernel

end AsyncFix.Findings.C04
