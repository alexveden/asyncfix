import AsyncFix.Props.C14
import AsyncFix.Lemmas.SchedWitness

/-!
# C14 – machine-checked counter-examples of `concurrent_full`

## D21, signature `C14-send-inside-resend-rewind-window`

Session with 6 messages sent (`next_num_out = 7`, rows 3..6 journaled).  Task 0 = reader with a
ResendRequest(5, 0), task 1 = application `send_msg(D "concurrent")`.  Schedule `r0 r0 r1 r1 r0 r0`:
the reader sets RESENDREQ_HANDLING (suspends in `on_state_change`), then rewinds the counter to 5 and
suspends in `should_replay(row 5)` – the window is open, `next_num_out = 5`; the sender allocates **5**,
journals its message under 5 (the old row 5 was deleted by the rewind, so no duplicate error HERE) and
writes it: a NEW message numbered 5 < 7, a number that belongs to another message; the reader resumes,
tries to re-journal the replayed row 5 → DuplicateSeqNoError (swallowed), leaves the counter at 6 and
the state RESENDREQ_HANDLING.  Evaluated on the model by the kernel; `harness/c14.py` replays the same
schedule on the real coroutines (corpus/sched/d21.json).

## signature `C14-state-revived-after-concurrent-disconnect`

Acceptor, transport up, Logon numbered too high, overdue TestRequest id.  The reader writes its Logon
reply (number 1) and suspends in `drain`; the watchdog task disconnects completely (socket dropped,
state DISCONNECTED_BROKEN_CONN); the reader resumes and `_state_set(RECV_SEQNUM_TOO_HIGH)` revives the
state without a transport; its ResendRequest passes the state checks, consumes number 2, journals it and
dies in `None.write` (AttributeError, swallowed): `next_num_out = 3` although the highest number that was
sent is 1.
-/
namespace AsyncFix.Sched.C14.Findings

open AsyncFix.Session AsyncFix.Sched AsyncFix.Sched.C14 AsyncFix.Sched.Witness AsyncFix.Generated.ConnEnum

/-- after `r0 r0` the reader is suspended in `should_replay` INSIDE the window: counter rewound to 5 -/
theorem d21_window_open :
    let s := run all c0 tsD21 false [.run 0, .run 0]
    s.windowOpen = true ∧ s.everRewound = true ∧ s.conn.sess.nextOut = 5 ∧ c0.sess.nextOut = 7 := by
  decide +kernel

/-- the whole schedule: the only new message on the wire is the application's, numbered 5 -/
theorem d21_duplicate_number :
    let s := run all c0 tsD21 false schedD21
    (newWrites s.effects).map (fun f => (f.get? 58, seqOf f)) = [(some "concurrent", some 5)] ∧
    (Rows.find 5 c0.journal.out).isSome = true ∧
    s.log.map (fun p => (p.1, p.2 == .caught .duplicateSeqNo)) = [(0, false), (1, false), (0, true)] ∧
    s.allDone = true ∧ s.conn.sess.nextOut = 6 ∧ s.windowOpen = true := by
  decide +kernel

/-- the schedule is excluded by the partial theorem's hypothesis – and by nothing else -/
example : (run all c0 tsD21 false schedD21).everRewound = true ∧ (∀ t ∈ tsD21, t.wf = true) :=
  ⟨everRewound_of_windowOpen d21_duplicate_number.2.2.2.2.2, by decide⟩

theorem revived_counts :
    let s := run all cA tsRevive false schedRevive
    (newWrites s.effects).map seqOf = [some 1] ∧ s.conn.sess.nextOut = 3 ∧ s.conn.journal.outSeq = 2 ∧
    lost s.effects = 1 ∧ s.everRewound = false ∧ s.allDone = true ∧
    s.conn.state = st_RECV_SEQNUM_TOO_HIGH ∧ s.conn.sock = false := by
  decide +kernel

/-- `concurrent_full` does not hold for the current code (D21) -/
theorem concurrent_full_refuted : ¬ concurrent_full := by
  intro h
  have h1 := h all c0 tsD21 false schedD21 J_c0 (by decide)
  obtain ⟨ns, e1, _, e3⟩ := h1.increasing
  have hw : (newWrites (run all c0 tsD21 false schedD21).effects).map seqOf = [some 5] := by
    simpa using congrArg (List.map Prod.snd) d21_duplicate_number.1
  rw [hw] at e1
  cases ns with
  | nil => simp at e1
  | cons n r =>
    simp only [List.map_cons, List.cons.injEq, Option.some.injEq] at e1
    have := (e3 n (by simp)).1
    have h7 : c0.sess.nextOut = 7 := rfl
    omega

/-- … and, independently of any resend, by the revived connection: the counter is not the number of
frames written -/
theorem concurrent_full_refuted_revived : ¬ concurrent_full := by
  intro h
  have h1 := (h all cA tsRevive false schedRevive J_cA (by decide)).counter
  have h2 : (run all cA tsRevive false schedRevive).conn.sess.nextOut = 3 := revived_counts.2.1
  have h3 : (newWrites (run all cA tsRevive false schedRevive).effects).length = 1 := by
    simpa using congrArg List.length revived_counts.1
  rw [h2, h3] at h1
  simp at h1
  have : cA.sess.nextOut = 1 := rfl
  omega

end AsyncFix.Sched.C14.Findings
