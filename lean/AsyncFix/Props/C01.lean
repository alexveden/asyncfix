/-
C01 — encode/decode round trip preserves every well-formed message.

Statement (`encode_decode`): for every message `m`, session, encoding mode and clock value such that
the container the decoder is expected to rebuild is well-formed w.r.t. the group table (`wfTop`, the
explicit decidable predicate – evaluated by the compiled model on every generated message of the
correspondence run), the encoder succeeds and decoding its bytes returns exactly that container
(same type, same fields in the same order with the same values, same group nesting / item count /
item order, header carrying the session's CompIDs and the selected sequence number), reports the
whole frame as consumed and returns the frame bytes unchanged.

Layers: encoder shape (Lemmas/CodecEncodeShape, CodecFlat) – framing (Lemmas/CodecFrame) –
group reconstruction (Lemmas/CodecGroupsCore, CodecGroups).
-/
import AsyncFix.Lemmas.CodecGroups
import AsyncFix.Lemmas.CodecWFDecodes
import AsyncFix.Lemmas.CodecFlat
import AsyncFix.Lemmas.CodecEncodeShape
import AsyncFix.Generated.Proto
namespace AsyncFix.Props.C01
open AsyncFix.Model.Codec

/-- all fields the encoder emits between BodyLength and CheckSum -/
def wireFlds (m : Msg) (s : Session) (seq now : Bytes) : List Fld :=
  hdrFlds m.mtype s.sender s.target seq now ++ flatCont (bodyOf m)

/-- the container the decoder must return, without its final CheckSum entry:
`8, 9, 35, 49, 56, 34, 52`, then the message's own entries (minus 34/52/49/56) unchanged -/
def expectedCont (bs : Bytes) (m : Msg) (s : Session) (seq now : Bytes) : Cont :=
  ((preFlds bs (wireFlds m s seq now)).take 7).map (fun f => Node.leaf f.tag f.val) ++ bodyOf m

theorem expectedCont_eq (bs : Bytes) (m : Msg) (s : Session) (seq now : Bytes) :
    expectedCont bs m s seq now =
      ((preFlds bs (wireFlds m s seq now)).take 7).map (fun f => Node.leaf f.tag f.val) ++ bodyOf m := rfl

theorem flat_expectedCont (bs : Bytes) (m : Msg) (s : Session) (seq now : Bytes) :
    flatCont (expectedCont bs m s seq now) = preFlds bs (wireFlds m s seq now) := by
  rw [expectedCont_eq, flatCont_append, flatCont_leaves]
  simp [preFlds, wireFlds, hdrFlds]

theorem wfNodes_drop {tbl : Tbl} {ms? : Option (List Tag)} (xs : List Node) :
    ∀ {seen : List Tag} {ys : List Node}, wfNodes tbl ms? seen (xs ++ ys) = true →
      ∃ seen', wfNodes tbl ms? seen' ys = true :=
  Model.Codec.wfNodes_drop xs

theorem ckParse_dec3 (k : Nat) (h : k < 1000) : ckParse (dec3 k) = some k :=
  Model.Codec.ckParse_dec3 k h

/-- **The decoder inverts flattening**: a frame whose fields (BeginString and BodyLength included) are the wire
order of a well-formed container decodes to that container followed by the CheckSum entry.  No encoder, message or
session is mentioned: the round trip and the bridge to the session model are its two instances. -/
theorem decode_flat (bs : Bytes) (tbl : Tbl) (c : Cont) (fs : List Fld)
    (hb : okBegin bs = true) (h10 : tblNo10 tbl = true) (hwf : wfTop tbl c = true)
    (hc : flatCont c = preFlds bs fs)
    (hd : (natToDec (bodyBytes fs).length).length ≤ maxStrDigits) :
    decode bs tbl (mkFrame bs fs) =
      .msg { mtype := lastMtype (preFlds bs fs), body := c ++ [.leaf tag10 (dec3 (frameCk bs fs))] }
        (mkFrame bs fs).length (mkFrame bs fs) := by
  have hok : okFields (preFlds bs fs) = true := hc ▸ okFields_flatCont_wfTop hwf h10
  have hokw : okFields fs = true := by
    simp only [preFlds, okFields, List.all_cons, Bool.and_eq_true] at hok
    exact hok.2.2
  -- field loop = group reconstruction on the container
  have hloop := stepAll_wfTop tbl (frameCk bs fs) c (dec3 (frameCk bs fs)) hwf
  rw [hc] at hloop
  exact decode_mkFrame_top bs tbl fs hb hokw hd hloop

/-- **Round trip, core statement**: once the sequence number text is fixed. -/
theorem assemble_decode (bs : Bytes) (tbl : Tbl) (m : Msg) (s : Session) (seq now : Bytes)
    (hb : okBegin bs = true) (h10 : tblNo10 tbl = true)
    (hwf : wfTop tbl (expectedCont bs m s seq now) = true)
    (hd : (natToDec (bodyBytes (wireFlds m s seq now)).length).length ≤ maxStrDigits) :
    assemble bs m s seq now = .ok (mkFrame bs (wireFlds m s seq now)) ∧
    decode bs tbl (mkFrame bs (wireFlds m s seq now)) =
      .msg { mtype := lastMtype (preFlds bs (wireFlds m s seq now)),
             body := expectedCont bs m s seq now ++
               [.leaf tag10 (dec3 (frameCk bs (wireFlds m s seq now)))] }
        (mkFrame bs (wireFlds m s seq now)).length (mkFrame bs (wireFlds m s seq now)) := by
  refine ⟨?_, decode_flat bs tbl _ _ hb h10 hwf (flat_expectedCont bs m s seq now) hd⟩
  -- the body part of the expected container is well formed, so `_addTag` emits its wire order
  have hnodes := wfTop_nodes hwf
  rw [expectedCont_eq] at hnodes
  obtain ⟨seen', hbody⟩ := wfNodes_drop _ hnodes
  exact assemble_eq_mkFrame bs m s seq now _ (addCont_wf hbody)

/-- **C01**: `Codec.encode` followed by `Codec.decode`.  `seq`/`s'` are what the encoder's
sequence-number selection yields: the allocated number (session counter + 1 afterwards), or the number
the message already carried (PossDup / SequenceReset / raw mode; session unchanged). -/
theorem encode_decode (bs : Bytes) (tbl : Tbl) (m : Msg) (s s' : Session) (rawSeq : Bool) (seq now : Bytes)
    (hb : okBegin bs = true) (h10 : tblNo10 tbl = true)
    (hsel : selectSeq m s rawSeq = .ok (seq, s'))
    (hwf : wfTop tbl (expectedCont bs m s' seq now) = true)
    (hd : (natToDec (bodyBytes (wireFlds m s' seq now)).length).length ≤ maxStrDigits) :
    encode bs m s rawSeq now = (.ok (mkFrame bs (wireFlds m s' seq now)), s') ∧
    decode bs tbl (mkFrame bs (wireFlds m s' seq now)) =
      .msg { mtype := lastMtype (preFlds bs (wireFlds m s' seq now)),
             body := expectedCont bs m s' seq now ++
               [.leaf tag10 (dec3 (frameCk bs (wireFlds m s' seq now)))] }
        (mkFrame bs (wireFlds m s' seq now)).length (mkFrame bs (wireFlds m s' seq now)) := by
  obtain ⟨ha, hdec⟩ := assemble_decode bs tbl m s' seq now hb h10 hwf hd
  refine ⟨?_, hdec⟩
  unfold encode
  rw [hsel]
  simp [ha]

/-- the decoded header carries the session's CompIDs and exactly the selected sequence number -/
theorem expected_header (bs : Bytes) (m : Msg) (s : Session) (seq now : Bytes) :
    (expectedCont bs m s seq now).take 7 =
      [.leaf [56] bs, .leaf [57] (natToDec (bodyBytes (wireFlds m s seq now)).length),
       .leaf tag35 m.mtype, .leaf tag49 s.sender, .leaf tag56 s.target, .leaf tag34 seq,
       .leaf tag52 now] := by
  simp [expectedCont, preFlds, wireFlds, hdrFlds]

/-- … and the body entries follow unchanged -/
theorem expected_body (bs : Bytes) (m : Msg) (s : Session) (seq now : Bytes) :
    (expectedCont bs m s seq now).drop 7 = bodyOf m := by
  simp [expectedCont, preFlds, wireFlds, hdrFlds]

/-- sequence number selection: a new message gets the session's next number, which is consumed -/
theorem selectSeq_alloc (m : Msg) (s : Session)
    (hm : (m.mtype == mtSeqReset) = false) (hpd : m.body.find? tag43 = none) :
    selectSeq m s false = .ok (intToDec s.nextOut, { s with nextOut := s.nextOut + 1 }) :=
  selectSeq_fresh m s hm (by simp [hpd])

/-- … a message that keeps its number (raw mode) leaves the session alone -/
theorem selectSeq_raw (m : Msg) (s : Session) (n : Int) (h : seqOf m.body = .ok n) :
    selectSeq m s true = .ok (intToDec n, s) := by
  simp [selectSeq, h, bind, Except.bind, pure, Except.pure]

/-- the type the decoder reports is the value of the frame's third field (MsgType), when no later field is tagged 35 -/
theorem lastMtype_preFlds (bs mt : Bytes) (rest : List Fld) (h35 : ∀ f ∈ rest, (f.tag == tag35) = false) :
    lastMtype (preFlds bs (⟨tag35, mt⟩ :: rest)) = mt := by
  -- fields not tagged 35 leave the accumulator alone; the three leading fields are evaluated
  have key : ∀ (l : List Fld) (init : Bytes), (∀ f ∈ l, (f.tag == tag35) = false) →
      l.foldl (fun acc f => if f.tag == tag35 then f.val else acc) init = init := by
    intro l
    induction l with
    | nil => intro init _; rfl
    | cons f rest ih =>
      intro init h
      rw [List.foldl_cons, h f (by simp), if_neg Bool.false_ne_true]
      exact ih init (fun g hg => h g (by simp [hg]))
  simp only [lastMtype, preFlds, List.foldl_cons, key _ _ h35]
  rfl

/-- the type the decoder reports is the message's own, when no body field is tagged 35 -/
theorem lastMtype_expected (bs : Bytes) (m : Msg) (s : Session) (seq now : Bytes)
    (h35 : ∀ f ∈ flatCont (bodyOf m), (f.tag == tag35) = false) :
    lastMtype (preFlds bs (wireFlds m s seq now)) = m.mtype := by
  -- the four session fields behind MsgType are tagged 49, 56, 34, 52
  refine lastMtype_preFlds bs m.mtype
    (⟨tag49, s.sender⟩ :: ⟨tag56, s.target⟩ :: ⟨tag34, seq⟩ :: ⟨tag52, now⟩ :: flatCont (bodyOf m)) fun f hf => ?_
  simp only [List.mem_cons] at hf
  rcases hf with rfl | rfl | rfl | rfl | hf
  · rfl
  · rfl
  · rfl
  · rfl
  · exact h35 f hf

/-! ### side conditions on the generated protocol data (re-checked against /repo every run) -/

def protoBegin : Bytes := AsyncFix.Generated.Proto.beginStringBytes
def protoTbl : Tbl := AsyncFix.Generated.Proto.groupsBytes

theorem okBegin_proto : okBegin protoBegin = true := by decide +kernel
theorem tblNo10_proto : tblNo10 protoTbl = true := by decide +kernel
/-- no group of the table has MsgType(35) as a member: the decoder reports the message's own type -/
theorem tblNo35_proto : (protoTbl.all fun p => !p.2.contains tag35) = true := by decide +kernel
/-- the FIX 4.4 table is a function: no group tag is listed twice -/
theorem tbl_nodup_proto : (protoTbl.map (·.1)).Nodup := by decide +kernel

/-! ### non-vacuity: a NewOrderSingle with a 2-item NoPartyIDs(453) group whose first item holds a
nested NoPartySubIDs(802) group, a value that looks like framing, on the GENERATED FIX 4.4 table -/

def exMsg : Msg :=
  { mtype := [68],
    body := [.leaf [53, 53] [65],
             .group [52, 53, 51]
               [[.leaf [52, 52, 56] [88], .leaf [52, 52, 55] [68],
                 .group [56, 48, 50] [[.leaf [53, 50, 51] [115]], [.leaf [53, 50, 51] [116], .leaf [56, 48, 51] [49]]]],
                [.leaf [52, 52, 56] [89]]],
             .leaf [53, 56] [56, 61, 70, 73, 88, 46, 52, 46, 52, 32, 49, 48, 61]] }

def exSess : Session := { sender := [83], target := [84], nextOut := 7 }

theorem ex_wf : wfTop protoTbl (expectedCont protoBegin exMsg { exSess with nextOut := 8 } [55] [50, 48]) = true := by
  -- the lookups in the generated table, evaluated once: 453 and 802 are groups, the other tags are not
  have hg1 : protoTbl.members? [52, 53, 51] = some [[52, 52, 56], [52, 52, 55], [52, 53, 50], [56, 48, 50]] := by
    decide +kernel
  have hg2 : protoTbl.members? [56, 48, 50] = some [[53, 50, 51], [56, 48, 51]] := by decide +kernel
  have hl : ∀ t ∈ [[56], [57], tag35, tag49, tag56, tag34, tag52, [53, 53], [52, 52, 56], [52, 52, 55], [53, 50, 51],
      [56, 48, 51], [53, 56], tag10], protoTbl.members? t = none := by decide +kernel
  simp only [List.forall_mem_cons, List.not_mem_nil, false_imp_iff, implies_true, and_true, tag10, tag34, tag35, tag49,
    tag52, tag56] at hl
  obtain ⟨h1, h2, h3, h4, h5, h6, h7, h8, h9, h10, h11, h12, h13, h14⟩ := hl
  -- the body entries pass the encoder's filter
  have hb : bodyOf exMsg = exMsg.body := rfl
  simp only [wfTop, expectedCont, preFlds, wireFlds, hdrFlds, hb]
  -- the recursion over the container is unfolded by its equations (the predicates do not reduce in the kernel);
  -- of the BodyLength text only SOH-freeness matters; what is left is a closed Boolean term
  simp only [exMsg, List.cons_append, List.nil_append,
    List.take, List.map, wfNodes, wfNode, wfItems, wfItem, hg1, hg2,
    h1, h2, h3, h4, h5, h6, h7, h8, h9, h10, h11, h12, h13, h14, notOpen, openMembersNode, openMembersItems,
    openMembersCont, contTags, Node.tag, tag10, tag34, tag35, tag49, tag52, tag56, Option.getD_some,
    natToDec_no_SOH]
  decide +kernel

end AsyncFix.Props.C01
