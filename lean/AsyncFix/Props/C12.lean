/-
C12 — the heartbeat watchdog detects dead peers and spares live ones.

Everything is about the session model itself (`AsyncFix.Session.tick` = one iteration of
`heartbeat_timer_task`, `recv` = `_process_message`, `run` = a history), for EVERY heartbeat interval
`h ≥ 1` s, every tick sequence with gaps `≤ δ` ms (`Spaced δ`), every arrival pattern.  Time is in
milliseconds; `TestReqID = now / 1000`.

`testreq_sent(_step)`, `h1_probes_at_every_tick` – when / what the watchdog probes
`dead_peer_disconnected`, `dead_peer_final_state` – a silent peer is dropped between `t0 + 2h·1000`
    (`t0 + (3h−1)·1000` when the TestRequest went out) and `t0 + (3h−1)·1000 + 2δ`
`live_peer_spared(_latency)` – a peer answering every TestRequest in time is never dropped
`live_peer_spared_traffic(_any_state, _wide)` – valid traffic at least every `2h·1000` ms alone spares the peer
    (holds after fix e3d9663, which closed the known finding C12-traffic-does-not-answer-testrequest), in every
    logged-on state and with frames numbered too high interleaved
`fresh_traffic_never_probed` – below the idle threshold `(h−1)·1000` no TestRequest is even sent
step lemmas: `outstanding_tick`, `no_outstanding_tick_never_disconnects`, `non_active_tick_recent`,
    `testrequest_echoed`, `one_outstanding_*`, `wrong_id_logout`, `right_id_clears`,
    `heartbeat_without_id_ignored`, `ignored_resend_request_keeps_active`, `echo_with_gap_clears`
-/
import AsyncFix.Lemmas.SessionWatchdogLive
import AsyncFix.Lemmas.SessionWatchdogDec
namespace AsyncFix.Props.C12
open AsyncFix.Session AsyncFix.Session.Watchdog AsyncFix.Generated AsyncFix.Generated.ConnEnum

/-- a logged-on initiator, interval 2 s, last inbound frame at t0 = 100 000 ms -/
def c0 : Conn :=
  { state := st_ACTIVE, role := roleInitiator, wasActive := true, lastTime := 100000, hb := 2, sock := true,
    sess := { sender := "S", target := "T", nextIn := 5, nextOut := 7 } }

def env0 (t : Int) : Env := ⟨t, "20240102-00:00:00.000"⟩

/-- a peer frame of type `ty` numbered `seq` with extra fields -/
def peerMsg (ty seq : String) (extra : List (Nat × String)) : Msg :=
  Msg.ofFields ([(8, "FIX.4.4"), (9, "50"), (35, ty), (49, "T"), (56, "S"), (34, seq), (52, "x")] ++ extra
    ++ [(10, "000")])

theorem c0_up : Up 2 c0 := ⟨rfl, rfl, rfl⟩

/-- One watchdog iteration, ACTIVE, transport up, nothing outstanding, last inbound frame older than
`(h − 1)·1000` ms, the TestRequest can be sent (frame encodable as latin-1, no journal row under the next
number): exactly one frame is written, a TestRequest carrying `TestReqID = ⌊now/1000⌋`; that id is
recorded, `lastTime := now`, the connection stays logged on. -/
theorem testreq_sent_step (env : Env) (h : Int) (c : Conn) (j : Journal) (hu : Up h c) (hh : 1 ≤ h)
    (hn : c.testReqId = none) (hidle : (h - 1) * 1000 < env.now - c.lastTime)
    (hl : frameLatin1 (testReqFrame env c) = true)
    (hj : c.journal.persist .outbound c.sess.nextOut (testReqFrame env c) = some j) :
    ∃ c', tick env c = (c', [.write (testReqFrame env c)]) ∧
      (testReqFrame env c).mtype = mTestRequest ∧
      (testReqFrame env c).get? tTestReqID = some (pyStr (env.now / 1000)) ∧
      c'.testReqId = some (env.now / 1000) ∧ c'.lastTime = env.now ∧ Up h c' := by
  refine ⟨{ sent (armed env c) j with lastTime := env.now }, ?_, rfl,
    frameOf_testReqId env (armed env c) mTestRequest _, rfl, rfl, ⟨hu.active, hu.sock, hu.hb⟩⟩
  rw [tick_none_idle env c hu.sock hu.active hn (by rw [hu.hb]; exact hh) (by rw [hu.hb]; exact hidle), hl, hj]
  rfl

/-- Below the threshold nothing happens at all (no frame, no state change). -/
theorem no_probe_before_threshold (env : Env) (h : Int) (c : Conn) (hu : Up h c) (hh : 1 ≤ h)
    (_hn : c.testReqId = none) (hq : env.now - c.lastTime ≤ (h - 1) * 1000) : tick env c = (c, []) :=
  tick_quiet env c hu.sock hu.active (by rw [hu.hb]; exact hh) (by rw [hu.hb]; exact hq)

/-- `testreq_sent`: nothing received since `t0 = lastTime`, none outstanding, ticks at most `δ` apart that
go on long enough: all ticks up to `t0 + (h−1)·1000` are silent and the first later one – which comes no
later than `t0 + (h−1)·1000 + δ` – writes the TestRequest with `TestReqID = ⌊t/1000⌋` and records it. -/
theorem testreq_sent (sr : Msg → Bool) (h δ : Int) (c : Conn) (envs : List Env) (hu : Up h c) (hh : 1 ≤ h)
    (hn : c.testReqId = none) (hsp : Spaced δ c.lastTime envs)
    (hlong : ∃ e ∈ envs, (h - 1) * 1000 < e.now - c.lastTime)
    (hsend : ∀ e ∈ envs, frameLatin1 (testReqFrame e c) = true ∧
      (c.journal.persist .outbound c.sess.nextOut (testReqFrame e c)).isSome = true) :
    ∃ pre e post c', envs = pre ++ e :: post ∧ run sr c (ticks pre) = (c, []) ∧
      (h - 1) * 1000 < e.now - c.lastTime ∧ e.now ≤ c.lastTime + (h - 1) * 1000 + δ ∧
      tick e c = (c', [.write (testReqFrame e c)]) ∧
      (testReqFrame e c).mtype = mTestRequest ∧
      (testReqFrame e c).get? tTestReqID = some (pyStr (e.now / 1000)) ∧
      c'.testReqId = some (e.now / 1000) ∧ c'.lastTime = e.now ∧ Up h c' := by
  obtain ⟨pre, e, post, hsplit, hrun, _, hb1, hb2⟩ :=
    first_idle_tick sr h δ c hu hh c.lastTime envs hsp (by omega) hlong
  have he : e ∈ envs := by rw [hsplit]; simp
  obtain ⟨hl, hj⟩ := hsend e he
  obtain ⟨j, hj⟩ := Option.isSome_iff_exists.mp hj
  obtain ⟨c', h1, h2, h3, h4, h5, h6⟩ := testreq_sent_step e h c j hu hh hn hb1 hl hj
  exact ⟨pre, e, post, c', hsplit, hrun, hb1, hb2, h1, h2, h3, h4, h5, h6⟩

/-- `h = 1` makes the idle threshold `0`: every tick later than the last inbound frame probes. -/
theorem h1_probes_at_every_tick (env : Env) (c : Conn) (j : Journal) (hu : Up 1 c) (hn : c.testReqId = none)
    (hlater : c.lastTime < env.now) (hl : frameLatin1 (testReqFrame env c) = true)
    (hj : c.journal.persist .outbound c.sess.nextOut (testReqFrame env c) = some j) :
    ∃ c', tick env c = (c', [.write (testReqFrame env c)]) := by
  obtain ⟨c', h1, _⟩ := testreq_sent_step env 1 c j hu (by omega) hn (by omega) hl hj
  exact ⟨c', h1⟩

/-- non-vacuity: `c0` (h = 2, t0 = 100 000), ticks at 100 500 (silent), 101 500 (probe, id 101) -/
example : ∃ pre e post c', [env0 100500, env0 101500] = pre ++ e :: post ∧
    run (fun _ => true) c0 (ticks pre) = (c0, []) ∧ e.now = 101500 ∧
    tick e c0 = (c', [.write (testReqFrame e c0)]) ∧ c'.testReqId = some 101 := by
  obtain ⟨pre, e, post, c', a1, a2, a3, a4, a5, _, _, a8, _⟩ :=
    testreq_sent (fun _ => true) 2 1000 c0 [env0 100500, env0 101500] c0_up (by omega) rfl
      (by simp [Spaced, c0, env0]) ⟨env0 101500, by simp, by simp [c0, env0]⟩ (by decide +kernel)
  have hb : e = env0 101500 := by
    have hm : e ∈ [env0 100500, env0 101500] := by rw [a1]; simp
    simp at hm
    rcases hm with rfl | rfl
    · simp [c0, env0] at a3
    · rfl
  subst hb
  exact ⟨pre, _, post, c', a1, a2, rfl, a5, a8⟩

/-- What a tick does while TestReqID `id` is outstanding (and some frame has been stamped, `lastTime ≠ 0`)
depends on NOTHING but `now − lastTime`, where `lastTime` is the later of the last valid inbound frame
and the moment the TestRequest went out: beyond `2·h·1000` it disconnects (socket closed,
DISCONNECTED_BROKEN_CONN, `on_disconnect`), otherwise it does nothing at all. -/
theorem outstanding_tick (env : Env) (h id : Int) (c : Conn) (ha : Armed h id c) (h0 : id ≠ 0)
    (hL : c.lastTime ≠ 0) :
    (h * 2 * 1000 < env.now - c.lastTime → tick env c = (dropped c, dropEff)) ∧
    (env.now - c.lastTime ≤ h * 2 * 1000 → tick env c = (c, [])) := by
  have ht := tick_outstanding env c id ha.sock ha.active ha.tid h0
  have hb := ha.hb
  constructor
  · intro hx
    rw [ht, if_pos ⟨by omega, Or.inl hL⟩]
  · intro hx
    rw [ht, if_neg (fun hc => by have := hc.1; omega)]

/-- With nothing outstanding a tick never disconnects on ACTIVE: either the last frame is recent or the
idle branch has just sent a TestRequest and stamped `lastTime` (or was aborted by a failing send). -/
theorem no_outstanding_tick_never_disconnects (env : Env) (h : Int) (c : Conn) (hu : Up h c) (hh : 1 ≤ h)
    (hn : c.testReqId = none) : NoDisc (tick env c).2 ∧ Up h (tick env c).1 := by
  by_cases hidle : (h - 1) * 1000 < env.now - c.lastTime
  · obtain ⟨u1, _, n1, _⟩ := tick_none_idle_ctl env h c hu hh hn hidle
    exact ⟨n1, u1⟩
  · rw [no_probe_before_threshold env h c hu hh hn (by omega)]
    exact ⟨NoDisc.nil, hu⟩

/-- `dead_peer_disconnected`: last inbound frame at `t0 = lastTime ≥ 1000`, none outstanding, then
silence; ticks at most `δ` apart that go on beyond `t0 + (3h−1)·1000 + δ`.  Then some tick `e` tears the
connection down, with `t0 + 2h·1000 < e ≤ t0 + (3h−1)·1000 + 2δ` ("about three intervals", slack
explicit) and even `t0 + (3h−1)·1000 < e` when the TestRequest went out; before it the connection stays
logged on, nothing is torn down and at most one frame – a TestRequest – is written.  No assumption that
the TestRequest can be sent: the id is recorded even when `send_msg` raises (then `lastTime` stays `t0`
and the "message last time" test fires `2h` after it). -/
theorem dead_peer_disconnected (sr : Msg → Bool) (h δ : Int) (c : Conn) (envs : List Env) (hh : 1 ≤ h)
    (hδ : 0 ≤ δ) (hu : Up h c) (hn : c.testReqId = none) (ht0 : 1000 ≤ c.lastTime)
    (hsp : Spaced δ c.lastTime envs)
    (hlong : ∃ e ∈ envs, c.lastTime + (3 * h - 1) * 1000 + δ < e.now) :
    ∃ pre e post, envs = pre ++ e :: post ∧
      Up h (run sr c (ticks pre)).1 ∧ NoDisc (run sr c (ticks pre)).2 ∧
      (writes (run sr c (ticks pre)).2).length ≤ 1 ∧
      (∀ f ∈ writes (run sr c (ticks pre)).2, f.mtype = mTestRequest) ∧
      tick e (run sr c (ticks pre)).1 = (dropped (run sr c (ticks pre)).1, dropEff) ∧
      c.lastTime + h * 2 * 1000 < e.now ∧ e.now ≤ c.lastTime + (3 * h - 1) * 1000 + 2 * δ ∧
      (writes (run sr c (ticks pre)).2 ≠ [] → c.lastTime + (3 * h - 1) * 1000 < e.now) := by
  -- ticks up to the idle threshold are silent; the first later one, `e1`, records an id
  have hex1 : ∃ e ∈ envs, (h - 1) * 1000 < e.now - c.lastTime := by
    obtain ⟨e, he, hb⟩ := hlong; exact ⟨e, he, by omega⟩
  obtain ⟨pre1, e1, post1, hsplit, hrun1, hpre, hb1, hb2⟩ :=
    first_idle_tick sr h δ c hu hh c.lastTime envs hsp (by omega) hex1
  obtain ⟨u1, t1, n1, w1, l1, lw, ll⟩ := tick_none_idle_ctl e1 h c hu hh hn hb1
  have hid0 : e1.secs ≠ 0 := secs_ne_zero (by omega)
  have harm : Armed h e1.secs (tick e1 c).1 := ⟨u1, t1⟩
  -- all that the rest needs of the stamped time: it lies between `t0` and the probing tick
  obtain ⟨L, hL⟩ : ∃ L, (tick e1 c).1.lastTime = L := ⟨_, rfl⟩
  rw [hL] at ll lw
  have hlo : c.lastTime ≤ L ∧ L ≤ e1.now := by rcases ll with l | l <;> rw [l] <;> omega
  clear ll
  -- from `e1` on the id is outstanding: silence until the first tick more than `2·h` after `lastTime`
  have hsp2 : Spaced δ e1.now post1 := by rw [hsplit] at hsp; exact hsp.tail
  have hex2 : ∃ e ∈ post1, L + h * 2 * 1000 < e.now := by
    obtain ⟨e, he, hb⟩ := hlong
    rw [hsplit] at he
    rcases List.mem_append.mp he with hm | hm
    · have := hpre e hm; omega
    · rcases List.mem_cons.mp hm with rfl | hm
      · omega
      · exact ⟨e, hm, by omega⟩
  obtain ⟨pre2, e2, post2, hsplit2, hrun2, htick, hc1, hc2⟩ :=
    expiry_tick sr h δ e1.secs hid0 _ harm (by rw [hL]; omega) e1.now post1 hsp2 (by rw [hL]; exact hex2)
  rw [hL] at hc1 hc2
  have hrun : run sr c (ticks (pre1 ++ e1 :: pre2)) = ((tick e1 c).1, (tick e1 c).2) := by
    rw [ticks_append, run_append, hrun1, run_ticks_cons, hrun2]; simp
  refine ⟨pre1 ++ e1 :: pre2, e2, post2, by rw [hsplit, hsplit2]; simp, ?_⟩
  rw [hrun]
  refine ⟨u1, n1, l1, fun f hf => by rw [w1 f hf]; rfl, htick, by omega, by omega, fun hw => ?_⟩
  rw [lw hw] at hc1
  omega

/-- … and the whole run ends DISCONNECTED_BROKEN_CONN with the socket closed exactly once; later ticks
do nothing. -/
theorem dead_peer_final_state (sr : Msg → Bool) (h δ : Int) (c : Conn) (envs : List Env) (hh : 1 ≤ h)
    (hδ : 0 ≤ δ) (hu : Up h c) (hn : c.testReqId = none) (ht0 : 1000 ≤ c.lastTime)
    (hsp : Spaced δ c.lastTime envs)
    (hlong : ∃ e ∈ envs, c.lastTime + (3 * h - 1) * 1000 + δ < e.now) :
    (run sr c (ticks envs)).1.state = st_DISCONNECTED_BROKEN_CONN ∧ (run sr c (ticks envs)).1.sock = false ∧
    ((run sr c (ticks envs)).2.filter (· == .closeSocket)).length = 1 := by
  obtain ⟨pre, e, post, hsplit, _, hnd, _, _, htick, _, _, _⟩ :=
    dead_peer_disconnected sr h δ c envs hh hδ hu hn ht0 hsp hlong
  have hrun : run sr c (ticks envs) =
      (dropped (run sr c (ticks pre)).1, (run sr c (ticks pre)).2 ++ dropEff) := by
    rw [hsplit, ticks_append, run_append, run_ticks_cons, htick, run_ticks_nosock sr _ post rfl]
    simp
  rw [hrun]
  refine ⟨rfl, rfl, ?_⟩
  have h0 : ((run sr c (ticks pre)).2.filter (· == Effect.closeSocket)) = [] := by
    apply List.filter_eq_nil_iff.mpr
    intro x hx hxe
    have := hnd x hx
    have hxe' : x = Effect.closeSocket := by simpa using hxe
    rw [hxe'] at this
    exact Bool.noConfusion this
  rw [List.filter_append, h0]
  decide

/-- non-vacuity: `c0` (h = 2, t0 = 100 000), δ = 1000, ticks every second from 100 500 to 106 500:
probe at 101 500 (id 101, went out), teardown at 106 500, inside (105 000, 107 000]. -/
def silentTicks : List Env :=
  [env0 100500, env0 101500, env0 102500, env0 103500, env0 104500, env0 105500, env0 106500]

example : (run (fun _ => true) c0 (ticks silentTicks)).1.state = st_DISCONNECTED_BROKEN_CONN :=
  (dead_peer_final_state (fun _ => true) 2 1000 c0 silentTicks (by omega) (by omega) c0_up rfl (by decide)
    (by simp [Spaced, silentTicks, c0, env0])
    ⟨env0 106500, by simp [silentTicks], by simp [c0, env0]⟩).1

/-- `live_peer_spared`, the deadline counted from the id.  History of ticks and inbound frames in time order, any
interleaving; every inbound frame is benign; whenever a step records a new TestReqID `id` (at a tick at time
`t`, `id = ⌊t/1000⌋`) the TestRequest went out and no tick later than `id·1000 + 2·h·1000` happens before a
Heartbeat echoing `id` is received (`Live … (fun t => t/1000*1000 + h*2*1000)`).  Then NO event of the
history tears the connection down and it is still logged on at the end.  Neither `δ` nor the tick spacing
matters: a tick reads the clock, so the margin is about tick times only. -/
theorem live_peer_spared (sr : Msg → Bool) (h : Int) (hh : 1 ≤ h) (p : Int) (c : Conn) (evs : List WEv)
    (hu : Up h c) (hn : c.testReqId = none) (hl : Live sr (fun t => t / 1000 * 1000 + h * 2 * 1000) p c evs) :
    Up h (run sr c (hist evs)).1 ∧ NoDisc (run sr c (hist evs)).2 :=
  live_run sr h _ hh (fun t => by show t / 1000 * 1000 + _ ≤ _; omega) p c evs ⟨hu, Or.inl hn⟩ hl

/-- Sufficient margin in terms of latency: every TestRequest sent by a tick at time `t` is echoed before
any tick later than `t + L`, with `L ≤ (2h − 1)·1000` ms.  (DESIGN's `2h·1000 − 1000 − δ` is the special
case `L = (2h−1)·1000 − δ`.) -/
theorem live_peer_spared_latency (sr : Msg → Bool) (h L : Int) (hh : 1 ≤ h) (hL : L ≤ (2 * h - 1) * 1000)
    (p : Int) (c : Conn) (evs : List WEv) (hu : Up h c) (hn : c.testReqId = none)
    (hl : Live sr (fun t => t + L) p c evs) :
    Up h (run sr c (hist evs)).1 ∧ NoDisc (run sr c (hist evs)).2 :=
  live_run sr h _ hh (fun t => by show t + L ≤ _; omega) p c evs ⟨hu, Or.inl hn⟩ hl

/-- non-vacuity: probe at 101 500 (id 101), the peer's echo arrives 3.2 s later (< (2·2−1) s + rounding),
ticks at 102 500 … 104 500 in between: still logged on. -/
def answeredHist : List WEv :=
  [.tick (env0 100500), .tick (env0 101500), .tick (env0 102500), .tick (env0 103500), .tick (env0 104500),
   .recv (env0 104700) (peerMsg "0" "5" [(112, "101")]), .tick (env0 105500)]

theorem answeredHist_live :
    Live (fun _ => true) (fun t => t / 1000 * 1000 + 2 * 2 * 1000) 100000 c0 answeredHist :=
  liveB_sound (by decide +kernel)

example : Up 2 (run (fun _ => true) c0 (hist answeredHist)).1 :=
  (live_peer_spared (fun _ => true) 2 (by omega) 100000 c0 answeredHist c0_up rfl answeredHist_live).1

/-- The property's sentence "a peer that keeps sending valid traffic … is never disconnected by the
watchdog": benign frames in time order such that every tick finds the latest one at most `2·h·1000` ms old
(`Paced`), whether or not the peer ever answers a TestRequest.  Holds after fix e3d9663 (the TestRequest
timeout also requires `lastTime` to be `2·h` old, and the idle branch stamps `lastTime` only when it sends a
TestRequest), which closed the known finding C12-traffic-does-not-answer-testrequest. -/
theorem live_peer_spared_traffic (sr : Msg → Bool) (h : Int) (hh : 1 ≤ h) (c : Conn) (evs : List WEv)
    (hu : Up h c) (hn : c.testReqId = none) (ht0 : 1000 ≤ c.lastTime)
    (hp : Paced (h * 2 * 1000) c.lastTime evs) (hb : BenignRun sr c evs) :
    Up h (run sr c (hist evs)).1 ∧ NoDisc (run sr c (hist evs)).2 := by
  obtain ⟨o, s, n⟩ := paced_run (· = st_ACTIVE) rfl sr h hh evs c.lastTime c hu.on hu.active ht0 (Int.le_refl _)
    (by rw [hn]; exact fun hc => nomatch hc) hp hb
  exact ⟨⟨s, o.sock, o.hb⟩, n⟩

/-- non-vacuity = the former finding's witness: Heartbeats every 2 s (h = 2), the TestRequest of 101 500 is
never answered, ticks every second – still logged on after 105 500 -/
def heartbeatingPeer : List WEv :=
  [.tick (env0 100500), .tick (env0 101500), .recv (env0 102000) (peerMsg "0" "5" []),
   .tick (env0 102500), .tick (env0 103500), .recv (env0 104000) (peerMsg "0" "6" []),
   .tick (env0 104500), .tick (env0 105500)]

example : Up 2 (run (fun _ => true) c0 (hist heartbeatingPeer)).1 :=
  (live_peer_spared_traffic (fun _ => true) 2 (by omega) c0 heartbeatingPeer c0_up rfl (by decide)
    (by simp [Paced, heartbeatingPeer, c0, env0]) (benignRunB_sound (by decide +kernel))).1

/-- Below the idle threshold: when every tick finds the latest inbound frame at most `(h − 1)·1000` ms old
(`Fresh`), no TestRequest is ever sent (the only frames written are Heartbeats answering inbound
TestRequests), nothing is outstanding at the end, and nothing is torn down.  For `h = 1` that needs a frame
at the instant of every tick. -/
theorem fresh_traffic_never_probed (sr : Msg → Bool) (h : Int) (hh : 1 ≤ h) (c : Conn) (evs : List WEv)
    (hu : Up h c) (hn : c.testReqId = none) (hf : Fresh h c.lastTime evs) (hb : BenignRun sr c evs) :
    Up h (run sr c (hist evs)).1 ∧ (run sr c (hist evs)).1.testReqId = none ∧
    NoDisc (run sr c (hist evs)).2 ∧ (∀ f ∈ writes (run sr c (hist evs)).2, f.mtype = mHeartbeat) :=
  fresh_run sr h hh c evs hu hn hf hb

/-- non-vacuity (h = 2): frames every 900 ms, ticks in between -/
def chattyHist : List WEv :=
  [.tick (env0 100500), .recv (env0 100900) (peerMsg "0" "5" []), .tick (env0 101500),
   .recv (env0 101800) (peerMsg "D" "6" [(11, "x")]), .tick (env0 102500),
   .recv (env0 102700) (peerMsg "1" "7" [(112, "abc")]), .tick (env0 103500)]

example : Fresh 2 c0.lastTime chattyHist ∧ BenignRun (fun _ => true) c0 chattyHist := by
  constructor
  · simp [Fresh, chattyHist, c0, env0]
  · exact benignRunB_sound (by decide +kernel)

/-- The watchdog in the connected states other than ACTIVE (RESENDREQ_AWAITING while a replay is awaited,
RESENDREQ_HANDLING, RECV_SEQNUM_TOO_HIGH, …): it never probes, and as long as the last ACCEPTED frame is at
most `2·hb·1000` ms old it does nothing at all. -/
theorem non_active_tick_recent (env : Env) (c : Conn) (hs : c.sock = true) (hna : c.state ≠ st_ACTIVE)
    (h3 : c.state > st_DISCONNECTED_BROKEN_CONN) (hrec : env.now - c.lastTime ≤ c.hb * 2 * 1000) :
    tick env c = (c, []) := by
  rw [tick_no_probe env c hs h3 (Or.inl hna), if_neg (fun hc => by have := hc.1; omega)]

/-- `live_peer_spared_traffic` in every logged-on state (`On`: state ≥ LOGON_INITIAL_RECV, transport up,
resend watermark consistent): benign = accepted frames (e.g. the PossDup replay after our ResendRequest)
at least every `2·h·1000` ms keep the connection; RESENDREQ_AWAITING may become ACTIVE on the way.  Frames
numbered too high are NOT accepted while a resend is awaited and do not count. -/
theorem live_peer_spared_traffic_any_state (sr : Msg → Bool) (h : Int) (hh : 1 ≤ h) (c : Conn) (evs : List WEv)
    (ho : On h c) (hn : c.testReqId = none) (ht0 : 1000 ≤ c.lastTime)
    (hp : Paced (h * 2 * 1000) c.lastTime evs) (hb : BenignRun sr c evs) :
    On h (run sr c (hist evs)).1 ∧ NoDisc (run sr c (hist evs)).2 := by
  obtain ⟨o, _, n⟩ := paced_run (fun _ => True) trivial sr h hh evs c.lastTime c ho trivial ht0 (Int.le_refl _)
    (by rw [hn]; exact fun hc => nomatch hc) hp hb
  exact ⟨o, n⟩

/-- non-vacuity: RESENDREQ_AWAITING up to number 7 (h = 2); the peer replays 5, 6, 7 as PossDup frames
3.5 s apart (the whole replay takes > 2·h), ticks every second: nothing is torn down, ACTIVE at the end -/
def c0await : Conn := { c0 with state := st_RESENDREQ_AWAITING, maxResend := 7 }

def replayHist : List WEv :=
  [.tick (env0 101000), .tick (env0 102000), .tick (env0 103000),
   .recv (env0 103500) (peerMsg "D" "5" [(43, "Y"), (11, "a")]), .tick (env0 104000), .tick (env0 105000),
   .tick (env0 106000), .tick (env0 107000), .recv (env0 107000) (peerMsg "D" "6" [(43, "Y"), (11, "b")]),
   .tick (env0 108000), .tick (env0 109000), .tick (env0 110000),
   .recv (env0 110500) (peerMsg "D" "7" [(43, "Y"), (11, "c")]), .tick (env0 111000)]

example : NoDisc (run (fun _ => true) c0await (hist replayHist)).2 ∧
    (run (fun _ => true) c0await (hist replayHist)).1.state = st_ACTIVE :=
  ⟨(live_peer_spared_traffic_any_state (fun _ => true) 2 (by omega) c0await replayHist
      ⟨by decide, rfl, rfl, fun _ => by decide⟩ rfl (by decide)
      (by simp [Paced, replayHist, c0await, c0, env0]) (benignRunB_sound (by decide +kernel))).2,
   by decide +kernel⟩

/-- … and with frames numbered TOO HIGH interleaved at any time (`stray`: Heartbeats, TestRequests,
application frames with a sequence gap; they are dispatched – an echo still clears the TestReqID, outside
RESENDREQ_AWAITING a ResendRequest goes out – but not accepted, so they neither count as traffic nor hurt) and
with ignored ResendRequests among the accepted frames (`Benign` admits them). -/
theorem live_peer_spared_traffic_wide (sr : Msg → Bool) (h : Int) (hh : 1 ≤ h) (c : Conn) (evs : List XEv)
    (ho : On h c) (hn : c.testReqId = none) (ht0 : 1000 ≤ c.lastTime)
    (hp : PacedX (h * 2 * 1000) c.lastTime evs) (hb : TolerableRun sr c evs) :
    On h (run sr c (xhist evs)).1 ∧ NoDisc (run sr c (xhist evs)).2 := by
  obtain ⟨o, _, n⟩ := paced_run_wide (fun _ => True) trivial sr h hh evs (Or.inl trivial) c.lastTime c ho trivial
    ht0 (Int.le_refl _) (by rw [hn]; exact fun hc => nomatch hc) hp hb
  exact ⟨o, n⟩

/-- non-vacuity (h = 2, from ACTIVE): probe at 101 500; the echo arrives numbered 2 too high (→ ResendRequest,
RESENDREQ_AWAITING, id cleared); a ResendRequest for numbers never sent and the peer's GapFill-less replay
follow; ticks every second -/
def wideHist : List XEv :=
  [.tick (env0 100500), .tick (env0 101500), .stray (env0 101700) (peerMsg "0" "7" [(112, "101")]),
   .tick (env0 102500), .recv (env0 103000) (peerMsg "D" "5" [(43, "Y"), (11, "a")]), .tick (env0 103500),
   .recv (env0 104000) (peerMsg "2" "6" [(7, "0"), (16, "0")]), .tick (env0 104500), .tick (env0 105500),
   .stray (env0 105600) (peerMsg "1" "9" [(112, "Q")]), .tick (env0 106500),
   .recv (env0 107000) (peerMsg "D" "7" [(43, "Y"), (11, "b")]), .tick (env0 107500)]

example : NoDisc (run (fun _ => true) c0 (xhist wideHist)).2 ∧
    (run (fun _ => true) c0 (xhist wideHist)).1.state = st_ACTIVE ∧
    (run (fun _ => true) c0 (xhist wideHist)).1.testReqId = none :=
  ⟨(live_peer_spared_traffic_wide (fun _ => true) 2 (by omega) c0 wideHist c0_up.on rfl (by decide)
      (by simp [PacedX, wideHist, c0, env0]) (tolerableRunB_sound (by decide +kernel))).2,
   by decide +kernel⟩

/-- `testrequest_echoed`: a valid in-sequence TestRequest on a logged-on connection, reply sendable:
exactly one frame is written, a Heartbeat carrying the request's TestReqID – `"0"` when the request has
none. -/
theorem testrequest_echoed (sr : Msg → Bool) (env : Env) (h : Int) (c : Conn) (m : Msg) (j : Journal)
    (hu : Up h c) (hi : InSeq c m) (hm : m.mtype = mTestRequest)
    (hl : frameLatin1 (frameOf env c (echoMsg m)) = true)
    (hj : c.journal.persist .outbound c.sess.nextOut (frameOf env c (echoMsg m)) = some j) :
    writes (recv sr env c m).2 = [frameOf env c (echoMsg m)] ∧
    (frameOf env c (echoMsg m)).mtype = mHeartbeat ∧
    (frameOf env c (echoMsg m)).get? tTestReqID = some ((m.get? tTestReqID).getD "0") ∧
    NoDisc (recv sr env c m).2 := by
  rw [recv_testrequest sr env h c m hu.on hi hm, sendMsg_on_frame env c (echoMsg m) (active_ge8 hu.active) hu.sock
    (heartbeatMsg_plain _) rfl, hl, hj]
  obtain ⟨_, _, _, _, _, f6, f7⟩ := finalized_ctl env (sent c j) m (active_ne_awaiting hu.active)
  refine ⟨?_, rfl, frameOf_testReqId env c mHeartbeat _, ?_⟩
  · simp [f7, writes, caught]
  · exact ((NoDisc.cons rfl NoDisc.nil).append (caught_noDisc _)).append f6

/-- `one_outstanding` (a): `send_test_req()` refuses while an id is recorded – FIXConnectionError, nothing
written, nothing changed. -/
theorem one_outstanding_send_refused (env : Env) (c : Conn) (id : Int) (ht : c.testReqId = some id) :
    appTestReq env c = (c, [.raised .connection]) := by
  simp [appTestReq, M.run, sendTestReq_apply, ht]

/-- `one_outstanding` (b): while a (truthy) id is outstanding the watchdog writes nothing, whatever the
times are – in particular never a second TestRequest. -/
theorem one_outstanding_tick_silent (env : Env) (h id : Int) (c : Conn) (ha : Armed h id c)
    (h0 : id ≠ 0) : writes (tick env c).2 = [] := by
  rw [tick_outstanding env c id ha.sock ha.active ha.tid h0]
  split <;> rfl

/-- `wrong_id_logout`: a valid in-sequence Heartbeat whose TestReqID reads as a different number (a
non-numeric one reads as 0) while `tid` is outstanding, Logout sendable: a Logout carrying the reason
text is written, then the socket is closed, the state becomes DISCONNECTED_BROKEN_CONN and
`on_disconnect` is called; the watchdog fields stay reset (fix 5623bd4: no stale receive time). -/
theorem wrong_id_logout (sr : Msg → Bool) (env : Env) (h tid : Int) (c : Conn) (m : Msg) (v : String)
    (j : Journal) (ha : Armed h tid c) (hi : InSeq c m) (hm : m.mtype = mHeartbeat)
    (hv : m.get? tTestReqID = some v) (hne : (pyInt v).getD 0 ≠ tid)
    (hl : frameLatin1 (frameOf env (cleared c) (logoutMsg wrongIdText)) = true)
    (hj : c.journal.persist .outbound c.sess.nextOut (frameOf env (cleared c) (logoutMsg wrongIdText)) = some j) :
    ∃ f rest, (recv sr env c m).2 = .write f :: .closeSocket :: .onState st_DISCONNECTED_BROKEN_CONN ::
        .onDisconnect :: rest ∧
      f.mtype = mLogout ∧ f.get? tText = some wrongIdText ∧ writes rest = [] ∧
      (recv sr env c m).1.state = st_DISCONNECTED_BROKEN_CONN ∧ (recv sr env c m).1.sock = false ∧
      (recv sr env c m).1.testReqId = none ∧ (recv sr env c m).1.lastTime = 0 := by
  rw [recv_heartbeat_wrong sr env c m tid v j ha.active ha.sock hi hm ha.tid hv hne hl hj]
  obtain ⟨f1, f2, _, f4, _, _, f7⟩ := finalized_ctl env (dropped (sent c j)) m
    (by show st_DISCONNECTED_BROKEN_CONN ≠ st_RESENDREQ_AWAITING; decide)
  exact ⟨_, _, rfl, rfl, frameOf_text env (cleared c) mLogout wrongIdText, f7, f1, f2, f4,
    finalized_lastTime_down env (dropped (sent c j)) m rfl⟩

/-- `right_id_clears`: the echo of the outstanding id clears it; nothing written, still logged on. -/
theorem right_id_clears (sr : Msg → Bool) (env : Env) (h tid : Int) (c : Conn) (m : Msg) (v : String)
    (ha : Armed h tid c) (hi : InSeq c m) (hm : m.mtype = mHeartbeat)
    (hv : m.get? tTestReqID = some v) (he : (pyInt v).getD 0 = tid) :
    (recv sr env c m).1.testReqId = none ∧ Up h (recv sr env c m).1 ∧ (recv sr env c m).1.lastTime = env.now ∧
    writes (recv sr env c m).2 = [] ∧ NoDisc (recv sr env c m).2 := by
  have hb : Benign c m := ⟨hi, Or.inl (heartbeat_routine hm), fun _ tid' v' ht' hv' => by
    rw [ha.tid] at ht'; rw [hv] at hv'; cases ht'; cases hv'; exact he⟩
  obtain ⟨u1, l1, t1, n1, _, q1⟩ := recv_benign sr env h c m ha.toUp hb
  exact ⟨t1.trans (if_pos (echoes_true hm ha.tid hv)), u1, l1, q1 (by rw [hm]; decide), n1⟩

/-- `heartbeat_without_id_ignored`: an interval Heartbeat leaves the outstanding id alone. -/
theorem heartbeat_without_id_ignored (sr : Msg → Bool) (env : Env) (h tid : Int) (c : Conn) (m : Msg)
    (ha : Armed h tid c) (hi : InSeq c m) (hm : m.mtype = mHeartbeat) (hv : m.get? tTestReqID = none) :
    Armed h tid (recv sr env c m).1 ∧ (recv sr env c m).1.lastTime = env.now ∧
    writes (recv sr env c m).2 = [] ∧ NoDisc (recv sr env c m).2 := by
  have hb : Benign c m := ⟨hi, Or.inl (heartbeat_routine hm), fun _ _ v' _ hv' => by rw [hv] at hv'; cases hv'⟩
  obtain ⟨u1, l1, t1, n1, _, q1⟩ := recv_benign sr env h c m ha.toUp hb
  exact ⟨⟨u1, t1.trans (by rw [echoes_false (.inr (.inr hv))]; exact ha.tid)⟩, l1, q1 (by rw [hm]; decide), n1⟩

/-- an inbound ResendRequest for numbers never sent (BeginSeqNo < 1 or ≥ `next_num_out`) is ignored and
leaves the session ACTIVE – the watchdog goes on probing –, and it counts as a received frame. -/
theorem ignored_resend_request_keeps_active (sr : Msg → Bool) (env : Env) (h : Int) (c : Conn) (m : Msg)
    (hu : Up h c) (hi : InSeq c m) (hig : IgnoredResend c m) :
    Up h (recv sr env c m).1 ∧ (recv sr env c m).1.lastTime = env.now ∧
    (recv sr env c m).1.testReqId = c.testReqId ∧ NoDisc (recv sr env c m).2 := by
  have hb : Benign c m := ⟨hi, Or.inr hig, fun hm => by rw [hig.1] at hm; exact absurd hm (by decide)⟩
  obtain ⟨u1, l1, t1, n1, _⟩ := recv_benign sr env h c m hu hb
  have hech : echoes c m = false := echoes_false (.inl (by rw [hig.1]; decide))
  exact ⟨u1, l1, by rw [t1, hech]; rfl, n1⟩

/-- the echo of the outstanding TestRequest arriving with a sequence GAP (numbered too high) still clears it;
the connection asks for the missing frames (the first frame written is the ResendRequest; state
RESENDREQ_AWAITING); the echo itself is not accepted, `lastTime` stays. -/
theorem echo_with_gap_clears (sr : Msg → Bool) (env : Env) (h tid : Int) (c : Conn) (m : Msg) (v : String)
    (j : Journal) (ha : Armed h tid c) (hg : GapFrame c m) (hm : m.mtype = mHeartbeat)
    (hv : m.get? tTestReqID = some v) (n : Int) (hn : (m.get? tMsgSeqNum).bind pyInt = some n)
    (hl : frameLatin1 (frameOf env { c with maxResend := n } (resendReqMsg c)) = true)
    (hj : c.journal.persist .outbound c.sess.nextOut (frameOf env { c with maxResend := n } (resendReqMsg c)) = some j) :
    (recv sr env c m).1.testReqId = none ∧ (recv sr env c m).1.state = st_RESENDREQ_AWAITING ∧
    (recv sr env c m).1.lastTime = c.lastTime ∧ NoDisc (recv sr env c m).2 ∧
    ∃ e3, (recv sr env c m).2 = [.write (frameOf env { c with maxResend := n } (resendReqMsg c)),
      .onState st_RESENDREQ_AWAITING] ++ e3 := by
  obtain ⟨vs, hvs, hp⟩ := bind_pyInt hn
  obtain ⟨n', hn', hlt⟩ := hg.seq
  have hnn : n' = n := by rw [hn] at hn'; exact (Option.some.inj hn').symm
  subst hnn
  have h8 := active_ge8 ha.active
  have hsend := sendMsg_on_frame env { c with maxResend := n' } (resendReqMsg c) h8 ha.sock (resendRequestMsg_plain _) rfl
  rw [show ({ c with maxResend := n' } : Conn).journal = c.journal from rfl,
    show ({ c with maxResend := n' } : Conn).sess = c.sess from rfl, hl, hj] at hsend
  obtain ⟨c3, e3, hrecv, d⟩ := recv_gap_via sr env h hg hvs hp hlt h8
    (c2 := setState (sent { c with maxResend := n' } j) st_RESENDREQ_AWAITING)
    ⟨(by show 8 ≤ st_RESENDREQ_AWAITING; decide), ha.sock, ha.hb, fun _ => (by show 0 < n'; have := hg.pos; omega)⟩
    rfl (checkSeqnumGaps_ask hlt (by rw [ha.active]; decide) hsend)
  rw [hrecv]
  exact ⟨d.testReqId.trans (if_pos (echoes_true hm ha.tid hv)), d.sameState hg.routine, d.lastTime,
    NoDisc.append (NoDisc.cons rfl (NoDisc.cons rfl NoDisc.nil)) d.noDisc, e3, rfl⟩

/-- non-vacuity of the step lemmas' hypotheses on `c0` with id 101 outstanding -/
def c0armed : Conn := { c0 with testReqId := some 101, lastTime := 101500 }

example : Armed 2 101 c0armed ∧ InSeq c0armed (peerMsg "0" "5" [(112, "abc")]) ∧
    (pyInt "abc").getD 0 ≠ 101 ∧
    frameLatin1 (frameOf (env0 102000) (cleared c0armed) (logoutMsg wrongIdText)) = true ∧
    (c0armed.journal.persist .outbound c0armed.sess.nextOut
      (frameOf (env0 102000) (cleared c0armed) (logoutMsg wrongIdText))).isSome = true := by
  refine ⟨⟨⟨rfl, rfl, rfl⟩, rfl⟩, inSeqB_sound ?_, ?_, ?_, ?_⟩ <;> decide +kernel

end AsyncFix.Props.C12
