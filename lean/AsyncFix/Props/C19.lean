/-
C19 — field value validation matches the FIX datatype lexical spaces.

`validateValue` (Model/Lexical.lean) mirrors `SchemaField.validate_value` of /repo @ 0ab7cae on top of
models of CPython's int() / float() / re / strptime; `LexSpec` holds the lexical spaces of the FIX 4.4
datatype table, written independently.  All theorems quantify over ALL strings (lists of code
points) and all interpreter settings `cfg`; they are proved by structural reasoning about the
recognisers and the backtracking matcher (Lemmas/Lex*.lean), not by enumeration.

  impl_iff               accepted ↔ (in the lexical space ∧ ¬ narrow) ∨ deviation      every branch with a SPEC (`specOf`)
  spec_accepted_partial  in the lexical space → ¬ narrow → accepted
  boolean_exact, code_exact, data_exact      plain ↔ where implementation = spec
  enum_exact             enumerated fields accept exactly the enumerators (value not split)
  multi_enum_exact       enumerated MultipleValueString: exactly the blank-delimited lists of enumerators
  error_kind             nothing but the library's FIXMessageError ever escapes

`narrow` / `deviation` (Model/LexClass.lean) are explicit decidable predicates = the open findings:
digit limit of int(), float overflow, '=' in String/char, year 0000, second 60 (too narrow);
six fraction digits (too wide).  The unvalidated Length (too wide as well) shares the unchecked branch with
data, which `specOf` leaves out: `length_accepts_everything`.  The full-strength statement `C19_full` is kept
as a `def`; `Findings/C19.lean` refutes it with the witnesses the harness replays.
-/
import AsyncFix.Lemmas.LexStr
import AsyncFix.Lemmas.LexFloat
import AsyncFix.Lemmas.LexTime
namespace AsyncFix.Props.C19
open AsyncFix.Py AsyncFix.Model AsyncFix.Model.Lexical AsyncFix.Model.LexClass
open AsyncFix.Model.LexSpec hiding Str
open AsyncFix.Lemmas

/-- a schema field without enumerators -/
def plain (tag16 : Bool) (t : FType) : Field := { tag16 := tag16, ftype := t, values := [] }

/-- `validate_value` returns True -/
def accepted (cfg : Cfg) (tag16 : Bool) (t : FType) (s : Str) : Prop :=
  validateValue cfg (plain tag16 t) (.str s) = .ok

/-- the FIX datatype a dispatch branch of `validate_value` implements (DATA and LENGTH share the
unchecked branch and are treated separately; unsupported type names have no SPEC) -/
def specOf : FType → Option DType
  | .int => some .int | .posInt => some .posInt | .dayOfMonth => some .dayOfMonth
  | .float => some .float | .string => some .string | .char => some .char | .boolean => some .boolean
  | .code n => if n = 0 then none else some (.code n)
  | .date => some .date | .timestamp => some .timestamp | .timeOnly => some .timeOnly
  | .monthYear => some .monthYear
  | .unchecked => none | .unsupported => none

/-- the type dispatch, per branch: passes ↔ (lexical ∧ ¬ narrow) ∨ deviation -/
theorem typed_iff (cfg : Cfg) {t : FType} {dt : DType} (h : specOf t = some dt) (s : Str) :
    validateTyped cfg t s = .pass ↔
      (lexical dt s = true ∧ narrow cfg t s = false) ∨ deviation cfg t s = true := by
  cases t <;> simp only [specOf, Option.some.injEq, reduceCtorEq] at h
  case int => subst h; simpa [lexical, narrow, deviation] using LexInt.int_pass_iff cfg s
  case posInt => subst h; simpa [lexical, narrow, deviation] using LexInt.posInt_pass_iff cfg s
  case dayOfMonth => subst h; simpa [lexical, narrow, deviation] using LexInt.dayOfMonth_pass_iff cfg s
  case float => subst h; simpa [lexical, narrow, deviation] using LexFloat.float_pass_iff cfg s
  case string => subst h; simpa [lexical, narrow, deviation] using LexStr.string_pass_iff cfg s
  case char => subst h; simpa [lexical, narrow, deviation] using LexStr.char_pass_iff cfg s
  case boolean => subst h; simpa [lexical, narrow, deviation] using LexStr.boolean_pass_iff cfg s
  case code n =>
    by_cases hn : n = 0
    · simp [hn] at h
    · simp only [hn, ↓reduceIte, Option.some.injEq] at h
      subst h; simpa [lexical, narrow, deviation] using LexStr.code_pass_iff cfg n hn s
  case date => subst h; simpa [validateTyped, lexical, narrow, deviation] using LexDate.date_pass_iff s
  case timestamp =>
    subst h
    have := LexTime.timestamp_pass_iff cfg s
    simpa [validateTyped, lexical, narrow] using this
  case timeOnly =>
    subst h
    have := LexTime.timeOnly_pass_iff cfg s
    simpa [validateTyped, lexical, narrow] using this
  case monthYear => subst h; simpa [validateTyped, lexical, narrow, deviation] using LexDate.monthYear_pass_iff s

theorem validateDatetime_not_raised (s : Str) (fmt : List Dir) (k : String) :
    validateDatetime s fmt ≠ .raised k := by
  unfold validateDatetime
  simp only []
  repeat' split
  all_goals simp

theorem validateMonthYear_not_raised (s : Str) (k : String) : validateMonthYear s ≠ .raised k := by
  unfold validateMonthYear
  simp only []
  repeat' split
  all_goals first | exact validateDatetime_not_raised _ _ _ | simp

theorem validateTyped_not_raised (cfg : Cfg) (t : FType) (s : Str) (hs : s ≠ []) (k : String) :
    validateTyped cfg t s ≠ .raised k := by
  cases t <;> simp only [validateTyped]
  case int | posInt | dayOfMonth => exact LexInt.validateNumber_int_not_raised _ _ _ _ hs _
  case float => exact LexFloat.validateNumber_float_not_raised _ hs _
  case string | char | boolean | code => exact LexStr.validateStr_not_raised _ _ _ _ hs _
  case date | timestamp | timeOnly => exact validateDatetime_not_raised _ _ _
  case monthYear => exact validateMonthYear_not_raised _ _
  all_goals simp

/-- `validate_value` on a `str` answers True or raises FIXMessageError, by one test: the value is not empty, and
an enumerated field finds it (or each of its blank-separated parts) among the enumerators, any other field has
it passed by the validator of its type, EndSeqNo = "0" aside.  What the helpers could raise never gets here. -/
theorem validateValue_str (cfg : Cfg) (f : Field) (s : Str) :
    validateValue cfg f (.str s) =
      if s ≠ [] ∧
        (if f.values.isEmpty then (f.tag16 && s == [48]) || validateTyped cfg f.ftype s == .pass
         else if f.multi then (splitBlank s).all f.values.contains else f.values.contains s) = true
      then .ok else .fme := by
  by_cases hs : s = []
  · subst hs; rfl
  have he : s.isEmpty = false := by cases s <;> simp_all
  have hnr := validateTyped_not_raised cfg f.ftype s hs
  unfold validateValue specialCases
  simp only [he, Bool.false_eq_true, if_false, hs, ne_eq, not_false_eq_true, true_and]
  cases f.values.isEmpty
  · rfl
  · cases hv : validateTyped cfg f.ftype s with
    | raised k => exact absurd hv (hnr k)
    | pass => cases f.tag16 && s == [48] <;> rfl
    | err => cases f.tag16 && s == [48] <;> rfl

theorem ok_ite {c : Prop} [Decidable c] : (if c then Res.ok else Res.fme) = .ok ↔ c := by
  split <;> simp [*]

theorem ite_not_raised {c : Prop} [Decidable c] (k : String) : (if c then Res.ok else Res.fme) ≠ .raised k := by
  split <;> simp

theorem validateValue_typed (cfg : Cfg) (tag16 : Bool) (t : FType) (s : Str) :
    accepted cfg tag16 t s ↔ s ≠ [] ∧ ((tag16 = true ∧ s = [48]) ∨ validateTyped cfg t s = .pass) := by
  unfold accepted plain
  rw [validateValue_str, ok_ite]; simp

theorem lexical_ne_nil {dt : DType} {s : Str} (h : lexical dt s = true) : s ≠ [] := by
  rintro rfl
  cases dt <;> simp [lexical, isInt, isPositiveInt, isDayOfMonth, digits, isFloat, isUnsignedFloat, isString,
    isChar, isBoolean, isCode, isDate, isTimestamp, isTimeOnly, isHMS, isMonthYear, isYearMonth, isData] at h

theorem deviation_ne_nil {cfg : Cfg} {t : FType} {s : Str} (h : deviation cfg t s = true) : s ≠ [] := by
  rintro rfl
  cases t <;> simp [deviation, sixFractionDigits] at h

/-- "0" is in nobody's too-narrow set (needed for EndSeqNo = 0) -/
theorem narrow_zero (cfg : Cfg) (t : FType) : narrow cfg t [48] = false := by
  cases t <;> first | rfl | simp [narrow, overDigitLimit, digitLimitOk, dropMinus, hasEquals, year0000, second60]

/-- **C19, main theorem.**  For every datatype branch with a SPEC, every interpreter setting, tag
(16 or not) and string: validation accepts ↔ the string is in the field's lexical space and not in
the explicit too-narrow set, or it is in the explicit too-wide set. -/
theorem impl_iff (cfg : Cfg) (tag16 : Bool) {t : FType} {dt : DType} (h : specOf t = some dt) (s : Str) :
    accepted cfg tag16 t s ↔
      (fieldLexical tag16 dt s = true ∧ narrow cfg t s = false) ∨ deviation cfg t s = true := by
  rw [validateValue_typed, typed_iff cfg h]
  unfold fieldLexical
  constructor
  · rintro ⟨-, (⟨rfl, rfl⟩ | h1)⟩
    · exact Or.inl ⟨by simp, narrow_zero cfg t⟩
    · rcases h1 with ⟨h1, h2⟩ | h1
      · exact Or.inl ⟨by simp [h1], h2⟩
      · exact Or.inr h1
  · rintro (⟨h1, h2⟩ | h1)
    · simp only [Bool.or_eq_true, Bool.and_eq_true, beq_iff_eq] at h1
      rcases h1 with ⟨rfl, rfl⟩ | h1
      · exact ⟨by simp, Or.inl ⟨rfl, rfl⟩⟩
      · exact ⟨lexical_ne_nil h1, Or.inr (Or.inl ⟨h1, h2⟩)⟩
    · exact ⟨deviation_ne_nil h1, Or.inr (Or.inr h1)⟩

/-- code points of an ASCII literal (for the examples) -/
def cps (s : String) : Str := s.toList.map Char.toNat

/- non-vacuity of `impl_iff`: all three situations occur (accepted in the space; in the space but
too narrow; outside but too wide), and EndSeqNo = "0" is accepted through the tag-16 clause -/
example : specOf .timestamp = some .timestamp ∧
    fieldLexical false .timestamp (cps "20240229-23:59:59.123") = true ∧
    narrow {} .timestamp (cps "20240229-23:59:59.123") = false ∧
    accepted {} false .timestamp (cps "20240229-23:59:59.123") := by
  refine ⟨rfl, ?_, ?_, ?_⟩ <;> first | (unfold accepted; decide +kernel) | decide +kernel
example : fieldLexical false .timestamp (cps "20240229-23:59:60") = true ∧
    narrow {} .timestamp (cps "20240229-23:59:60") = true := by decide +kernel
example : deviation {} .timeOnly (cps "14:00:00.123456") = true := by decide +kernel
example : fieldLexical true .posInt (cps "0") = true ∧ fieldLexical false .posInt (cps "0") = false ∧
    accepted {} true .posInt (cps "0") := by
  refine ⟨?_, ?_, ?_⟩ <;> first | (unfold accepted; decide +kernel) | decide +kernel

/-- every member of the lexical space is accepted, except the explicit too-narrow set -/
theorem spec_accepted_partial (cfg : Cfg) (tag16 : Bool) {t : FType} {dt : DType} (h : specOf t = some dt)
    (s : Str) (hs : fieldLexical tag16 dt s = true) (hn : narrow cfg t s = false) :
    accepted cfg tag16 t s :=
  (impl_iff cfg tag16 h s).2 (Or.inl ⟨hs, hn⟩)

/- non-vacuity of `spec_accepted_partial`: a leap day -/
example : fieldLexical false .date (cps "20240229") = true ∧ narrow {} .date (cps "20240229") = false := by
  decide +kernel

/-- everything accepted is in the lexical space, except the explicit too-wide set -/
theorem accepted_spec_partial (cfg : Cfg) (tag16 : Bool) {t : FType} {dt : DType} (h : specOf t = some dt)
    (s : Str) (ha : accepted cfg tag16 t s) (hd : deviation cfg t s = false) :
    fieldLexical tag16 dt s = true := by
  rcases (impl_iff cfg tag16 h s).1 ha with ⟨h1, -⟩ | h1
  · exact h1
  · rw [hd] at h1; cases h1

/-- Full statement of C19's first sentence (false on the current tree: see Findings/C19.lean). -/
def C19_full : Prop :=
  ∀ (cfg : Cfg) (tag16 : Bool) (t : FType) (dt : DType), specOf t = some dt →
    ∀ s, accepted cfg tag16 t s ↔ fieldLexical tag16 dt s = true

theorem boolean_exact (cfg : Cfg) (tag16 : Bool) (s : Str) :
    accepted cfg tag16 .boolean s ↔ fieldLexical tag16 .boolean s = true := by
  rw [impl_iff cfg tag16 (dt := .boolean) rfl]
  simp [narrow, deviation]

/-- Country (2), Currency (3), Exchange (4) -/
theorem code_exact (cfg : Cfg) (tag16 : Bool) (n : Nat) (hn : n ≠ 0) (s : Str) :
    accepted cfg tag16 (.code n) s ↔ fieldLexical tag16 (.code n) s = true := by
  rw [impl_iff cfg tag16 (dt := .code n) (by simp [specOf, hn])]
  simp [narrow, deviation]

/-- data: anything non-empty -/
theorem data_exact (cfg : Cfg) (tag16 : Bool) (s : Str) :
    accepted cfg tag16 .unchecked s ↔ fieldLexical tag16 .data s = true := by
  rw [validateValue_typed]
  cases s <;> simp [validateTyped, fieldLexical, lexical, isData]

/-- Length (same branch as data): NOT validated — accepted ↔ non-empty (finding C19-length:unvalidated) -/
theorem length_accepts_everything (cfg : Cfg) (tag16 : Bool) (s : Str) :
    accepted cfg tag16 .unchecked s ↔ s ≠ [] := by
  rw [validateValue_typed]
  cases s <;> simp [validateTyped]

/-- the too-wide set is empty except for times -/
theorem deviation_only_times (cfg : Cfg) (t : FType) (s : Str) (h : deviation cfg t s = true) :
    t = .timeOnly ∨ t = .timestamp := by
  cases t <;> simp [deviation] at h ⊢

/-- an enumerated field of any type other than MultipleValueString accepts exactly its enumerators (whatever
its type and tag); the value is NOT split -/
theorem enum_exact (cfg : Cfg) (tag16 : Bool) (t : FType) (values : List Str) (hv : values ≠ [])
    (hne : [] ∉ values) (s : Str) :
    validateValue cfg { tag16 := tag16, ftype := t, multi := false, values := values } (.str s) = .ok ↔
      s ∈ values := by
  have hv' : values.isEmpty = false := by cases values <;> simp_all
  rw [validateValue_str, ok_ite]
  simp only [hv', Bool.false_eq_true, if_false, List.contains_iff_mem]
  exact ⟨fun h => h.2, fun h => ⟨fun hs => hne (hs ▸ h), h⟩⟩

theorem splitBlank_cons (s : Str) : ∃ t ts, splitBlank s = t :: ts := by
  induction s with
  | nil => exact ⟨[], [], rfl⟩
  | cons c cs ih =>
    obtain ⟨t, ts, h⟩ := ih
    by_cases hc : c = 32
    · exact ⟨[], splitBlank cs, by simp [splitBlank, hc]⟩
    · exact ⟨c :: t, ts, by simp [splitBlank, hc, h]⟩

/-- `value.split(" ")` with every token tested = the SPEC's walk over the value (accumulator version) -/
theorem memberList_split (members : List Str) (s : Str) :
    ∀ cur t ts, splitBlank s = t :: ts →
      LexSpec.memberList members s cur = (members.contains (cur.reverse ++ t) && ts.all members.contains) := by
  induction s with
  | nil =>
    intro cur t ts h
    simp only [splitBlank, List.cons.injEq] at h
    obtain ⟨rfl, rfl⟩ := h
    simp [LexSpec.memberList]
  | cons c cs ih =>
    intro cur t ts h
    obtain ⟨t', ts', h'⟩ := splitBlank_cons cs
    by_cases hc : c = 32
    · subst hc
      simp only [splitBlank, ↓reduceIte, List.cons.injEq] at h
      obtain ⟨rfl, rfl⟩ := h
      simp only [LexSpec.memberList, beq_self_eq_true, ↓reduceIte, List.append_nil]
      rw [ih [] t' ts' h', h']
      simp
    · have hb : (c == 32) = false := by simpa using hc
      simp only [splitBlank, hc, ↓reduceIte, h', List.cons.injEq] at h
      obtain ⟨rfl, rfl⟩ := h
      simp only [LexSpec.memberList, hb, Bool.false_eq_true, ↓reduceIte]
      rw [ih (c :: cur) t' ts' h']
      simp

/-- an enumerated MultipleValueString field accepts exactly the lists of enumerators delimited by
single blanks (no empty value: leading, trailing or doubled blanks are rejected) -/
theorem multi_enum_exact (cfg : Cfg) (tag16 : Bool) (t : FType) (values : List Str) (hv : values ≠ [])
    (hne : [] ∉ values) (s : Str) :
    validateValue cfg { tag16 := tag16, ftype := t, multi := true, values := values } (.str s) = .ok ↔
      LexSpec.isMemberList values s = true := by
  have hspec : LexSpec.isMemberList values s = (splitBlank s).all values.contains := by
    obtain ⟨t', ts', h'⟩ := splitBlank_cons s
    unfold LexSpec.isMemberList
    rw [memberList_split values s [] t' ts' h', h']
    simp
  have hv' : values.isEmpty = false := by cases values <;> simp_all
  rw [hspec, validateValue_str, ok_ite]
  simp only [hv', Bool.false_eq_true, if_false, if_true]
  refine ⟨fun h => h.2, fun h => ⟨?_, h⟩⟩
  rintro rfl
  simp [splitBlank, hne] at h

example : ([[49], [50]] : List Str) ≠ [] ∧ ([] : Str) ∉ ([[49], [50]] : List Str) ∧
    validateValue {} { tag16 := false, ftype := .char, values := [[49], [50]] } (.str [50]) = .ok ∧
    validateValue {} { tag16 := false, ftype := .char, values := [[49], [50]] } (.str [51]) = .fme ∧
    -- "1 2" : accepted by the MultipleValueString field, rejected (not split) by the char field; "1  2" rejected
    validateValue {} { tag16 := false, ftype := .string, multi := true, values := [[49], [50]] } (.str [49, 32, 50]) = .ok ∧
    validateValue {} { tag16 := false, ftype := .string, multi := false, values := [[49], [50]] } (.str [49, 32, 50]) = .fme ∧
    validateValue {} { tag16 := false, ftype := .string, multi := true, values := [[49], [50]] } (.str [49, 32, 32, 50]) = .fme ∧
    LexSpec.isMemberList [[49], [50]] [49, 32, 50] = true := by
  decide +kernel

theorem specialCases_cases (b : Bool) (s : Str) (prev : VRes) :
    specialCases b s prev = .pass ∨ specialCases b s prev = prev := by
  unfold specialCases; split <;> simp

/-- whatever the field, the setting and the argument (also a non-string): no exception other than
the library's FIXMessageError escapes -/
theorem error_kind (cfg : Cfg) (f : Field) (v : PyVal) (k : String) : validateValue cfg f v ≠ .raised k := by
  cases v with
  | other => simp [validateValue]
  | str s => rw [validateValue_str]; exact ite_not_raised k

/-- every rejection is the library's message error -/
theorem rejection_is_fme (cfg : Cfg) (f : Field) (v : PyVal) (h : validateValue cfg f v ≠ .ok) :
    validateValue cfg f v = .fme := by
  cases hr : validateValue cfg f v with
  | ok => exact absurd hr h
  | fme => rfl
  | raised k => exact absurd hr (error_kind cfg f v k)

end AsyncFix.Props.C19
