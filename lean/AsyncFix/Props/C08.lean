/-
C08 — the journal survives a process crash at any point.

Model: `Model/JournalDB.lean` – every public method of `asyncfix/journaler.py` as a program over
`execute()` / `commit()` calls on a connection `{committed, working, inTx, …}` with the
Python-sqlite3 transaction rules.  A process = `Journaler(file)` followed by an arbitrary list of
calls; it dies after an arbitrary number `k` of execute()/commit() calls (`session file ops k`);
`reopen` = a new `Journaler` on what the file holds.

Trusted (this is the definition of `Conn.crash` / `Conn.commit`): SQLite commits atomically and
process death leaves the last commit.  Proved: the Python-side transaction discipline.
All theorems are for arbitrary `ops : List Op` (any length, any arguments) and arbitrary `k`.
-/
import AsyncFix.Lemmas.JournalCrash
import AsyncFix.Lemmas.JournalFrame
namespace AsyncFix.Props.C08
open AsyncFix.Model.Journal

/-- After a crash at any statement-level point the reopened journal is – concretely, and as the
abstract store of the property text – the journal after a prefix of the calls that contains every
call that returned and at most the one in flight (never part of one); and it is usable (`JInv`). -/
theorem crash_is_op_boundary (file : Journal) (hfile : JInv file) (ops : List Op) (k : Nat) :
    ∃ m, completedOps file ops k ≤ m ∧ m ≤ completedOps file ops k + 1 ∧ m ≤ ops.length ∧
      (reopen (session file ops k).1).working = applyOps file (ops.take m) ∧
      abs (reopen (session file ops k).1).working = (abs file).applyOps (ops.take m) ∧
      JInv (reopen (session file ops k).1).working := by
  obtain ⟨⟨m, h1, h2, h3, h4⟩, -⟩ := session_boundary file ops k
  have hw : (reopen (session file ops k).1).working = applyOps file (ops.take m) := by
    rw [(reopen_spec _).1, h4]
  refine ⟨m, h1, h2, h3, hw, ?_, ?_⟩
  · rw [hw]
    exact applyOps_refines hfile _
  · rw [hw]; exact applyOps_inv _ hfile

/-- Closing the journal normally (every call returned; `__del__` closes cursor and connection,
which drops whatever is uncommitted) loses nothing: a new Journaler sees what the old one saw. -/
theorem close_loses_nothing (file : Journal) (ops : List Op) (k : Nat)
    (hall : (session file ops k).2 = ops.length + 1) :
    (reopen (session file ops k).1).working = (session file ops k).1.working ∧
    (reopen (session file ops k).1).working = applyOps file ops := by
  obtain ⟨-, h⟩ := session_boundary file ops k
  obtain ⟨hw, hcl⟩ := h hall
  rw [(reopen_spec _).1]
  exact ⟨hcl.committed_eq, by rw [hcl.committed_eq, hw]⟩

/-- durability in general: a fact about the abstract journal that a returned call established, and
that every single call keeps unless it is of kind `bad`, holds after a crash at any later point
unless one of the later calls is of that kind -/
theorem returned_fact_durable {P : JSpec → Prop} {bad : Op → Bool}
    (hstep : ∀ j, JInv j → ∀ op, P (abs j) → P ((abs j).applyOp op) ∨ bad op = true)
    (file : Journal) (hfile : JInv file) (pre post : List Op) (op : Op) (k : Nat)
    (hdone : pre.length < completedOps file (pre ++ op :: post) k)
    (hP : P (abs (applyOp (applyOps file pre) op).1)) :
    P (abs (reopen (session file (pre ++ op :: post) k).1).working) ∨ ∃ o ∈ post, bad o = true := by
  -- the reopened journal is what the returned call left plus a prefix `post.take d` of the later calls
  obtain ⟨m, h1, -, -, hw, -, -⟩ := crash_is_op_boundary file hfile (pre ++ op :: post) k
  obtain ⟨d, rfl⟩ : ∃ d, m = pre.length + 1 + d := ⟨m - pre.length - 1, by omega⟩
  have e1 : pre.length + 1 + d - pre.length = d + 1 := by omega
  rw [hw, List.take_append, List.take_of_length_le (by omega), e1, List.take_succ_cons, applyOps_append,
    applyOps_cons]
  rcases frame_ops hstep _ (applyOp_inv op (applyOps_inv pre hfile)) (post.take d) hP with h | ⟨o, ho, h⟩
  · exact .inl h
  · exact .inr ⟨o, List.mem_of_mem_take ho, h⟩

theorem persist_stores (j : Journal) (_hinv : JInv j) (msg : Bytes) (h : Handle) (dir : Dir) (n : Int)
    (hn : findSeqNo msg = some n) (hret : (persist j msg h dir).2 = .none) :
    (abs (persist j msg h dir).1).store h.key dir n = some msg := by
  obtain ⟨-, -, hany, he⟩ := persist_ok hn hret
  rw [he, abs_updCounter, abs_insMsg msg hany]
  exact if_pos ⟨rfl, rfl, rfl⟩

/-- every message whose store call had returned is still retrievable byte for byte after a crash at
any later point – unless a later renumbering of that session at or below its number was applied -/
theorem returned_persist_durable (file : Journal) (hfile : JInv file) (pre post : List Op)
    (msg : Bytes) (h : Handle) (dir : Dir) (n : Int)
    (k : Nat)
    (hdone : pre.length < completedOps file (pre ++ Op.persist msg h dir :: post) k)
    (hn : findSeqNo msg = some n) (hret : (persist (applyOps file pre) msg h dir).2 = .none) :
    (abs (reopen (session file (pre ++ Op.persist msg h dir :: post) k).1).working).store h.key dir n = some msg ∨
    ∃ op ∈ post, op.truncates h.key dir n = true :=
  returned_fact_durable (P := fun S => S.store h.key dir n = some msg)
    (fun j _ op hs => spec_store_frame (abs j) op h.key dir n msg hs) file hfile pre post _ k hdone
    (persist_stores _ (applyOps_inv pre hfile) msg h dir n hn hret)

/-- a message row never exists without its counter update: if the process dies anywhere inside a
store call and the reopened file holds the new row, the session's counter for that direction is
that message's number -/
theorem row_implies_counter (file : Journal) (hfile : JInv file) (ops : List Op)
    (msg : Bytes) (h : Handle) (dir : Dir) (n : Int) (id : Nat)
    (k : Nat)
    (hall : ops.length ≤ completedOps file (ops ++ [Op.persist msg h dir]) k)
    (hn : findSeqNo msg = some n) (hid : (id : Int) = h.key)
    (hsess : (abs (applyOps file ops)).counters id ≠ none)
    (hnew : (abs (applyOps file ops)).store h.key dir n = none)
    (hrow : (abs (reopen (session file (ops ++ [Op.persist msg h dir]) k).1).working).store h.key dir n ≠ none) :
    ∃ v, (abs (reopen (session file (ops ++ [Op.persist msg h dir]) k).1).working).counters id = some v ∧
      dir.pick v.1 v.2 = n := by
  obtain ⟨m, h1, -, h3, hw, -, -⟩ := crash_is_op_boundary file hfile _ k
  rw [hw] at hrow ⊢
  simp only [List.length_append, List.length_singleton] at h3
  have hm : m = ops.length ∨ m = ops.length + 1 := by omega
  rcases hm with rfl | rfl
  · -- the file is as before the call: it does not hold the row
    rw [List.take_append_of_le_length (Nat.le_refl _), List.take_length] at hrow
    exact absurd hnew hrow
  · -- the file is as after the call; the row is new, so the call took the successful way
    rw [List.take_of_length_le (by simp), applyOps_append] at hrow ⊢
    change (abs (persist (applyOps file ops) msg h dir).1).store h.key dir n ≠ none at hrow
    show ∃ v, (abs (persist (applyOps file ops) msg h dir).1).counters id = some v ∧ _
    rw [persist_eq hn] at hrow ⊢
    split at hrow
    · exact absurd hnew hrow
    split at hrow
    · exact absurd hnew hrow
    rename_i hf hany
    obtain ⟨v, hv⟩ := Option.ne_none_iff_exists'.mp hsess
    rw [if_neg hf, if_neg hany, abs_updCounter]
    refine ⟨setCounter dir n v, ?_, by cases dir <;> rfl⟩
    show (if (id : Int) = h.key then ((abs (applyOps file ops)).counters id).map (setCounter dir n) else _) = _
    rw [if_pos hid, hv]; rfl

/-- a completed set or reset of the sequence numbers is never lost: after a crash at any later
point the stored counters are the ones that were set, unless a later call wrote them again -/
theorem completed_set_durable (file : Journal) (hfile : JInv file) (pre post : List Op)
    (h h' : Handle) (out inn : Option Int) (id : Nat)
    (k : Nat)
    (hdone : pre.length < completedOps file (pre ++ Op.setSeqNum h out inn :: post) k)
    (hret : (setSeqNum (applyOps file pre) h out inn).2 = .set h' none)
    (hid : (id : Int) = h.key) (hsess : (abs (applyOps file pre)).counters id ≠ none) :
    (abs (reopen (session file (pre ++ Op.setSeqNum h out inn :: post) k).1).working).counters id =
        some (effOut h out - 1, effIn h inn - 1) ∨
    ∃ op ∈ post, op.touchesCounters h.key = true := by
  have hst : (abs (setSeqNum (applyOps file pre) h out inn).1).counters id =
      some (effOut h out - 1, effIn h inn - 1) := by
    rcases setSeqNum_cases (applyOps file pre) h out inn with ⟨-, he⟩ | ⟨-, -, he⟩ | ⟨-, -, -, he⟩ | ⟨-, -, -, -, -, -, -, he⟩ <;>
      rw [he] at hret ⊢ <;> simp only [Res.set.injEq, reduceCtorEq, and_false] at hret
    obtain ⟨v, hv⟩ := Option.ne_none_iff_exists'.mp hsess
    simp only [setNext_refines, JSpec.setNext, hid, if_true, hv, Option.map_some]
  rw [← hid]
  exact returned_fact_durable (P := fun S => S.counters id = some (effOut h out - 1, effIn h inn - 1))
    (fun j hinv op hs => spec_counters_frame (abs j) op id _ hs (counters_fresh hinv)) file hfile pre post _ k
    hdone hst

/-- The programs over execute()/commit() (which the correspondence compares with the code) and the
pure methods (which C13 is about) agree: when a call returns, the connection sees exactly what the
pure method computes, nothing is left uncommitted, and – integers within 64 bits – it returns the
same result. -/
theorem method_program_agrees (c : Conn) (hcl : c.Clean) (op : Op) (n : Nat) (a : Res)
    (hret : (op.prog.run n c).2.2 = some a) :
    (op.prog.run n c).1.working = (applyOp c.working op).1 ∧
    (op.ParamsFit = true → a = (applyOp c.working op).2) ∧
    (op.prog.run n c).1.Clean :=
  let s := op_runSpec c hcl op n
  ⟨s.working a hret, s.result a hret, s.clean a hret⟩

/-- what a duplicate leaves behind: an open but empty transaction (nothing changed, nothing
pending) -/
theorem persist_dup_leaves_empty_tx (c : Conn) (msg : Bytes) (h : Handle) (dir : Dir)
    (q : Int) (hn : findSeqNo msg = some q) (hfit : fits q = true ∧ fits h.key = true)
    (hdup : c.working.msgs.any (·.isKey q h.key dir) = true) (n : Nat) :
    ((persistP msg h dir).run (n + 1) c).2.2 = some (.raised .duplicateSeqNo) ∧
    ((persistP msg h dir).run (n + 1) c).1.working = c.working ∧
    ((persistP msg h dir).run (n + 1) c).1.committed = c.committed ∧
    ((persistP msg h dir).run (n + 1) c).1.inTx = true := by
  have hb1 : (Stmt.insertMsg q h.key dir msg).bindOk = true := by
    rw [bindOk_insertMsg, hfit.1, hfit.2]; rfl
  obtain ⟨hr, hw, hc⟩ := exec_bound c _ hb1
  have htx := exec_inTx c (.insertMsg q h.key dir msg)
  simp only [Stmt.isDML, Bool.or_true, if_true, Stmt.run, insMsg, hdup] at hr hw hc htx
  unfold persistP
  simp only [hn, Prog.run, hr, persistFail]
  exact ⟨trivial, hw, hc, htx⟩

/-! non-vacuity: a concrete process with one session, two stores, a renumbering, killed after 10 and after 11 execute()/commit() calls -/
def exampleOps : List Op :=
  [ .createOrLoad "T" "S",
    .persist [1, 51, 52, 61, 53, 1] ⟨1, "T", "S", 1, 1⟩ .outbound,
    .setSeqNum ⟨1, "T", "S", 1, 1⟩ (some 3) none,
    .persist [1, 51, 52, 61, 55, 1] ⟨1, "T", "S", 1, 1⟩ .inbound ]
example : completedOps {} exampleOps 10 = 2 ∧
    (reopen (session {} exampleOps 10).1).working = applyOps {} (exampleOps.take 2) ∧
    (reopen (session {} exampleOps 11).1).working = applyOps {} (exampleOps.take 3) := by
  decide +kernel

/-! the input that showed the defect fixed by 493a9a7 (`set_seq_num` could be applied half): a `set_seq_num`
whose next inbound number is 2⁶³ raises OverflowError after its UPDATE ran; it is rolled back, so the
later store commits nothing of it: outbound message 1 is there and the outbound counter still says so -/
def formerWitness : List Op :=
  [ .createOrLoad "T" "S",
    .persist [1, 51, 52, 61, 49, 1] ⟨1, "T", "S", 1, 1⟩ .outbound,
    .setSeqNum ⟨1, "T", "S", 1, 1⟩ (some 1) (some 9223372036854775808),
    .persist [1, 51, 52, 61, 55, 1] ⟨1, "T", "S", 1, 1⟩ .inbound ]
example : completedOps {} formerWitness 100 = 4 ∧
    (abs (reopen (session {} formerWitness 100).1).working).counters 1 = some (1, 7) ∧
    (abs (reopen (session {} formerWitness 100).1).working).store 1 .outbound 1 ≠ none ∧
    (reopen (session {} formerWitness 100).1).working = (reopen (session {} (formerWitness.eraseIdx 2) 100).1).working := by
  decide +kernel

end AsyncFix.Props.C08
