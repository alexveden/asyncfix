/-
C13 — the journal is a faithful per-session, per-direction message store.

Model: `Model/Journal.lean` (tables as SQLite holds them, the public methods of
`asyncfix/journaler.py` branch for branch).  Specification: `Lemmas/JournalSpec.lean`
(`JSpec` = map (session, direction, number) ↦ bytes + two counters per session; `abs`; `JInv`).

Everything is proved for *all* journals satisfying the invariant `JInv`, and `JInv` is proved for
every journal reachable from the empty file by *any* list of calls with *any* arguments
(`jinv_reachable`), so the statements hold after arbitrary histories – no bound on the number of
sessions, messages, or the size of numbers.
-/
import AsyncFix.Lemmas.JournalQuery
namespace AsyncFix.Props.C13
open AsyncFix.Model.Journal

/-- the invariant holds initially and after every list of calls (arbitrary arguments, including
the ones that raise) -/
theorem jinv_reachable (ops : List Op) : JInv (applyOps {} ops) :=
  applyOps_inv ops jinv_empty

/-- every single call preserves it -/
theorem jinv_step (j : Journal) (op : Op) (h : JInv j) : JInv (applyOp j op).1 :=
  applyOp_inv op h

/-- create_or_load: state and returned session agree with the abstract journal -/
theorem createOrLoad_refines (j : Journal) (hinv : JInv j) (t s : String) :
    (abs (createOrLoad j t s).1, (createOrLoad j t s).2) = (abs j).createOrLoad t s :=
  AsyncFix.Model.Journal.createOrLoad_refines hinv t s

/-- persist_msg: state and result (None / duplicate error / FIXMessageError / OverflowError) agree -/
theorem persist_refines (j : Journal) (hinv : JInv j) (msg : Bytes) (h : Handle) (dir : Dir) :
    (abs (persist j msg h dir).1, (persist j msg h dir).2) = (abs j).persist msg h dir :=
  AsyncFix.Model.Journal.persist_refines hinv msg h dir

/-- set_seq_num: for every call (assertion failures and numbers SQLite cannot hold included – the
call is all or nothing since fix 493a9a7) the tables change as the abstract journal does -/
theorem setSeqNum_refines (j : Journal) (h : Handle) (out inn : Option Int) :
    abs (setSeqNum j h out inn).1 = (abs j).setSeqNum h out inn :=
  AsyncFix.Model.Journal.setSeqNum_refines h out inn

/-- after any history (any calls, any arguments) the journal is the abstract journal after the same
history -/
theorem refinement (ops : List Op) : abs (applyOps {} ops) = (abs {}).applyOps ops :=
  applyOps_refines jinv_empty ops

/-- a `set_seq_num` that raises (assertion or OverflowError) leaves the tables unchanged -/
theorem setSeqNum_raise_unchanged (j : Journal) (h h' : Handle) (out inn : Option Int) (k : Kind)
    (hres : (setSeqNum j h out inn).2 = .set h' (some k)) : (setSeqNum j h out inn).1 = j := by
  rcases setSeqNum_cases j h out inn with ⟨-, he⟩ | ⟨-, -, he⟩ | ⟨-, -, -, he⟩ | ⟨-, -, -, -, -, -, -, he⟩ <;> rw [he] at hres ⊢
  simp at hres

/-- a history with two mirror-image sessions, both directions, a duplicate and a renumbering ends
in a non-trivial state -/
def exampleOps : List Op :=
  [ .createOrLoad "T" "S", .createOrLoad "S" "T",
    .persist [1, 51, 52, 61, 53, 1] ⟨1, "T", "S", 1, 1⟩ .outbound,
    .persist [1, 51, 52, 61, 53, 1] ⟨1, "T", "S", 1, 1⟩ .outbound,
    .persist [1, 51, 52, 61, 57, 1] ⟨2, "S", "T", 1, 1⟩ .inbound,
    .setSeqNum ⟨1, "T", "S", 1, 1⟩ (some 3) none ]
example : (applyOps {} exampleOps).msgs.length = 1 ∧ (applyOps {} exampleOps).sessions.length = 2 := by
  decide

/-- `recover_messages` returns exactly the stored messages of that session and direction whose
numbers lie within the bounds, unchanged, in ascending number order – for all bounds (ints, text
that SQLite reads as an integer, text that is no number; empty, inverted, open-ended). -/
theorem recover_returns_stored (j : Journal) (hinv : JInv j) (h : Handle) (dir : Dir) (lo hi : Bound)
    (ms : List Bytes) (hres : recoverMessages j h dir lo hi = .msgs ms) :
    (abs j).IsRange h.key dir lo.eval hi.eval ms := by
  unfold recoverMessages at hres
  split at hres
  · cases hres
  · split at hres
    all_goals (cases hres <;> exact selRange_isRange hinv h.key dir _ _)

/-- it never raises and never leaves the model when key and int bounds fit 64 bits and text bounds
are not floating point literals -/
theorem recover_total (j : Journal) (h : Handle) (dir : Dir) (lo hi : Bound)
    (hk : fits h.key = true ∧ fits lo.param = true ∧ fits hi.param = true)
    (hlo : lo.eval ≠ .unmodelled) (hhi : hi.eval ≠ .unmodelled) :
    ∃ ms, recoverMessages j h dir lo hi = .msgs ms := by
  unfold recoverMessages
  simp only [hk.1, hk.2.1, hk.2.2, Bool.and_self, Bool.not_true, Bool.false_eq_true, if_false]
  cases hl : lo.eval <;> cases hu : hi.eval <;> simp_all

/-- a stored message is returned by every range query that includes its number … -/
theorem recover_contains_stored (j : Journal) (hinv : JInv j) (h : Handle) (dir : Dir) (lo hi : Bound)
    (ms : List Bytes) (hres : recoverMessages j h dir lo hi = .msgs ms)
    (n : Int) (m : Bytes) (hst : (abs j).store h.key dir n = some m)
    (hlo : lo.eval.le n = true) (hhi : hi.eval.ge n = true) : m ∈ ms := by
  obtain ⟨seqs, -, hmem, rfl⟩ := recover_returns_stored j hinv h dir lo hi ms hres
  rw [List.mem_filterMap]
  exact ⟨n, (hmem n).mpr ⟨hlo, hhi, by simp [hst]⟩, hst⟩

/-- … and only messages of its own session and direction, within the bounds, are returned -/
theorem recover_only_own (j : Journal) (hinv : JInv j) (h : Handle) (dir : Dir) (lo hi : Bound)
    (ms : List Bytes) (hres : recoverMessages j h dir lo hi = .msgs ms) (m : Bytes) (hm : m ∈ ms) :
    ∃ n, lo.eval.le n = true ∧ hi.eval.ge n = true ∧ (abs j).store h.key dir n = some m := by
  obtain ⟨seqs, -, hmem, rfl⟩ := recover_returns_stored j hinv h dir lo hi ms hres
  obtain ⟨n, hn, hst⟩ := List.mem_filterMap.mp hm
  obtain ⟨h1, h2, -⟩ := (hmem n).mp hn
  exact ⟨n, h1, h2, hst⟩

/-- an inverted range is empty -/
theorem recover_inverted_empty (j : Journal) (hinv : JInv j) (h : Handle) (dir : Dir) (a b : Int)
    (hab : b < a) (ms : List Bytes)
    (hres : recoverMessages j h dir (.int a) (.int b) = .msgs ms) : ms = [] := by
  cases ms with
  | nil => rfl
  | cons m rest =>
    obtain ⟨n, h1, h2, -⟩ := recover_only_own j hinv h dir _ _ _ hres m (List.mem_cons_self ..)
    simp only [Bound.eval, BVal.le, BVal.ge, decide_eq_true_eq] at h1 h2
    omega

/-- the abstract range determines the answer: two answers to the same query are equal -/
theorem isRange_unique (S : JSpec) (key : Int) (dir : Dir) (lo hi : BVal) (ms ms' : List Bytes)
    (h1 : S.IsRange key dir lo hi ms) (h2 : S.IsRange key dir lo hi ms') : ms = ms' := by
  obtain ⟨s1, p1, m1, rfl⟩ := h1
  obtain ⟨s2, p2, m2, rfl⟩ := h2
  -- two strictly ascending lists with the same members
  have hperm : s1.Perm s2 :=
    (List.perm_ext_iff_of_nodup (p1.imp Int.ne_of_lt) (p2.imp Int.ne_of_lt)).mpr
      fun n => (m1 n).trans (m2 n).symm
  rw [hperm.eq_of_pairwise (fun a b _ _ hab hba => absurd hab (Int.lt_asymm hba)) p1 p2]

/-- `get_all_msgs()` lists exactly the stored map -/
theorem getAll_complete (j : Journal) (hinv : JInv j) (key : Int) (d : Dir) (n : Int) (m : Bytes) :
    ∃ rs, getAllMsgs j none none = .rows rs ∧
      ((n, m, d.val, key) ∈ rs ↔ (abs j).store key d n = some m) :=
  ⟨selAll j none none, by simp [getAllMsgs, normKeys], selAll_complete hinv key d n m⟩

/-- storing number n makes n+1 that direction's next number, as reported by *both* loading paths,
and leaves the other direction's number alone -/
theorem persist_sets_next (j : Journal) (hinv : JInv j) (r : SessRow) (hr : r ∈ j.sessions)
    (msg : Bytes) (h : Handle) (hk : h.key = r.sid) (dir : Dir) (n : Int)
    (hn : findSeqNo msg = some n) (hres : (persist j msg h dir).2 = .none) :
    let j' := (persist j msg h dir).1
    let h' : Handle := ⟨r.sid, r.target, r.sender,
      (match dir with | .outbound => n + 1 | .inbound => r.outSeq + 1),
      (match dir with | .outbound => r.inSeq + 1 | .inbound => n + 1)⟩
    createOrLoad j' r.target r.sender = (j', .handle h') ∧
    ((r.target, r.sender), h') ∈ sessions j' := by
  intro j' h'
  have hinv' : JInv j' := persist_inv msg h dir hinv
  let r' : SessRow := match dir with
    | .outbound => { r with outSeq := n } | .inbound => { r with inSeq := n }
  have hmem : r' ∈ j'.sessions := by
    show r' ∈ (persist j msg h dir).1.sessions
    rw [(persist_ok hn hres).2.2.2]
    simp only [updCounter, List.mem_map]
    exact ⟨r, hr, by rw [if_pos hk.symm]; cases dir <;> rfl⟩
  have ht : r'.target = r.target ∧ r'.sender = r.sender ∧ handleOf r' = h' := by
    cases dir <;> simp [r', h', handleOf]
  have h1 := createOrLoad_existing hinv' hmem
  rw [ht.1, ht.2.1, ht.2.2] at h1
  refine ⟨h1, ?_⟩
  rw [sessions_eq_map hinv', List.mem_map]
  exact ⟨r', hmem, by rw [ht.1, ht.2.1, ht.2.2]⟩

/-- storing a number twice fails with the duplicate error and changes nothing; and (numbers within
64 bits) the duplicate error is raised only then -/
theorem persist_dup_noop (j : Journal) (msg : Bytes) (h : Handle) (dir : Dir) (n : Int)
    (hn : findSeqNo msg = some n) (hfit : fits n = true ∧ fits h.key = true) :
    ((abs j).store h.key dir n ≠ none ↔ (persist j msg h dir).2 = .raised .duplicateSeqNo) ∧
    ((persist j msg h dir).2 = .raised .duplicateSeqNo → (persist j msg h dir).1 = j) := by
  rw [persist_eq hn, hfit.1, hfit.2, Ne, store_none_iff]
  cases j.msgs.any (·.isKey n h.key dir) <;> simp

/-- every raising outcome of persist_msg leaves the tables unchanged -/
theorem persist_raise_unchanged (j : Journal) (msg : Bytes) (h : Handle) (dir : Dir) (k : Kind)
    (hres : (persist j msg h dir).2 = .raised k) : (persist j msg h dir).1 = j := by
  cases hn : findSeqNo msg with
  | none => rw [persist_noSeq hn]
  | some n =>
    rw [persist_eq hn] at hres ⊢
    split
    · rfl
    · split
      · rfl
      · rename_i hf hany
        rw [if_neg hf, if_neg hany] at hres; cases hres

/-- a completed `set_seq_num` sets the session object and the stored counters to the effective next
numbers and removes exactly the messages of that session numbered at or above them -/
theorem setSeqNum_truncates_exactly (j : Journal) (h h' : Handle) (out inn : Option Int)
    (hres : (setSeqNum j h out inn).2 = .set h' none) :
    h'.nextOut = effOut h out ∧ h'.nextIn = effIn h inn ∧
    (∀ k d n, (abs (setSeqNum j h out inn).1).store k d n =
        if k = h.key ∧ d.pick h'.nextOut h'.nextIn ≤ n then none else (abs j).store k d n) ∧
    (∀ id, (abs (setSeqNum j h out inn).1).counters id =
        if (id : Int) = h.key then ((abs j).counters id).map (fun _ => (h'.nextOut - 1, h'.nextIn - 1))
        else (abs j).counters id) ∧
    (abs (setSeqNum j h out inn).1).ident = (abs j).ident := by
  rcases setSeqNum_cases j h out inn with ⟨-, he⟩ | ⟨-, -, he⟩ | ⟨-, -, -, he⟩ | ⟨-, -, -, -, -, -, -, he⟩ <;>
    rw [he] at hres ⊢ <;> simp only [Res.set.injEq, reduceCtorEq, and_false] at hres
  simp only [and_true] at hres
  subst hres
  simp only [setNext_refines, JSpec.setNext, true_and]
  exact ⟨fun _ _ _ => trivial, fun _ => trivial, trivial⟩

/-- an assertion failure (a next number ≤ 0) changes nothing in the tables; the session object may
already carry the new outbound number -/
theorem setSeqNum_assert_unchanged (j : Journal) (h h' : Handle) (out inn : Option Int)
    (hres : (setSeqNum j h out inn).2 = .set h' (some .assertion)) :
    (setSeqNum j h out inn).1 = j ∧ h'.nextIn = h.nextIn := by
  rcases setSeqNum_cases j h out inn with ⟨-, he⟩ | ⟨-, -, he⟩ | ⟨-, -, -, he⟩ | ⟨-, -, -, -, -, -, -, he⟩ <;>
    rw [he] at hres ⊢ <;> simp only [Res.set.injEq, reduceCtorEq, and_false, Option.some.injEq, and_true] at hres
  · subst hres; exact ⟨rfl, rfl⟩
  · subst hres; exact ⟨rfl, rfl⟩

/-- every way of loading a session reports the same next numbers: an entry of `sessions()` is what
`create_or_load` returns for that pair, and vice versa (including the session it just created) -/
theorem load_paths_agree (j : Journal) (hinv : JInv j) (t s : String) (h : Handle) :
    (((t, s), h) ∈ sessions j → createOrLoad j t s = (j, .handle h)) ∧
    ((createOrLoad j t s).2 = .handle h → ((t, s), h) ∈ sessions (createOrLoad j t s).1) := by
  constructor
  · intro hm
    rw [sessions_eq_map hinv, List.mem_map] at hm
    obtain ⟨r, hr, heq⟩ := hm
    simp only [Prod.mk.injEq] at heq
    obtain ⟨⟨rfl, rfl⟩, rfl⟩ := heq
    exact createOrLoad_existing hinv hr
  · intro hres
    have hinv' := createOrLoad_inv t s hinv
    rw [sessions_eq_map hinv', List.mem_map]
    cases hf : j.sessions.find? (·.isPair t s) with
    | some r =>
      rw [createOrLoad_found hf] at hres ⊢
      obtain ⟨ht, hs⟩ := (isPair_iff r t s).mp (List.find?_some (p := fun x : SessRow => x.isPair t s) hf)
      exact ⟨r, List.mem_of_find?_eq_some hf, by rw [ht, hs, Res.handle.inj hres]⟩
    | none =>
      rw [createOrLoad_new hf] at hres ⊢
      exact ⟨⟨j.nextSid, t, s, 0, 0⟩, by simp, by rw [← Res.handle.inj hres]; rfl⟩

/-- `sessions()` never merges or loses a session: one entry per row, in id order -/
theorem sessions_lists_rows (j : Journal) (hinv : JInv j) :
    sessions j = j.sessions.map fun r => ((r.target, r.sender), handleOf r) :=
  sessions_eq_map hinv

/-! find_seq_no (first `\x0134=` wins; `int()` leniency) – evaluated examples -/

example : findSeqNo [56, 1, 51, 52, 61, 55, 1, 51, 52, 61, 57, 1] = some 7 := by decide
example : findSeqNo [1, 51, 52, 61, 32, 43, 49, 95, 48, 9, 1] = some 10 := by decide      -- b" +1_0\t"
example : findSeqNo [1, 51, 52, 61, 49, 95, 95, 48, 1] = none := by decide                -- b"1__0"
example : findSeqNo [51, 52, 61, 55, 1] = none := by decide                               -- no SOH before 34=
example : findSeqNo [1, 51, 52, 61, 55] = none := by decide                               -- no SOH after

end AsyncFix.Props.C13
