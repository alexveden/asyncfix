/-
C16 — the order status transition function is total, closed and lifecycle-safe.

All theorems are about `changeStatus spec`, where `spec` is the table GENERATED
from asyncfix/protocol/order_single.py on every run, and quantify over *all
strings* for status / kind / ExecType / reported status (enum members are their
values; anything else, including the `0` "omitted" marker and `None`, behaves
as a string that is no key).  What depends on the content of the table is reduced by
`cellOf_norm` to ONE finite check over (keys ∪ {fresh})⁴ that the kernel evaluates
(`decide +kernel`): `cell_facts`.
-/
import AsyncFix.Generated.OrderTable
import AsyncFix.Lemmas.OrderTable
namespace AsyncFix.Props.C16
open AsyncFix.Model.OrderTable AsyncFix.Generated.OrderTable

/-- no message kind twice, no status key twice within a table (a Python dict literal would keep the
last, `lookup` the first); the keys inside a row and inside an `exec_type` sub-table are not tested -/
def nodupKeys : Bool :=
  (spec.map (·.1)).Nodup && spec.all fun p =>
    (p.2.rows.map (·.1)).Nodup

theorem spec_nodup : nodupKeys = true := by decide +kernel

def finished : List String := ["2", "4", "8", "C"]       -- FILLED CANCELED REJECTED EXPIRED
def reportKinds : List String := ["8", "9"]               -- ExecutionReport, OrderCancelReject
def requestKinds : List String := ["F", "G"]              -- OrderCancelRequest, OrderCancelReplaceRequest
def live : List String := ["0", "1", "9"]                 -- NEW PARTIALLY_FILLED SUSPENDED
def pendingReq : List String := ["6", "E"]                -- PENDING_CANCEL PENDING_REPLACE
def sticky : List String := ["6", "E", "4"]               -- PENDING_CANCEL PENDING_REPLACE CANCELED

/-- key universes: every key of the generated tables, plus the values the statements below name;
every other string – the remaining enum values included – is no key and behaves like `fresh` -/
def U : Universe :=
  { K := spec.map (·.1)
    S := (spec.flatMap (·.2.statusKeys) ++ "Z" :: finished ++ live ++ pendingReq ++ sticky).eraseDups
    E := (spec.flatMap (·.2.execKeys) ++ ["5"]).eraseDups
    R := (spec.flatMap (·.2.repKeys) ++ ["Z", "A", "8", "4"]).eraseDups
    fresh := "<other>" }

theorem spec_ok : spec.ok U.K U.S U.E U.R U.fresh = true := by decide +kernel

/-- what the cell `o` at kind `k`, status `s`, ExecType `e`, reported status `r` has to satisfy -/
def CellFacts (k s e r : String) (o : Out) : Prop :=
  -- a finished status is never left
  (s ∈ finished → o ≠ .cell .go) ∧
  -- no report leads to CREATED
  (k ∈ reportKinds → r = "Z" → o ≠ .cell .go) ∧
  -- an execution report leads to PENDING_NEW only from CREATED
  (k = "8" → r = "A" → o = .cell .go → s = "Z") ∧
  -- CREATED is left only for PENDING_NEW or REJECTED
  (s = "Z" → o = .cell .go → r = "A" ∨ r = "8") ∧
  -- with a request pending, or after the cancel, an execution report other than Replaced leads only to CANCELED
  (k = "8" → s ∈ sticky → e ≠ "5" → o = .cell .go → r = "4") ∧
  -- cancel / replace requests: the cell is determined by the status class
  (k ∈ requestKinds → o = .cell (if s ∈ live then .go else if s ∈ pendingReq then .stay else .err))

instance (k s e r : String) (o : Out) : Decidable (CellFacts k s e r o) := by
  unfold CellFacts
  repeat' apply instDecidableAnd
  all_goals infer_instance

theorem cell_facts_tbl : checkAll spec U CellFacts = true := by decide +kernel

/-- every constant `CellFacts` names is in the universe of its coordinate -/
theorem named_mem :
    (∀ x ∈ reportKinds, x ∈ U.K) ∧ (∀ x ∈ requestKinds, x ∈ U.K) ∧ "8" ∈ U.K ∧
    (∀ x ∈ finished, x ∈ U.S) ∧ (∀ x ∈ live, x ∈ U.S) ∧ (∀ x ∈ pendingReq, x ∈ U.S) ∧
    (∀ x ∈ sticky, x ∈ U.S) ∧ "Z" ∈ U.S ∧ "5" ∈ U.E ∧
    "Z" ∈ U.R ∧ "A" ∈ U.R ∧ "8" ∈ U.R ∧ "4" ∈ U.R := by decide +kernel

theorem finished_sub : ∀ x ∈ finished, x ∈ U.S := named_mem.2.2.2.1
theorem live_sub : ∀ x ∈ live, x ∈ U.S := named_mem.2.2.2.2.1
theorem pendingReq_sub : ∀ x ∈ pendingReq, x ∈ U.S := named_mem.2.2.2.2.2.1
theorem reportKinds_sub : ∀ x ∈ reportKinds, x ∈ U.K := named_mem.1
theorem requestKinds_sub : ∀ x ∈ requestKinds, x ∈ U.K := named_mem.2.1
theorem fresh_K : U.fresh ∉ U.K := (Spec.fresh_notin spec_ok).1
theorem fresh_S : U.fresh ∉ U.S := (Spec.fresh_notin spec_ok).2.1
theorem fresh_R : U.fresh ∉ U.R := (Spec.fresh_notin spec_ok).2.2.2
theorem Z_S : "Z" ∈ U.S := named_mem.2.2.2.2.2.2.2.1
theorem Z_R : "Z" ∈ U.R := named_mem.2.2.2.2.2.2.2.2.2.1
theorem A_R : "A" ∈ U.R := named_mem.2.2.2.2.2.2.2.2.2.2.1
theorem r8_R : "8" ∈ U.R := named_mem.2.2.2.2.2.2.2.2.2.2.2.1
theorem k8_K : "8" ∈ U.K := named_mem.2.2.1

/-- the facts hold for all strings: `checkAll_spec` gives them at the normalised coordinates, and none
of the tests in `CellFacts` sees the normalisation -/
theorem cell_facts (k s e r : String) : CellFacts k s e r (cellOf spec k s e r) := by
  have h := checkAll_spec spec_ok cell_facts_tbl k s e r
  have fE : U.fresh ∉ U.E := (Spec.fresh_notin spec_ok).2.2.1
  obtain ⟨-, -, -, -, -, -, stk, -, e5, -, -, -, r4⟩ := named_mem
  simpa only [CellFacts, ne_eq, norm_mem_iff reportKinds_sub fresh_K, norm_mem_iff requestKinds_sub fresh_K,
    norm_eq_iff k8_K fresh_K, norm_mem_iff finished_sub fresh_S, norm_mem_iff live_sub fresh_S,
    norm_mem_iff pendingReq_sub fresh_S, norm_mem_iff stk fresh_S, norm_eq_iff Z_S fresh_S, norm_eq_iff e5 fE,
    norm_eq_iff Z_R fresh_R, norm_eq_iff A_R fresh_R, norm_eq_iff r8_R fresh_R, norm_eq_iff r4 fresh_R] using h

/-! corollaries of `cell_facts_tbl`: one conjunct of `CellFacts` each, in Boolean form, as a sweep of its own -/

theorem finished_tbl : checkAll spec U (fun _ s _ _ o => !finished.contains s || o != .cell .go) = true :=
  checkAll_mono (fun _ _ _ _ _ h => by simpa [Decidable.imp_iff_not_or] using h.1) cell_facts_tbl

theorem created_tbl : checkAll spec U
    (fun k _ _ r o => !(reportKinds.contains k && r == "Z") || o != .cell .go) = true :=
  checkAll_mono (fun _ _ _ _ _ h => by simpa [Decidable.imp_iff_not_or, or_assoc] using h.2.1) cell_facts_tbl

theorem pending_new_tbl : checkAll spec U
    (fun k s _ r o => !(k == "8" && r == "A" && !(s == "Z")) || o != .cell .go) = true :=
  checkAll_mono (fun _ _ _ _ _ h => by
    simpa [Decidable.imp_iff_not_or, or_assoc, or_comm, or_left_comm] using h.2.2.1) cell_facts_tbl

theorem created_accepts_tbl : checkAll spec U
    (fun _ s _ r o => !(s == "Z") || r == "A" || r == "8" || o != .cell .go) = true :=
  checkAll_mono (fun _ s _ _ o h => by
    have := h.2.2.2.1
    by_cases hs : s = "Z" <;> by_cases ho : o = .cell .go <;> simp_all) cell_facts_tbl

theorem gate_tbl : checkAll spec U
    (fun k s _ _ o => !requestKinds.contains k ||
      (if live.contains s then o == .cell .go
       else if pendingReq.contains s then o == .cell .stay
       else o == .cell .err)) = true :=
  checkAll_mono (fun k s _ _ _ h => by
    have := h.2.2.2.2.2
    by_cases hk : k ∈ requestKinds <;> by_cases h1 : s ∈ live <;> by_cases h2 : s ∈ pendingReq <;> simp_all)
    cell_facts_tbl

/-- Full statement of the first sentence of C16 (for *every* kind). -/
def trichotomy_full : Prop :=
  ∀ status kind exec rep raise,
    changeStatus spec status kind exec rep raise = .to rep ∨
    changeStatus spec status kind exec rep raise = .none ∨
    (changeStatus spec status kind exec rep raise = .raised ∧ raise = true)

/-- Proved part: for every kind that has a table (8, 9, F, G on the current tree).  Excluded:
unsupported kinds, for which `change_status` raises even with `raise_on_err=False`
(known finding C16-unsupported-kind-raises; `Findings/C16.lean` refutes `trichotomy_full`). -/
theorem trichotomy_partial (status kind exec rep : String) (raise : Bool)
    (hk : kind ∈ spec.map Prod.fst) :
    changeStatus spec status kind exec rep raise = .to rep ∨
    changeStatus spec status kind exec rep raise = .none ∨
    (changeStatus spec status kind exec rep raise = .raised ∧ raise = true) := by
  unfold changeStatus cellOf
  cases ht : lookup kind spec with
  | none => exact absurd hk (lookup_eq_none_iff.mp ht)
  | some t =>
    simp only
    cases t.eval status exec rep <;> cases raise <;> simp

theorem raise_mode_only_affects_errors (status kind exec rep : String) :
    changeStatus spec status kind exec rep false = .raised ∨
    changeStatus spec status kind exec rep false = changeStatus spec status kind exec rep true ∨
    (changeStatus spec status kind exec rep false = .none ∧
     changeStatus spec status kind exec rep true = .raised) := by
  unfold changeStatus
  cases cellOf spec kind status exec rep with
  | noTable => simp
  | cell c => cases c <;> simp

theorem finished_absorbing (status kind exec rep x : String) (raise : Bool)
    (hs : status ∈ finished) : changeStatus spec status kind exec rep raise ≠ .to x :=
  fun h => (cell_facts kind status exec rep).1 hs (changeStatus_eq_to.mp h).2

theorem never_back_to_created (status kind exec rep : String) (raise : Bool)
    (hk : kind ∈ reportKinds) : changeStatus spec status kind exec rep raise ≠ .to "Z" := by
  intro h
  obtain ⟨hrep, hgo⟩ := changeStatus_eq_to.mp h
  exact (cell_facts kind status exec rep).2.1 hk hrep.symm hgo

/-- Full statement: for both report kinds only a CREATED order can become PENDING_NEW. -/
def never_ack_to_pending_new_full : Prop :=
  ∀ status kind exec rep raise, kind ∈ reportKinds →
    changeStatus spec status kind exec rep raise = .to "A" → status = "Z"

/-- Proved part: execution reports.  Excluded: OrderCancelReject (kind 9) reporting PENDING_NEW,
which the unchanged code accepts from every non-finished status other than CREATED and which two
existing tests assert (known finding C16-kind9-pending-new). -/
theorem never_ack_to_pending_new_partial (status exec rep : String) (raise : Bool)
    (hres : changeStatus spec status "8" exec rep raise = .to "A") : status = "Z" := by
  obtain ⟨hrep, hgo⟩ := changeStatus_eq_to.mp hres
  exact (cell_facts "8" status exec rep).2.2.1 rfl hrep.symm hgo

theorem created_accepts_only (kind exec rep x : String) (raise : Bool)
    (hres : changeStatus spec "Z" kind exec rep raise = .to x) : x = "A" ∨ x = "8" := by
  obtain ⟨rfl, hgo⟩ := changeStatus_eq_to.mp hres
  exact (cell_facts kind "Z" exec x).2.2.2.1 rfl hgo

/-- … and both are indeed accepted from an execution report (non-vacuity of the above). -/
example : changeStatus spec "Z" "8" "A" "A" true = .to "A" := by decide +kernel
example : changeStatus spec "Z" "8" "8" "8" true = .to "8" := by decide +kernel

theorem gate_cell (status kind exec rep : String) (hk : kind ∈ requestKinds) :
    cellOf spec kind status exec rep =
      if status ∈ live then .cell .go else if status ∈ pendingReq then .cell .stay else .cell .err := by
  rw [(cell_facts kind status exec rep).2.2.2.2.2 hk, apply_ite Out.cell, apply_ite Out.cell]

/-- permitted exactly for NEW / PARTIALLY_FILLED / SUSPENDED, ignored while a request is pending,
refused otherwise (an error, surfaced as an exception only in raising mode) -/
theorem cancel_replace_gate (status kind exec rep : String) (raise : Bool) (hk : kind ∈ requestKinds) :
    changeStatus spec status kind exec rep raise =
      if status ∈ live then .to rep
      else if status ∈ pendingReq then .none
      else if raise then .raised else .none := by
  unfold changeStatus
  rw [gate_cell status kind exec rep hk]
  by_cases h1 : status ∈ live
  · simp [h1]
  · by_cases h2 : status ∈ pendingReq
    · simp [h1, h2]
    · cases raise <;> simp [h1, h2]

/-- from PENDING_CANCEL / PENDING_REPLACE / CANCELED an execution report that is not a Replaced
report can only lead to CANCELED -/
theorem sticky_exec (status ex st s : String) (raise : Bool) (hs : status ∈ sticky) (hex : ex ≠ "5")
    (h : changeStatus spec status "8" ex st raise = .to s) : s = "4" := by
  obtain ⟨rfl, hgo⟩ := changeStatus_eq_to.mp h
  exact (cell_facts "8" status ex s).2.2.2.2.1 rfl hs hex hgo

/-- `can_cancel()` / `can_replace()` as the library computes them -/
def canRequest (status kind : String) : Bool :=
  changeStatus spec status kind "0" (if kind = "F" then "6" else "E") false != .none

theorem canRequest_iff (status kind : String) (hk : kind ∈ requestKinds) :
    canRequest status kind = true ↔ status ∈ live := by
  unfold canRequest
  rw [cancel_replace_gate _ _ _ _ _ hk]
  by_cases h1 : status ∈ live
  · simp [h1]
  · by_cases h2 : status ∈ pendingReq <;> simp [h1, h2]

end AsyncFix.Props.C16
