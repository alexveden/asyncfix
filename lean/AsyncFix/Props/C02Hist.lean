import AsyncFix.Lemmas.BridgeFrame
import AsyncFix.Lemmas.BridgeTrace

/-!
C02, history part — every byte string a connection hands to its transport during an arbitrary
session history (logon, heartbeats, test requests, resend replays, gap fills, logout, …) is a
well-formed FIX frame of single bytes.

The session model (`AsyncFix.Session`) records a transport write as `Effect.write f` with `f` the
abstract field list of the frame; the codec model (`AsyncFix.Model.Codec`) produces byte strings.
`AsyncFix.Bridge.render` is the bridge: the wire bytes of a field list.

* `render_buildFrame` – the session model's frame, rendered, IS the codec's `mkFrame`;
* `render_buildFrame_assemble` / `render_buildFrame_encode` – … and IS what the codec's encoder
  returns for the corresponding codec message (`toCodec`) and session (`toCodecSession`);
* `write_effects_built` – in every history every `write` is `buildFrame …` that passed latin-1;
* `write_effects_refframe` – hence its bytes are a `RefFrame` (Props/C02) and all `< 256`;
* `write_effects_codec` – … and are the output of the codec model's `assemble`.

`harness/bridge_check.py` ties `render` to the implementation: bytes at the real transport =
rendering of the model's write-effect frame.
-/
namespace AsyncFix.Props.C02Hist

open AsyncFix AsyncFix.Bridge AsyncFix.Generated
open AsyncFix.Model
open AsyncFix.Session (Conn Event Effect Env Msg buildFrame frameLatin1 run)

/-- **Bridge, frame level.**  For every session, clock text, message (plain tags – the session model
has no groups) and number, the wire bytes of the session model's frame are the codec's `mkFrame` of
the protocol's BeginString and the wire fields `sessFlds` = `35, 49, 56, 34, 52`, then the message's
tags except 34 / 52 / 49 / 56. -/
theorem render_buildFrame (s : Session.Session) (stamp : String) (m : Msg) (seq : Int) :
    render (buildFrame s stamp m seq) = Codec.mkFrame Proto.beginStringBytes (sessFlds s stamp m seq) :=
  Bridge.render_buildFrame s stamp m seq

/-- the session model's tag filter is the codec's (`bodyOf`, i.e. `skipTags` = 34/52/49/56) -/
theorem bodyOf_toCodec (m : Msg) :
    Codec.bodyOf (toCodec m) = (m.tags.filter fun p => keepTag p.1).map toLeaf :=
  Bridge.bodyOf_toCodec m

/-- **Bridge, encoder level.**  The codec model's `assemble` on the corresponding codec message /
session with the same number and clock text succeeds and returns exactly those bytes: the two models
produce the same frame. -/
theorem render_buildFrame_assemble (s : Session.Session) (stamp : String) (m : Msg) (seq : Int) :
    Codec.assemble Proto.beginStringBytes (toCodec m) (toCodecSession s) (Codec.intToDec seq) (cps stamp) =
      .ok (render (buildFrame s stamp m seq)) :=
  Bridge.render_buildFrame_assemble s stamp m seq

/-- … and so does the whole `Codec.encode` for a message that is given a fresh number (not a
SequenceReset, no PossDupFlag=Y): same bytes, same counter afterwards. -/
theorem render_buildFrame_encode (s : Session.Session) (stamp : String) (m : Msg)
    (hm : m.mtype ≠ Session.mSequenceReset) (hpd : m.get? Session.tPossDupFlag ≠ some "Y") :
    Codec.encode Proto.beginStringBytes (toCodec m) (toCodecSession s) false (cps stamp) =
      (.ok (render (buildFrame { s with nextOut := s.nextOut + 1 } stamp m s.nextOut)),
       toCodecSession { s with nextOut := s.nextOut + 1 }) :=
  Bridge.render_buildFrame_encode s stamp m hm hpd

/-- **every transport write of every history is an encoder result that passed latin-1**:
for every `should_replay` predicate, start connection and event history, a `write f` effect has
`f = buildFrame s stamp m seq` for some session / clock text / message / number, and
`frameLatin1 f`. -/
theorem write_effects_built (sr : Msg → Bool) (c : Conn) (evs : List Event) (f : Msg)
    (h : Effect.write f ∈ (run sr c evs).2) :
    (∃ (s : Session.Session) (stamp : String) (m : Msg) (seq : Int), f = buildFrame s stamp m seq) ∧
      frameLatin1 f = true :=
  Session.run_hist_W sr c evs _ h

/-- **C02 over histories.**  Every byte string a connection hands to its transport during an
arbitrary session history is a well-formed FIX frame (`RefFrame` of Props/C02: BeginString,
BodyLength = byte count of the body starting with `35=`, CheckSum = byte sum mod 256 as three
digits) and consists of single bytes. -/
theorem write_effects_refframe (sr : Msg → Bool) (c : Conn) (evs : List Event) (f : Msg)
    (h : Effect.write f ∈ (run sr c evs).2) :
    C02.RefFrame (render f) ∧ ∀ b ∈ render f, b < 256 := by
  obtain ⟨⟨s, stamp, m, seq, rfl⟩, hl⟩ := write_effects_built sr c evs f h
  exact ⟨buildFrame_refframe s stamp m seq, render_lt_256 _ hl⟩

/-- … and is an output of the codec model's encoder that its latin-1 step (`toWire`) lets through. -/
theorem write_effects_codec (sr : Msg → Bool) (c : Conn) (evs : List Event) (f : Msg)
    (h : Effect.write f ∈ (run sr c evs).2) :
    ∃ (s : Session.Session) (stamp : String) (m : Msg) (seq : Int),
      Codec.assemble Proto.beginStringBytes (toCodec m) (toCodecSession s) (Codec.intToDec seq) (cps stamp)
        = .ok (render f) ∧ Codec.toWire (render f) = .ok (render f) := by
  obtain ⟨⟨s, stamp, m, seq, rfl⟩, hl⟩ := write_effects_built sr c evs f h
  refine ⟨s, stamp, m, seq, Bridge.render_buildFrame_assemble s stamp m seq, ?_⟩
  have h256 := render_lt_256 _ hl
  unfold Codec.toWire
  rw [if_pos]
  simpa using h256

/-! ### non-vacuity -/

/-- the two generated BeginString constants agree -/
example : cps Proto.beginString = Proto.beginStringBytes := beginString_agree

/-- a concrete frame: `35=D|55=A` from S to T, number 7, clock text `20` – the message of the
non-vacuity example of Props/C02 – renders to `8=FIX.4.4|9=31|35=D|49=S|56=T|34=7|52=20|55=A|10=173|` -/
example : render (buildFrame { sender := "S", target := "T" } "20" ⟨"D", [(55, "A")]⟩ 7) =
    [56, 61, 70, 73, 88, 46, 52, 46, 52, 1, 57, 61, 51, 49, 1, 51, 53, 61, 68, 1, 52, 57, 61, 83, 1,
     53, 54, 61, 84, 1, 51, 52, 61, 55, 1, 53, 50, 61, 50, 48, 1, 53, 53, 61, 65, 1,
     49, 48, 61, 49, 55, 51, 1] := by rw [render_eq_renderC]; decide +kernel

/-- … which is `toCodec` of it, and the codec model's encoder gives the same bytes (`#eval` of the
example of Props/C02) -/
example : toCodec ⟨"D", [(55, "A")]⟩ = ⟨[68], [.leaf [53, 53] [65]]⟩ := by
  have h : Codec.natToDec 55 = [53, 53] := by simp [Codec.natToDec]
  have h1 : cps "D" = [68] := by decide +kernel
  have h2 : cps "A" = [65] := by decide +kernel
  simp only [toCodec, List.map_cons, List.map_nil, h, h1, h2]

def exConn : Conn := Session.Conn.create "INIT" "ACPT" {} 30 Session.roleInitiator
def exEnv : Env := { now := 1700000000000, stamp := "20240102-00:00:00.000" }
def exLogon : Msg := Msg.mk' Session.mLogon [(Session.tEncryptMethod, "0"), (Session.tHeartBtInt, "30")]
def exPeer (mtype : String) (seq : Int) (body : List (Nat × String)) : Msg :=
  Msg.ofFields ([(8, "FIX.4.4"), (9, "0"), (35, mtype), (49, "ACPT"), (56, "INIT"), (34, toString seq),
    (52, "20240102-00:00:01.000")] ++ body ++ [(10, "000")])

/-- logon, logon reply, two application sends, a ResendRequest (replays + gap fill), a TestRequest
(heartbeat), a watchdog tick, a refused non-latin-1 send, logout -/
def exHist : List Event := [
  .connected .initiator,
  .appSend exEnv exLogon,
  .recv exEnv (exPeer "A" 1 [(98, "0"), (108, "30")]),
  .appSend exEnv (Msg.mk' "D" [(11, "c1"), (58, "one")]),
  .appSend exEnv (Msg.mk' "D" [(11, "c2"), (58, "hé")]),
  .recv exEnv (exPeer "2" 2 [(7, "1"), (16, "0")]),
  .recv exEnv (exPeer "1" 3 [(112, "T")]),
  .tick exEnv,
  .appSend exEnv (Msg.mk' "D" [(58, "€")]),
  .appDisconnect exEnv 1 (some "bye") ]

def isWrite : Effect → Bool
  | .write _ => true
  | _ => false

/-- the history is evaluated once for both facts below -/
theorem exHist_writes : ((run (fun _ => true) exConn exHist).2.filter isWrite).length = 8 ∧
    Effect.write (buildFrame exConn.sess exEnv.stamp exLogon 1) ∈ (run (fun _ => true) exConn exHist).2 := by
  decide +kernel

/-- the history does hand frames to the transport (eight of them) … -/
example : ((run (fun _ => true) exConn exHist).2.filter isWrite).length = 8 := exHist_writes.1

/-- … the first being the Logon frame numbered 1 -/
example : Effect.write (buildFrame exConn.sess exEnv.stamp exLogon 1) ∈ (run (fun _ => true) exConn exHist).2 :=
  exHist_writes.2

end AsyncFix.Props.C02Hist
