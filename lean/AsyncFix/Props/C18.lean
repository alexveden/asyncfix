/-
C18 — message containers behave as insertion-ordered tag maps with strict duplicate rules.

All theorems are about `AsyncFix.Model.Container` (the mirror of asyncfix/message.py that
`harness/c18.py` compares with the implementation after every operation), for arbitrary containers
and arbitrary operation sequences (`run c ops`, induction over `ops`; no bound on sizes).

Reference specification (stated in `Lemmas/ContainerDict.lean`): `OMap` = first-insertion order of the
keys + partial function; `put` on a present key changes only the value, on an absent key appends the key;
`remove` forgets it.  `absMap` abstracts a container to it and loses nothing (`reference_map_faithful`).

The model mirrors /repo after the fix commits 7c684d5 (structural container equality), 68fefe3 (dict
equality skips the framing tags), 9e4749c (`_check_tag` in add_group / set_group, DuplicatedTagError on a
plain tag) and 8584485 (lower bound in get_group_by_index).  One sentence of the property fails
(`get_after_set_any_spelling_full`, refuted in `Findings/C18.lean`): non-canonical decimal spellings of a tag
are separate keys.
-/
import AsyncFix.Lemmas.ContainerRenderInj
import AsyncFix.Lemmas.ContainerEq
import AsyncFix.Lemmas.ContainerGroups
namespace AsyncFix.Props.C18
open AsyncFix.Py AsyncFix.Model.Container

/-- Every operation on a container is the same operation on the reference map, exception kinds included … -/
theorem step_refines_reference_map (c : Cont) (op : Op) (hnd : (keys c).Nodup) :
    Spec.step (absMap c) op = (absMap (step c op).1, (step c op).2) := by
  unfold step Spec.step
  rw [apply_refines c op hnd]
  cases op.apply c <;> rfl

/-- … hence every operation sequence is the same sequence on the reference map. -/
theorem refines_reference_map (c : Cont) (ops : List Op) (hnd : (keys c).Nodup) :
    absMap (run c ops) = Spec.run (absMap c) ops := by
  induction ops generalizing c with
  | nil => rfl
  | cons op ops ih =>
    rw [run, Spec.run, step_refines_reference_map c op hnd]
    exact ih _ (step_nodup c op hnd)

/-- The abstraction is faithful: the reference map is well formed, iterating it gives the container back. -/
theorem reference_map_faithful (c : Cont) (hnd : (keys c).Nodup) :
    (absMap c).WF ∧ (absMap c).items = c :=
  ⟨⟨hnd, fun k => (hasKey_iff_mem_keys k c).symm⟩, items_absMap c hnd⟩

/-- No tag ever occurs twice, whatever is done to a container (the empty one included). -/
theorem keys_nodup_invariant (c : Cont) (ops : List Op) (hnd : (keys c).Nodup) : (keys (run c ops)).Nodup :=
  run_preserves _ step_nodup c ops hnd

example : (keys (run [] [.set (.int 1) (.obj (.str [97])) false, .set (.str [49]) (.obj (.int 5)) true,
    .addGroup (.int 5) (.dict []) (-1), .del (.int 1)])).Nodup :=
  keys_nodup_invariant [] _ (by simp [keys])

/-- int, decimal string and tag enum member are one key. -/
theorem tag_spelling (n : Int) :
    (PyObj.str (renderInt n)).pyStr = (PyObj.int n).pyStr ∧ (PyObj.ftag (renderInt n)).pyStr = (PyObj.int n).pyStr :=
  ⟨rfl, rfl⟩

/-- every int tag (within the interpreter's digit limit) is accepted by `set` -/
theorem int_tag_accepted (c : Cont) (n : Int) (hn : n.natAbs < 10 ^ AsyncFix.Generated.PyUnicode.maxStrDigits)
    (o : PyObj) : ∃ c', set c (.int n) (.obj o) true = .ok c' := by
  have := intLike_renderInt n hn
  simp [Model.Container.set, PyObj.pyStr, this]

/-- All container methods see a tag only through `str(tag)`: two spellings with the same `str()` are
interchangeable in every operation. -/
theorem spelling_independent (c : Cont) (t t' : PyObj) (h : t'.pyStr = t.pyStr) :
    (∀ v r, set c t' v r = set c t v r) ∧ (∀ d, get c t' d = get c t d) ∧ isGroup c t' = isGroup c t ∧
    contains c t' = contains c t ∧ delItem c t' = delItem c t ∧
    (∀ g i, addGroup c t' g i = addGroup c t g i) ∧ (∀ gs, setGroup c t' gs = setGroup c t gs) ∧
    getGroupList c t' = getGroupList c t ∧ (∀ i, getGroupByIndex c t' i = getGroupByIndex c t i) ∧
    (∀ gt gv, getGroupByTag c t' gt gv = getGroupByTag c t gt gv) := by
  simp only [Model.Container.set, Model.Container.get, isGroup, contains, delItem, addGroup, setGroup, getGroupList,
    getGroupByIndex, getGroupByTag, h, implies_true, and_self]

/-- `query()` converts its tags differently (`FTag(str(t))`, else `str(int(t))`), with the same result
for the three spellings of an int. -/
theorem query_key_spelling (n : Int) (hn : n.natAbs < 10 ^ AsyncFix.Generated.PyUnicode.maxStrDigits) :
    queryKey (.int n) = .ok (renderInt n) ∧ queryKey (.str (renderInt n)) = .ok (renderInt n) ∧
    queryKey (.ftag (renderInt n)) = .ok (renderInt n) := by
  have h := pyIntOfString_renderInt_of_lt n hn
  have key : ∀ t : PyObj, t.pyStr = renderInt n → t.pyInt = .ok n → queryKey t = .ok (renderInt n) := by
    intro t hs hi
    unfold queryKey
    split
    · rw [hs]
    · rw [hi]
  exact ⟨key _ rfl rfl, key _ rfl (by simp [PyObj.pyInt, h]), key _ rfl (by simp [PyObj.pyInt, h])⟩

/-- get after set: the string form of the value, under any spelling of the tag, with or without default. -/
theorem get_after_set (c c' : Cont) (t t' : PyObj) (o : PyObj) (r : Bool) (d : Default)
    (h : set c t (.obj o) r = .ok c') (ht : t'.pyStr = t.pyStr) : get c' t' d = .ok (.str o.pyStr) := by
  simp [Model.Container.get, ht, lookup_after_set c c' t o r h]

/-- … and it stays readable through any later operations that do not write that tag. -/
theorem get_after_set_frame (c c' : Cont) (t t' : PyObj) (o : PyObj) (r : Bool) (d : Default) (ops : List Op)
    (h : set c t (.obj o) r = .ok c') (ht : t'.pyStr = t.pyStr)
    (hops : ∀ op ∈ ops, op.key ≠ some t.pyStr) : get (run c' ops) t' d = .ok (.str o.pyStr) := by
  simp [Model.Container.get, ht, run_lookup_other c' ops _ hops, lookup_after_set c c' t o r h]

example : get (run [] [.set (.int 35) (.obj (.int (-7))) false, .set (.int 1) (.obj (.str [97])) false])
    (.ftag [51, 53]) (.cls .tagNotFound) = .ok (.str (PyObj.int (-7)).pyStr) := by
  have h : Model.Container.set [] (.int 35) (.obj (.int (-7))) false
      = .ok (dictSet [51, 53] (.str (PyObj.int (-7)).pyStr) []) := by
    simp [Model.Container.set, PyObj.pyStr, renderInt_35, il35, hasKey, lookup]
  have hs : step [] (.set (.int 35) (.obj (.int (-7))) false)
      = (dictSet [51, 53] (.str (PyObj.int (-7)).pyStr) [], none) := by
    simp only [step, Op.apply, h]
  have := get_after_set_frame [] _ (.int 35) (.ftag [51, 53]) (.int (-7)) false (.cls .tagNotFound)
    [.set (.int 1) (.obj (.str [97])) false] h (by simp [PyObj.pyStr, renderInt_35])
    (by simp [Op.key, PyObj.pyStr, renderInt_35, renderInt_1])
  simpa only [run, hs] using this

/-- Sentence of the property that fails: "…whether the tag is given as int, decimal string…" for decimal
strings that are not the canonical `str(int)` (`"01"`, `" 1"`, `"+1"`, `"1_0"`, `"١"`): they are accepted
but stored under their own spelling. -/
def get_after_set_any_spelling_full : Prop :=
  ∀ (c c' : Cont) (s : Str) (n : Int) (o : PyObj), pyIntOfString s = some n →
    set c (.str s) (.obj o) true = .ok c' → get c' (.int n) (.cls .tagNotFound) = .ok (.str o.pyStr)

/-- proved part: all spellings whose `str()` is the canonical decimal (int, FTag member, `str(n)`) -/
theorem get_after_set_any_spelling_partial (c c' : Cont) (s : Str) (n : Int) (o : PyObj)
    (hcanon : s = renderInt n) (h : set c (.str s) (.obj o) true = .ok c') :
    get c' (.int n) (.cls .tagNotFound) = .ok (.str o.pyStr) :=
  get_after_set c c' (.str s) (.int n) o true _ h (by simp [PyObj.pyStr, hcanon])

/-- setting an existing tag without `replace` raises DuplicatedTagError (any non-class value) -/
theorem set_dup_refused (c : Cont) (t o : PyObj) (hi : intLike t.pyStr = true) (hk : contains c t = true) :
    set c t (.obj o) false = .error .duplicated := by
  simp only [contains] at hk
  simp [Model.Container.set, hi, hk]

/-- `set_group` on an existing tag (plain or group) raises DuplicatedTagError -/
theorem set_group_dup_refused (c : Cont) (t : PyObj) (gs : List DItem) (hi : intLike t.pyStr = true)
    (hk : contains c t = true) : setGroup c t gs = .error .duplicated := by
  simp only [contains] at hk
  simp [setGroup, hi, hk]

/-- whatever an operation raises, the container is exactly as before (all mutators) -/
theorem set_dup_atomic (c : Cont) (op : Op) (k : Kind) (h : (step c op).2 = some k) : (step c op).1 = c := by
  unfold step at h ⊢
  cases h' : op.apply c with
  | ok c' => rw [h'] at h; cases h
  | error e => rfl

/-- hence raising operations can be dropped from any history without changing the outcome -/
theorem raising_ops_are_noops (c : Cont) (op : Op) (ops : List Op) (k : Kind) (h : (step c op).2 = some k) :
    run c (op :: ops) = run c ops := by
  simp [run, set_dup_atomic c op k h]

example : (step [([49], .str [97])] (.set (.int 1) (.obj (.str [98])) false)).2 = some .duplicated := by
  simp [step, Op.apply, Model.Container.set, PyObj.pyStr, renderInt_1, il1, hasKey, lookup]

theorem replace_keeps_position (c c' : Cont) (t o : PyObj) (hk : contains c t = true)
    (h : set c t (.obj o) true = .ok c') :
    keys c' = keys c ∧ lookup t.pyStr c' = some (.str o.pyStr) ∧ ∀ k, k ≠ t.pyStr → lookup k c' = lookup k c := by
  have e := (set_ok c c' t _ true h).2
  exact ⟨by rw [e, keys_dictSet, if_pos ((hasKey_iff_mem_keys _ _).1 hk)], lookup_after_set c c' t o true h,
    fun k hk' => by rw [e, lookup_dictSet, if_neg hk']⟩

theorem new_tag_appended (c c' : Cont) (t o : PyObj) (r : Bool) (hk : contains c t = false)
    (h : set c t (.obj o) r = .ok c') : keys c' = keys c ++ [t.pyStr] := by
  have hm : t.pyStr ∉ keys c := fun hm => by simp [contains, (hasKey_iff_mem_keys _ _).2 hm] at hk
  rw [(set_ok c c' t _ r h).2, keys_dictSet, if_neg hm]

/-- one operation leaves the key order alone, appends one new key, or removes the deleted key -/
theorem step_order (c : Cont) (op : Op) :
    keys (step c op).1 = keys c ∨
    (∃ k, op.key = some k ∧ k ∉ keys c ∧ keys (step c op).1 = keys c ++ [k]) ∨
    (∃ t, op = .del t ∧ keys (step c op).1 = (keys c).erase t.pyStr) := by
  rcases step_shape c op with e | ⟨k, v, hk, _, e⟩ | ⟨t, ht, e⟩ <;> rw [e]
  · exact Or.inl rfl
  · rw [keys_dictSet]
    split
    · exact Or.inl rfl
    · next hm => exact Or.inr (Or.inl ⟨k, hk, hm, rfl⟩)
  · exact Or.inr (Or.inr ⟨t, ht, keys_dictDel _ _⟩)

/-- Iteration order is first-insertion order: through ANY operation sequence, the tags that are not
deleted keep their relative order (set, replace, add_group, set_group, failed operations, pickling and
deletion of other tags never reorder them). -/
theorem order_preserved (c : Cont) (ops : List Op) (l : List Str) (hl : l.Sublist (keys c))
    (hdel : ∀ op ∈ ops, ∀ t, op = .del t → t.pyStr ∉ l) : l.Sublist (keys (run c ops)) := by
  induction ops generalizing c with
  | nil => exact hl
  | cons op ops ih =>
    refine ih _ ?_ (fun o ho => hdel o (by simp [ho]))
    rcases step_order c op with e | ⟨k, _, _, e⟩ | ⟨t, ht, e⟩ <;> rw [e]
    · exact hl
    · exact hl.trans (List.sublist_append_left _ _)
    · have := hl.erase t.pyStr
      rwa [List.erase_of_not_mem (hdel op (by simp) t ht)] at this

example : [[49], [51]].Sublist (keys (run [([49], .str [97]), ([50], .str [98]), ([51], .str [99])]
    [.del (.str [50]), .set (.str [49]) (.obj (.str [120])) true, .set (.str [50]) (.obj (.str [121])) false])) :=
  order_preserved _ _ _ (by simp [keys]) (by simp [PyObj.pyStr])

theorem nonint_tag_refused_set (c : Cont) (t : PyObj) (v : PyVal) (r : Bool) (h : intLike t.pyStr = false) :
    step c (.set t v r) = (c, some .fixMessageError) := by
  simp [step, Op.apply, Model.Container.set, h]

/-- EVERY mutator (set / `__setitem__`, add_group, set_group) refuses a tag that `int()` rejects with
FIXMessageError and leaves the container unchanged -/
theorem nonint_tag_refused (c : Cont) (op : Op) (k : Str) (hk : op.key = some k) (hi : intLike k = false)
    (hdel : ∀ t, op ≠ .del t) : step c op = (c, some .fixMessageError) := by
  cases op with
  | set t v r =>
    simp only [Op.key, Option.some.injEq] at hk; subst hk
    exact nonint_tag_refused_set c t v r hi
  | del t => exact absurd rfl (hdel t)
  | addGroup t g i =>
    simp only [Op.key, Option.some.injEq] at hk; subst hk
    simp [step, Op.apply, addGroup, hi]
  | setGroup t gs =>
    simp only [Op.key, Option.some.injEq] at hk; subst hk
    simp [step, Op.apply, setGroup, hi]
  | pickle => simp [Op.key] at hk

/-- … and so does the constructor, for plain and for list values -/
theorem nonint_tag_refused_ctor (t : PyObj) (v : DVal) (rest : List DEntry) (acc : Cont)
    (hi : intLike t.pyStr = false) : buildDict (.mk t v :: rest) acc = .error .fixMessageError := by
  cases v with
  | plain pv => simp [buildDict, Model.Container.set, hi]
  | list items => simp [buildDict, hi]

/-- for arbitrary histories: nothing is ever stored under a tag that `int()` rejects -/
theorem tags_intlike_invariant (c : Cont) (ops : List Op) (h : TagsIntLike c) : TagsIntLike (run c ops) :=
  run_preserves _ step_tagsIntLike c ops h

example : TagsIntLike (run [] [.set (.str [120]) (.obj (.str [97])) false, .addGroup (.str [120]) (.dict []) (-1),
    .set (.int 1) (.cls .repeating) false]) :=
  tags_intlike_invariant [] _ (by intro p hp; simp at hp)

/-- `add_group(tag, item, index)`: the list under the tag becomes the old list with the item inserted at
`addPos` (= Python's `list.insert` position; `-1` = append; a new tag starts from the empty list). -/
theorem add_group_inserts (c c' : Cont) (t t' : PyObj) (g : DItem) (i : Int) (h : addGroup c t g i = .ok c')
    (ht : t'.pyStr = t.pyStr) :
    ∃ old gc, g.toCont = .ok gc ∧
      (getGroupList c t = .ok old ∨ (contains c t = false ∧ old = [])) ∧
      getGroupList c' t' = .ok (old.take (addPos old.length i) ++ gc :: old.drop (addPos old.length i)) ∧
      addPos old.length i ≤ old.length := by
  obtain ⟨old, gc, _, hg, hold, e⟩ := addGroup_ok c c' t g i h
  refine ⟨old, gc, hg, ?_, ?_, addPos_le _ _⟩
  · rcases hold with hl | ⟨hl, he⟩
    · exact Or.inl (by simp [getGroupList, hl])
    · exact Or.inr ⟨by simp [contains, hasKey, hl], he⟩
  · rw [e, getGroupList_dictSet _ _ _ _ ht, groupAdd_eq]

theorem add_group_position (n : Nat) (i : Int) :
    (i = -1 → addPos n i = n) ∧ ((n : Int) ≤ i → addPos n i = n) ∧
    (0 ≤ i → i ≤ n → addPos n i = i.toNat) ∧
    (i < -1 → 0 ≤ i + n → addPos n i = (i + n).toNat) ∧ (i < -1 → i + n < 0 → addPos n i = 0) := by
  have := addPos_spec n i
  omega

/-- the new item is found at its position, the old items keep their order around it -/
theorem add_group_then_index (items : List Cont) (g : Cont) (i : Int) :
    (groupAdd items g i)[addPos items.length i]? = some g ∧
    (∀ j, j < addPos items.length i → (groupAdd items g i)[j]? = items[j]?) ∧
    (∀ j, addPos items.length i ≤ j → (groupAdd items g i)[j + 1]? = items[j]?) ∧
    (groupAdd items g i).length = items.length + 1 := by
  rw [groupAdd_insertIdx]
  have h := addPos_le items.length i
  exact ⟨by rw [List.getElem?_insertIdx_self, if_pos h], fun j hj => List.getElem?_insertIdx_of_lt hj,
    fun j hj => List.getElem?_insertIdx_of_gt (by omega), List.length_insertIdx_of_le_length h g⟩

/-- `set_group` stores the items in list order and `get_group_list` returns them so -/
theorem set_group_then_list (c c' : Cont) (t t' : PyObj) (gs : List DItem) (h : setGroup c t gs = .ok c')
    (ht : t'.pyStr = t.pyStr) : ∃ items, buildItems gs = .ok items ∧ getGroupList c' t' = .ok items := by
  obtain ⟨items, _, hb, _, e⟩ := setGroup_ok c c' t gs h
  exact ⟨items, hb, by rw [e, getGroupList_dictSet _ _ _ _ ht]⟩

/-- `get_group_by_index`: Python indexing for `-len ≤ i < len`, the documented TagNotFoundError for every
index out of range (above and below), never an IndexError -/
theorem get_group_by_index_spec (c : Cont) (t : PyObj) (items : List Cont) (h : getGroupList c t = .ok items) :
    (∀ (i : Nat) (hi : i < items.length), getGroupByIndex c t i = .ok items[i]) ∧
    (∀ (j : Nat) (h0 : 0 < j) (hj : j ≤ items.length),
        getGroupByIndex c t (-(j : Int)) = .ok (items[items.length - j]'(by omega))) ∧
    (∀ i : Int, (i < -(items.length : Int) ∨ (items.length : Int) ≤ i) →
        getGroupByIndex c t i = .error .tagNotFound) :=
  ⟨fun i hi => byIndex_ok c t items h i i hi (Or.inl rfl),
   fun j h0 hj => byIndex_ok c t items h _ (items.length - j) (by omega) (Or.inr (by omega)),
   byIndex_outside c t items h⟩

theorem get_group_by_index_no_indexerror (c : Cont) (t : PyObj) (i : Int) :
    getGroupByIndex c t i ≠ .error .indexError := by
  -- `get_group_list` raises other kinds, an index outside `-len ≤ i < len` is a TagNotFoundError, one inside
  -- names an element
  cases h : getGroupList c t with
  | error k =>
    have hk : k ≠ .indexError := by
      rintro rfl
      simp only [getGroupList] at h
      split at h <;> cases h
    simpa [getGroupByIndex, h] using hk
  | ok items =>
    by_cases hi : i < -(items.length : Int) ∨ (items.length : Int) ≤ i
    · simp [byIndex_outside c t items h i hi]
    · by_cases h0 : 0 ≤ i
      · simp [byIndex_ok c t items h i i.toNat (by omega) (by omega)]
      · simp [byIndex_ok c t items h i (i + items.length).toNat (by omega) (by omega)]

/-- `get_group_by_tag` returns the FIRST item that holds the value under the inner tag -/
theorem get_group_by_tag_first (c : Cont) (t gt gv : PyObj) (g : Cont) (h : getGroupByTag c t gt gv = .ok g) :
    ∃ items pre post, getGroupList c t = .ok items ∧ items = pre ++ g :: post ∧ Matches gt gv g ∧
      ∀ x ∈ pre, ¬ Matches gt gv x := by
  simp only [getGroupByTag] at h
  split at h
  · simp at h
  · next items hl =>
    obtain ⟨pre, post, e, hm, hn⟩ := findByTag_ok gt gv items g h
    exact ⟨items, pre, post, hl, e, hm, hn⟩

theorem get_group_by_tag_missing (c : Cont) (t gt gv : PyObj) (items : List Cont)
    (hl : getGroupList c t = .ok items)
    (hplain : ∀ x ∈ items, lookup gt.pyStr x = none ∨ ∃ s, lookup gt.pyStr x = some (.str s))
    (hno : ∀ x ∈ items, ¬ Matches gt gv x) : getGroupByTag c t gt gv = .error .tagNotFound := by
  simp [getGroupByTag, hl, findByTag_none gt gv items hplain hno]

/-- missing / plain / group tags are told apart by the documented errors -/
theorem accessor_error_kinds (c : Cont) (t : PyObj) :
    (lookup t.pyStr c = none →
        isGroup c t = none ∧ contains c t = false ∧ getItem c t = .error .tagNotFound ∧
        getGroupList c t = .error .tagNotFound ∧ (∀ i, getGroupByIndex c t i = .error .tagNotFound) ∧
        (∀ gt gv, getGroupByTag c t gt gv = .error .tagNotFound) ∧ delItem c t = .error .keyError) ∧
    (∀ s, lookup t.pyStr c = some (.str s) →
        isGroup c t = some false ∧ contains c t = true ∧ (∀ d, get c t d = .ok (.str s)) ∧
        getGroupList c t = .error .unmapped ∧ (∀ i, getGroupByIndex c t i = .error .unmapped) ∧
        (∀ gt gv, getGroupByTag c t gt gv = .error .unmapped)) ∧
    (∀ items, lookup t.pyStr c = some (.group items) →
        isGroup c t = some true ∧ contains c t = true ∧ (∀ d, get c t d = .error .fixMessageError) ∧
        getGroupList c t = .ok items) := by
  refine ⟨fun h => ?_, fun s h => ?_, fun items h => ?_⟩ <;>
    simp [isGroup, contains, hasKey, getItem, Model.Container.get, getCls, getGroupList, getGroupByIndex, getGroupByTag, delItem, h]

/-- `add_group` reports misuse by the documented library errors only: FIXMessageError (bad tag, bad item, or
what the item's constructor raises) or DuplicatedTagError (the tag holds a plain value) -/
theorem add_group_errors (c : Cont) (t : PyObj) (g : DItem) (i : Int) (k : Kind) (h : addGroup c t g i = .error k) :
    (intLike t.pyStr = false ∧ k = .fixMessageError) ∨ g.toCont = .error k ∨
    (k = .duplicated ∧ ∃ v, lookup t.pyStr c = some v ∧ ∀ gs, v ≠ .group gs) := by
  simp only [addGroup] at h
  split at h
  · next hi =>
    simp only [Except.error.injEq] at h
    exact Or.inl ⟨by simpa using hi, h.symm⟩
  · split at h
    · next e he => simp only [Except.error.injEq] at h; exact Or.inr (Or.inl (by rw [he, h]))
    · split at h
      · simp at h
      · next v hne hl =>
        simp only [Except.error.injEq] at h
        exact Or.inr (Or.inr ⟨h.symm, _, hl, fun gs e => hne gs e⟩)
      · simp at h

/-- the constructor of an item raises only library errors, so `add_group` / `set_group` / `FIXContainer(dict)`
never let a foreign exception escape -/
theorem add_group_never_attribute_error (c : Cont) (t : PyObj) (i : Int) (gc : Cont) :
    addGroup c t (.cont gc) i ≠ .error .attributeError := by
  intro h
  rcases add_group_errors c t (.cont gc) i _ h with ⟨_, e⟩ | e | ⟨e, _⟩
  · simp at e
  · simp [DItem.toCont] at e
  · simp at e

theorem pickle_roundtrip (c : Cont) : pickleRoundtrip c = c ∧ eq (pickleRoundtrip c) c = true := by
  simp [pickleRoundtrip, (beqFields_iff c c).2 rfl, Model.Container.eq]

/-- a round trip anywhere in a history changes nothing that follows -/
theorem pickle_anywhere (c : Cont) (ops₁ ops₂ : List Op) : run c (ops₁ ++ .pickle :: ops₂) = run c (ops₁ ++ ops₂) := by
  induction ops₁ generalizing c with
  | nil => simp [run, step, Op.apply, pickleRoundtrip]
  | cons op ops ih => simp only [List.cons_append, run]; exact ih _

/-- container `==` holds exactly when the tag/value content (order, nested items included) is the same —
for ALL containers: any strings, class-object markers, any nesting -/
theorem eq_iff_same_content (a b : Cont) : eq a b = true ↔ a = b :=
  beqFields_iff a b

theorem eq_refl (a : Cont) : eq a a = true := (eq_iff_same_content a a).2 rfl

example : eq [([49], .str [97, 124, 50, 61, 98])] [([49], .str [97]), ([50], .str [98])] = false := by
  cases h : eq [([49], .str [97, 124, 50, 61, 98])] [([49], .str [97]), ([50], .str [98])] with
  | false => rfl
  | true => exact absurd ((eq_iff_same_content _ _).1 h) (by simp)

/-- `__str__` is unambiguous on the safe fragment: no class-object values,
string values without `|` `,` `[` `]`, tags as `set()` accepts them -/
theorem str_injective_on_safe (a b : Cont) (ha : Cont.safe a = true) (hb : Cont.safe b = true)
    (h : render a = render b) : a = b :=
  injL_fields a b ha hb (fields_of_render a b ha hb h)

/-- every tag `set()` accepts satisfies the tag half of `safe` -/
theorem intLike_tag_safe (t : Str) (h : intLike t = true) : tagOk t = true := by
  simp only [tagOk, List.all_eq_true]
  intro c hc
  simp [intLike_no_special t h c hc]

example : Cont.safe [([49], .str [97, 61, 98]), ([53], .group [[([50], .str [120])], []])] = true := by
  simp [Cont.safe, safeFields, Val.safe, safeItems, tagOk, strOk, isSpecial]

/-- `container == dict` is True exactly when the content is the same ignoring the four framing tags on both
sides: the other tags agree as sets and every non-framing item of the dict is stored as exactly that string -/
theorem eqDict_iff (c : Cont) (d : List (PyObj × PyObj)) :
    eqDict c d = .ok true ↔ SameContentIgnoringFraming c d := by
  unfold SameContentIgnoringFraming
  rw [eqDict_unfold, ← sameTags_iff, ← eqDictLoop_true_iff]
  by_cases h : tagSetsAgree c d = true
  · simp only [h, if_true, true_and]
  · simp [h]

/-- It raises only: FIXMessageError for a group under a non-framing tag of the dict (documented); TagNotFound /
Repeating when the decoder's error-marker class is stored under such a tag. -/
theorem eqDict_raises_only_when (c : Cont) (d : List (PyObj × PyObj)) (k : Kind) (h : eqDict c d = .error k) :
    SameTags c d ∧ ∃ p ∈ d, p.1.pyStr ∉ ignoreStrs ∧
      ((k = .fixMessageError ∧ ∃ gs, lookup p.1.pyStr c = some (.group gs)) ∨
      (k = .tagNotFound ∧ lookup p.1.pyStr c = some (.cls .tagNotFound)) ∨
      (k = .repeating ∧ lookup p.1.pyStr c = some (.cls .repeating))) := by
  rw [eqDict_unfold] at h
  split at h
  · next hs =>
    have hst := (sameTags_iff c d).1 hs
    obtain ⟨p, hp, hi, hc⟩ := eqDictLoop_error c d k h
    refine ⟨hst, p, hp, hi, ?_⟩
    -- the loop's "tag missing" case cannot occur: the tag sets agree
    have hin : lookup p.1.pyStr c ≠ none := fun hn =>
      (lookup_eq_none_iff _ _).1 hn ((hst _ hi).2 ⟨p, hp, rfl⟩)
    rcases hc with hc | ⟨hk, hn | hn⟩ | hc
    · exact Or.inl hc
    · exact absurd hn hin
    · exact Or.inr (Or.inl ⟨hk, hn⟩)
    · exact Or.inr (Or.inr hc)
  · cases h

/-- for containers of plain strings dict equality is total and decides "same content ignoring framing tags" -/
theorem eqDict_total (c : Cont) (d : List (PyObj × PyObj)) (hp : Plain c) :
    ∃ b, eqDict c d = .ok b ∧ (b = true ↔ SameContentIgnoringFraming c d) := by
  have hb : ∃ b, eqDict c d = .ok b := by
    cases h : eqDict c d with
    | ok b => exact ⟨b, rfl⟩
    | error k =>
      obtain ⟨_, p, _, _, hc⟩ := eqDict_raises_only_when c d k h
      rcases hc with ⟨_, gs, hl⟩ | ⟨_, hl⟩ | ⟨_, hl⟩ <;> (obtain ⟨s, hs⟩ := hp _ _ hl; cases hs)
  obtain ⟨b, hb⟩ := hb
  refine ⟨b, hb, ?_⟩
  constructor
  · intro e; subst e; exact (eqDict_iff c d).1 hb
  · intro h
    have := (eqDict_iff c d).2 h
    rw [hb] at this
    simpa using this

/-- the framing tags are the generated `ignore_tags` literal: 8, 9, 10, 35 -/
theorem ignoreStrs_eq : ignoreStrs = [[56], [57], [49, 48], [51, 53]] := by
  simp only [ignoreStrs, AsyncFix.Generated.FTags.ignoreTags, List.map_cons, List.map_nil]
  rw [natDigits_one 8 (by omega), natDigits_one 9 (by omega), natDigits_two 10 (by omega) (by omega),
    natDigits_two 35 (by omega) (by omega)]

example : Plain [([49], .str [97]), ([56], .str [70])] := by
  intro k v h
  simp only [lookup] at h
  split at h
  · simp only [Option.some.injEq] at h; exact ⟨_, h.symm⟩
  · split at h
    · simp only [Option.some.injEq] at h; exact ⟨_, h.symm⟩
    · simp at h

end AsyncFix.Props.C18
