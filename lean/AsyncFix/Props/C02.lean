/-
C02 — every frame put on the wire is a well-formed FIX frame.

`RefFrame` is the spec, written without reference to the encoder (the Python oracle
`harness/codec_common.ref_parse` is the same definition as a parser).  The theorems say that every
successful result of the model encoder – and hence, after the latin-1 step of `send_msg`, every
byte string handed to the transport – satisfies it, for every message, session and clock value;
and that text outside latin-1 is refused.
-/
import AsyncFix.Model.Codec.Encode
import AsyncFix.Lemmas.CodecEncodeShape
namespace AsyncFix.Props.C02
open AsyncFix.Model.Codec

/-- `8=<bs>|9=<n>|<body>10=<ddd>|` with `body` starting with `35=`, ending with SOH, `n` bytes long,
`ddd` = exactly three digits = sum of all preceding bytes mod 256. -/
def RefFrame (f : Bytes) : Prop :=
  ∃ (bs body : Bytes) (ck : Nat),
    f = ([56, 61] ++ bs ++ [SOH]) ++ ([57, 61] ++ natToDec body.length ++ [SOH]) ++ body
          ++ ([49, 48, 61] ++ dec3 ck ++ [SOH]) ∧
    SOH ∉ bs ∧
    [51, 53, 61] <+: body ∧ body.getLast? = some SOH ∧
    ck = sum (([56, 61] ++ bs ++ [SOH]) ++ ([57, 61] ++ natToDec body.length ++ [SOH]) ++ body) % 256 ∧
    (dec3 ck).length = 3 ∧ (∀ d ∈ dec3 ck, isDigit d = true)

theorem natToDec_digits (n : Nat) : ∀ d ∈ natToDec n, isDigit d = true :=
  List.all_eq_true.mp (natToDec_all_digit n)

theorem natToDec_length_lt (n : Nat) (h : n < 1000) :
    (natToDec n).length = if n < 10 then 1 else if n < 100 then 2 else 3 :=
  Model.Codec.natToDec_length_lt n h

theorem dec3_length (n : Nat) (h : n < 1000) : (dec3 n).length = 3 :=
  Model.Codec.dec3_length n h

theorem dec3_digits (n : Nat) : ∀ d ∈ dec3 n, isDigit d = true :=
  List.all_eq_true.mp (dec3_all_digit n)

theorem join3 (a b c : Bytes) : join SOH [a, b, c] = a ++ SOH :: (b ++ SOH :: c) := rfl

/-- the encoder's frame around any rendered fields, MsgType first, is a `RefFrame` -/
theorem frameOf_refframe (bs mt : Bytes) (rest : List Bytes) (hbs : SOH ∉ bs) :
    RefFrame (frameOf bs (field tag35e mt :: rest)) := by
  refine ⟨bs, join SOH (field tag35e mt :: rest) ++ [SOH], _, ?_, hbs, ?_, by simp, rfl,
    dec3_length _ (by omega), dec3_digits _⟩
  · simp only [frameOf, field, EQS, SOH, List.append_assoc, List.cons_append, List.nil_append]
  · cases rest <;> simp [join, field, tag35e, EQS]

/-- Everything `assemble` returns is a `RefFrame` (given a BeginString without SOH). -/
theorem assemble_refframe (bs : Bytes) (m : Msg) (s : Session) (seq now f : Bytes)
    (hbs : SOH ∉ bs) (h : assemble bs m s seq now = .ok f) : RefFrame f := by
  rw [assemble_eq] at h
  split at h
  · cases h
  · cases h; exact frameOf_refframe bs _ _ hbs

/-- **C02, encoder part**: every string the encoder produces is a well-formed FIX frame. -/
theorem encode_refframe (bs : Bytes) (m : Msg) (s : Session) (rawSeq : Bool) (now f : Bytes)
    (hbs : SOH ∉ bs) (h : (encode bs m s rawSeq now).1 = .ok f) : RefFrame f := by
  unfold encode at h
  split at h
  · cases h
  · exact assemble_refframe bs m _ _ now f hbs h

/-- `send_msg`'s `.encode("latin-1")`: identity on code points when all are < 256 … -/
theorem toWire_ok (f w : Bytes) (h : toWire f = .ok w) : w = f ∧ ∀ c ∈ f, c < 256 := by
  unfold toWire at h
  split at h
  · rename_i hall
    simp only [Except.ok.injEq] at h
    exact ⟨h.symm, by simpa using hall⟩
  · cases h

/-- … and a refusal (`UnicodeEncodeError`, turned into `EncodingError` by `send_msg`) otherwise:
a message that cannot be represented is never transmitted. -/
theorem unrepresentable_refused (f : Bytes) (c : Nat) (hc : c ∈ f) (h256 : 256 ≤ c) :
    toWire f = .error .unicodeEncode := by
  unfold toWire
  have : ¬ (f.all (· < 256)) = true := by
    intro hall
    simp only [List.all_eq_true, decide_eq_true_eq] at hall
    have := hall c hc
    omega
  simp [this]

/-- **C02, transport part**: the bytes handed to the transport for an encoded message. -/
theorem wire_refframe (bs : Bytes) (m : Msg) (s : Session) (rawSeq : Bool) (now f w : Bytes)
    (hbs : SOH ∉ bs) (h : (encode bs m s rawSeq now).1 = .ok f) (hw : toWire f = .ok w) :
    RefFrame w ∧ ∀ b ∈ w, b < 256 := by
  obtain ⟨rfl, hlt⟩ := toWire_ok f w hw
  exact ⟨encode_refframe bs m s rawSeq now _ hbs h, hlt⟩

/-- **C02, `send_msg` part**: whatever `send_msg` hands to the transport for a message is a
well-formed frame of single bytes … -/
theorem encodeWire_refframe (bs : Bytes) (m : Msg) (s : Session) (now w : Bytes) (hbs : SOH ∉ bs)
    (h : (encodeWire bs m s now).1 = .ok w) : RefFrame w ∧ ∀ b ∈ w, b < 256 := by
  unfold encodeWire at h
  split at h
  · rename_i f s' he
    split at h
    · rename_i w' hw
      simp only [Except.ok.injEq] at h
      subst h
      exact wire_refframe bs m s false now f _ hbs (by rw [he]) hw
    · cases h
  · cases h

/-- … and a message that is not representable in single bytes is refused with `EncodingError`,
the sequence number it had been given is handed back (session unchanged). -/
theorem encodeWire_refused_unchanged (bs : Bytes) (m : Msg) (s : Session) (now f : Bytes)
    (he : (encode bs m s false now).1 = .ok f) (c : Nat) (hc : c ∈ f) (h256 : 256 ≤ c) :
    (encodeWire bs m s now).1 = .error .encodingError ∧ (encodeWire bs m s now).2.nextOut = s.nextOut := by
  unfold encodeWire
  split
  · rename_i f' s' he'
    have : f' = f := by rw [he'] at he; simpa using he
    subst this
    rw [unrepresentable_refused f' c hc h256]
    simp
  · rename_i k s' he'
    rw [he'] at he; cases he

/-- the sequence-number selection leaves the session alone (raw mode, SequenceReset, PossDup: the
message keeps its number) or consumes exactly one number -/
theorem selectSeq_session {m : Msg} {s s' : Session} {rawSeq : Bool} {seq : Bytes}
    (h : selectSeq m s rawSeq = .ok (seq, s')) :
    s' = s ∨ s' = { s with nextOut := s.nextOut + 1 } :=
  (selectSeq_ok h).imp (fun ⟨_, _, _, e⟩ => e) (fun ⟨_, _, _, e⟩ => e)

/-- the session of `encode` only ever changes by consuming exactly one number -/
theorem encode_session (bs : Bytes) (m : Msg) (s : Session) (rawSeq : Bool) (now : Bytes) :
    (encode bs m s rawSeq now).2 = s ∨
    (encode bs m s rawSeq now).2 = { s with nextOut := s.nextOut + 1 } := by
  unfold encode
  split
  · left; rfl
  · exact selectSeq_session ‹_›

/-- non-vacuity: a concrete message (`35=D|55=A`, session S→T, next number 7) does encode -/
example : ∃ f, (encode [70, 73, 88, 46, 52, 46, 52] ⟨[68], [.leaf [53, 53] [65]]⟩ ⟨[83], [84], 7⟩ false [50, 48]).1
    = .ok f := ⟨_, rfl⟩

end AsyncFix.Props.C02
