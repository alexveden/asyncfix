import AsyncFix.Lemmas.SchedSeq
import AsyncFix.Lemmas.SchedWitness

/-!
# C14 – concurrent senders never corrupt the outbound sequence

Model: `Model/Sched*.lean` – the coroutines of asyncfix/connection.py as resumptions (a yield at every
`await` that can suspend), interleaved by a scheduler under an ARBITRARY schedule (any list of letters
`run i` / `pause` / `resume`, any number of tasks of the three kinds: application sender, watchdog tick,
reader processing one inbound frame of any class).  `Lemmas/SchedSeq.lean`: a resumption that is never
interleaved is the sequential session handler (`never_interleaved_is_sequential` below).

* `atomic_send_prefix_*`  – in `send_msg` the state checks (from the last `on_state_change` on), the number
  allocation, the journal write and the transport write are ONE segment: no other task can run between them.
* `concurrent_senders_consecutive_partial` – sender tasks send new messages, or messages of any kind (also
  PossDupFlag=Y / SequenceReset with their own number) whose text is outside latin-1 (`Task.wf`); for every
  schedule in which no `_process_resend` has rewound
  the outbound counter (`everRewound = false`, a decidable predicate of the schedule prefix) and no acceptor
  Logon reply was lost for want of a transport / a free journal slot (`everWaived = false`, likewise
  decidable; since fix a9dbd9f that failure is re-raised only after `disconnect()`): the new-message
  frames carry strictly increasing numbers in wire order, none below the initial counter; nothing but new
  messages is written; every frame is in the journal under its number; no DuplicateSeqNoError is swallowed
  and none escapes a sender / the watchdog; `stored + 1 = next_num_out` at EVERY point of the schedule;
  and `next_num_out` = initial + frames written + sends that found the transport gone (`lost`).
* `concurrent_senders_gapless_partial` – with `lost = 0` the numbers are consecutive and
  `next_num_out = highest number + 1`.
* `concurrent_full` – the property as stated (no hypothesis on the schedule); refuted in
  `Findings/C14.lean` by the known finding D21 (send inside the resend rewind window) and by the
  connection-revived-after-concurrent-disconnect race.
-/
namespace AsyncFix.Sched.C14

open AsyncFix.Session AsyncFix.Sched AsyncFix.Generated AsyncFix.Generated.ConnEnum

/-! ### 1. atomicity of the send prefix -/

/-- `send_msg` after its state checks: checks, allocation, journal write and transport write are the
sequential function `sendCore` applied ONCE to the connection of that moment – a single segment – and only
then comes the `drain` yield (nothing follows it).  When `sendCore` raises there is no yield at all. -/
theorem atomic_send_prefix_core (env : Env) (m : Msg) (c : Conn) :
    sendCoreR env m c =
      (match sendCore env m c with
       | ⟨.ok _, c1, e⟩ => .yield c1 e [] .drain fun c' => .done c' [] [] (.ok ())
       | ⟨.error ex, c1, e⟩ => .done c1 e [] (.error ex)) := by
  simp only [sendCoreR, R.bind_apply, R.liftM_apply]
  rcases sendCore env m c with ⟨r, c1, e⟩
  cases r with
  | ok a => simp [Res.bind, Res.prepend, R.yield]
  | error ex => rfl

/-- past the Logon exchange (`state > NETWORK_CONN_ESTABLISHED`) the state checks of `send_msg` contain no
await: they are the sequential `sendGate`, in the same segment as what follows -/
theorem gate_no_yield (m : Msg) (c : Conn) (h : st_NETWORK_CONN_ESTABLISHED < c.state) :
    sendGateR m c = .done (sendGate m c).conn (sendGate m c).eff [] (sendGate m c).res := by
  have h1 : ¬ c.state < st_NETWORK_CONN_ESTABLISHED := by omega
  have h2 : (c.state == st_NETWORK_CONN_ESTABLISHED) = false := by
    simp only [beq_eq_false_iff_ne, ne_eq]; omega
  simp only [sendGateR, sendGate, R.bind_apply, R.get_apply, Res.bind, Res.prepend_nil, M.bind_apply,
    M.get_apply, h1, h2, if_false, Bool.false_eq_true, R.ite_apply]
  split <;> rfl

/-- past the Logon exchange the whole `send_msg` up to the drain is one segment: the sequential `sendMsg`
applied to the connection on which the task runs. -/
theorem atomic_send_prefix (env : Env) (m : Msg) (c : Conn) (h : st_NETWORK_CONN_ESTABLISHED < c.state) :
    sendMsgR env m c =
      (match sendMsg env m c with
       | ⟨.ok _, c1, e⟩ => .yield c1 e [] .drain fun c' => .done c' [] [] (.ok ())
       | ⟨.error ex, c1, e⟩ => .done c1 e [] (.error ex)) := by
  simp only [sendMsgR, sendMsg, R.bind_apply, gate_no_yield m c h, M.bind_apply]
  rcases sendGate m c with ⟨r, c1, e⟩
  cases r with
  | error ex => rfl
  | ok a =>
    simp only [Res.bind, atomic_send_prefix_core]
    rcases sendCore env m c1 with ⟨r2, c2, e2⟩
    cases r2 <;> simp [Res.prepend]

/-- the initiator's first message: the only await before the allocation is the `on_state_change` hook of
`_state_set(LOGON_INITIAL_SENT)`; resumed on ANY connection `c'`, role assignment + checks + allocation +
journal + write are again one segment (`atomic_send_prefix_core`). -/
theorem atomic_send_prefix_logon (env : Env) (m : Msg) (c : Conn)
    (h : c.state = st_NETWORK_CONN_ESTABLISHED) (hm : m.mtype = mLogon ∨ m.mtype = mLogout) :
    sendMsgR env m c =
      .yield ({ c with state := st_LOGON_INITIAL_SENT, wasActive := c.wasActive || st_LOGON_INITIAL_SENT == st_ACTIVE })
        [.onState st_LOGON_INITIAL_SENT] [] .onStateChange
        (fun c' => sendCoreR env m ({ c' with role := roleInitiator })) := by
  have h1 : ¬ c.state < st_NETWORK_CONN_ESTABLISHED := by omega
  have h2 : (c.state == st_NETWORK_CONN_ESTABLISHED) = true := by simp [h]
  have h3 : (m.mtype != mLogon && m.mtype != mLogout) = false := by
    rcases hm with hm | hm <;> simp [hm]
  simp only [sendMsgR, sendGateR, stateSetR, stateSet, R.bind_apply, R.get_apply, Res.bind,
    h1, h2, h3, if_false, if_true, Bool.false_eq_true, R.ite_apply, R.liftM_apply,
    M.bind_apply, M.modify_apply, M.emit_apply, R.yield_apply, Res.prepend, R.modify_apply,
    List.nil_append, List.append_nil]
  congr 1
  funext c'
  cases sendCoreR env m { c' with role := roleInitiator } <;> rfl

/-- non-vacuity: an established session; the first segment of an application send ends in the `drain`
yield with the frame written and journaled under the number it allocated (7) -/
example : st_NETWORK_CONN_ESTABLISHED < Witness.c0.state ∧
    (sendMsgR Witness.env1 (Witness.appMsg "a") Witness.c0).isYield = true ∧
    (writes (sendMsgR Witness.env1 (Witness.appMsg "a") Witness.c0).effs).map seqOf = [some 7] ∧
    ((Rows.find 7 (sendMsgR Witness.env1 (Witness.appMsg "a") Witness.c0).conn.journal.out).isSome = true) := by
  decide +kernel

/-- non-vacuity of the Logon case -/
example : Witness.cA.state = st_NETWORK_CONN_ESTABLISHED ∧
    (Msg.mk' mLogon [(tEncryptMethod, "0"), (tHeartBtInt, "30")]).mtype = mLogon := by decide

/-! ### 2. every schedule without a rewind -/

/-- the state after a schedule -/
abbrev run (sr : Msg → Bool) (c0 : Conn) (ts : List Task) (paused : Bool) (sched : List Letter) : SState :=
  (SState.init sr c0 ts paused).exec sched

/-- what C14 claims about a run `s` that started from `c0` with the tasks `ts`; `exact = true` is the
property as stated, `exact = false` counts the sends that found the transport gone separately -/
structure Holds (exact : Bool) (ts : List Task) (c0 : Conn) (s : SState) : Prop where
  /-- new messages: every one carries a readable number; strictly increasing in wire order; none below the
  initial counter (never a number of an earlier message), none at or above the current counter -/
  increasing : ∃ ns : List Int, (newWrites s.effects).map seqOf = ns.map some ∧ ns.Pairwise (· < ·) ∧
    ∀ n ∈ ns, c0.sess.nextOut ≤ n ∧ n < s.conn.sess.nextOut
  /-- nothing but new messages is written: outside a resend no number is reused at all -/
  onlyNew : writes s.effects = newWrites s.effects
  /-- each frame is journaled under its number -/
  journaled : ∀ f ∈ newWrites s.effects, ∃ n, seqOf f = some n ∧ Rows.find n s.conn.journal.out = some f
  /-- `persist` never reports a duplicate: none is swallowed, none escapes a sender or the watchdog
  (an escaping one from a reader task is its INBOUND journal write, not C14's) -/
  noDuplicate : (∀ p ∈ s.log, p.2 ≠ .caught .duplicateSeqNo) ∧
    ∀ p ∈ s.log, p.2 = .raised .duplicateSeqNo → ∃ env m, ts[p.1]? = some (.recv env m)
  /-- the stored counter follows the session's counter -/
  stored : s.conn.journal.outSeq + 1 = s.conn.sess.nextOut
  /-- … which advanced by exactly the number of frames written (plus, unless `exact`, the sends that found no
  transport) -/
  counter : s.conn.sess.nextOut =
    c0.sess.nextOut + (newWrites s.effects).length + (if exact then 0 else (lost s.effects : Int))

/-- the invariant of the scheduler holds of a run that satisfies the hypotheses of the partial theorems -/
theorem run_inv (sr : Msg → Bool) (c0 : Conn) (ts : List Task) (paused : Bool) (sched : List Letter) (hJ : J c0)
    (hT : ∀ t ∈ ts, t.wf = true) (hW : (run sr c0 ts paused sched).everRewound = false)
    (hV : (run sr c0 ts paused sched).everWaived = false) : GInv ts c0 (run sr c0 ts paused sched) := by
  have ho : (run sr c0 ts paused sched).blocked = 0 := by
    simp only [SState.everRewound, SState.everWaived, decide_eq_false_iff_not] at hW hV
    unfold SState.blocked
    omega
  exact exec_inv sched (init_inv sr c0 ts paused hJ hT) ho

/-- what the scheduler's invariant says in the terms of `Holds` -/
theorem Holds.of_inv {ts : List Task} {c0 : Conn} {s : SState} (inv : GInv ts c0 s) : Holds false ts c0 s := by
  have seg := inv.seg
  refine ⟨seg.asc.numbers, ?_, seg.fresh, ⟨?_, ?_⟩, seg.inv.counter, by simpa using seg.cnt⟩
  · exact (List.filter_eq_self.mpr seg.allNew).symm
  · intro p hp hc
    exact ((dupErr_eq_false_iff _ _).mp seg.nodup).1 (hc ▸ List.mem_map_of_mem hp)
  · intro p hp hr
    have h := inv.strict p hp hr
    unfold flagOf at h
    cases ht : ts[p.1]? with
    | none => simp [ht] at h
    | some t =>
      cases t with
      | recv env m => exact ⟨env, m, rfl⟩
      | send env m => simp [ht, Task.inb] at h
      | tick env => simp [ht, Task.inb] at h

/-- **C14, partial**: every schedule (any length) of any number of sender / tick / reader tasks in which
no resend rewind window was opened and no acceptor Logon reply was lost for want of a transport or of a
free journal slot (`everWaived`: since fix a9dbd9f such a failure is re-raised only after `disconnect()`, so
at the prefixes in between a number is consumed that no effect accounts for yet). -/
theorem concurrent_senders_consecutive_partial (sr : Msg → Bool) (c0 : Conn) (ts : List Task) (paused : Bool)
    (sched : List Letter) (hJ : J c0) (hT : ∀ t ∈ ts, t.wf = true)
    (hW : (run sr c0 ts paused sched).everRewound = false)
    (hV : (run sr c0 ts paused sched).everWaived = false) :
    Holds false ts c0 (run sr c0 ts paused sched) :=
  Holds.of_inv (run_inv sr c0 ts paused sched hJ hT hW hV)

/-- non-vacuity: three senders, the watchdog and a reader answering a TestRequest, interleaved under
back-pressure (`Witness.schedPlain`): the hypotheses hold, all tasks finish, four frames go out numbered
7, 8, 9, 10 in wire order -/
example : J Witness.c0 ∧ (∀ t ∈ Witness.tsPlain, t.wf = true) ∧
    (run Witness.all Witness.c0 Witness.tsPlain false Witness.schedPlain).everRewound = false ∧
    (run Witness.all Witness.c0 Witness.tsPlain false Witness.schedPlain).everWaived = false ∧
    (run Witness.all Witness.c0 Witness.tsPlain false Witness.schedPlain).allDone = true ∧
    lost (run Witness.all Witness.c0 Witness.tsPlain false Witness.schedPlain).effects = 0 ∧
    (newWrites (run Witness.all Witness.c0 Witness.tsPlain false Witness.schedPlain).effects).map seqOf
      = [some 7, some 8, some 9, some 10] ∧
    (run Witness.all Witness.c0 Witness.tsPlain false Witness.schedPlain).log.map (·.1) = [0, 3, 1, 4] :=
  ⟨Witness.J_c0, by decide, by decide +kernel⟩

/-- non-vacuity of the second kind of sender `Task.wf` admits: a PossDupFlag=Y message with its own number and text outside
latin-1 is not a new message, yet a well-formed sender task (it is refused) -/
example : (Task.send Witness.env1 (Msg.mk' "D" [(tPossDupFlag, "Y"), (tMsgSeqNum, "3"), (tText, "\u20ac")])).wf = true ∧
    isNew (Msg.mk' "D" [(tPossDupFlag, "Y"), (tMsgSeqNum, "3"), (tText, "\u20ac")]) = false := by
  decide +kernel

/-- … and when no send found the transport gone, the numbers are consecutive from the initial counter and
the counter (hence the stored one) is the highest number sent plus one -/
theorem concurrent_senders_gapless_partial (sr : Msg → Bool) (c0 : Conn) (ts : List Task) (paused : Bool)
    (sched : List Letter) (hJ : J c0) (hT : ∀ t ∈ ts, t.wf = true)
    (hW : (run sr c0 ts paused sched).everRewound = false)
    (hV : (run sr c0 ts paused sched).everWaived = false)
    (hL : lost (run sr c0 ts paused sched).effects = 0) :
    Holds true ts c0 (run sr c0 ts paused sched) ∧
      numbered c0.sess.nextOut (newWrites (run sr c0 ts paused sched).effects) ∧
      ∀ f, (newWrites (run sr c0 ts paused sched).effects).getLast? = some f →
        seqOf f = some ((run sr c0 ts paused sched).conn.sess.nextOut - 1) ∧
        (run sr c0 ts paused sched).conn.journal.outSeq = (run sr c0 ts paused sched).conn.sess.nextOut - 1 := by
  have inv := run_inv sr c0 ts paused sched hJ hT hW hV
  generalize run sr c0 ts paused sched = s at *
  have h := Holds.of_inv inv
  have hc : s.conn.sess.nextOut = c0.sess.nextOut + (newWrites s.effects).length := by
    simpa [hL] using h.counter
  have hn : numbered c0.sess.nextOut (newWrites s.effects) := inv.seg.asc.numbered (by omega)
  refine ⟨⟨h.increasing, h.onlyNew, h.journaled, h.noDuplicate, h.stored, by simpa using hc⟩, hn, ?_⟩
  intro f hf
  refine ⟨?_, ?_⟩
  · rw [numbered_last hn f hf, hc]
  · have := h.stored; omega

/-- **the property as stated** – no hypothesis on the schedule.  Refuted for the current code in
`Findings/C14.lean`. -/
def concurrent_full : Prop :=
  ∀ (sr : Msg → Bool) (c0 : Conn) (ts : List Task) (paused : Bool) (sched : List Letter),
    J c0 → (∀ t ∈ ts, t.wf = true) → Holds true ts c0 (run sr c0 ts paused sched)

/-! ### 3. tie to the sequential model -/

/-- a task that is never interleaved IS its sequential entry point (`appSend` / `tick` / `recv`) -/
theorem never_interleaved_is_sequential (sr : Msg → Bool) (t : Task) (c : Conn) :
    M.run (t.body sr).runSeq c =
      (match t with
       | .send env m => Session.appSend env c m
       | .tick env => Session.tick env c
       | .recv env m => Session.recv sr env c m) :=
  Task.body_seq sr t c

end AsyncFix.Sched.C14
