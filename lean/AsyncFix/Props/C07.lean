import AsyncFix.Lemmas.LinkRun
import AsyncFix.Lemmas.LinkLive

/-!
# C07 – no application message is lost, duplicated or reordered across connection loss

Model: `AsyncFix.Link` (`Model/Link.lean`): two endpoints of the library (`Session.Conn`, initiator `i` and
acceptor `a`, each with its own journal), two FIFO queues of frames in flight, events `appSend`, `deliverNext`,
`breakConn`, `reconnect`.  All theorems are about `run (Link.init hb) evs` for an ARBITRARY event list `evs`
(no bound on its length, on the number of breaks or on the interleaving), under two explicit, decidable
side conditions:

* `Wf evs`      – the application sends application messages (type outside `0 1 2 4 5 A`, no header / trailer tags;
                  an explicit PossDupFlag(43) other than `Y` and an OrigSendingTime(122) are allowed)
                  and the clock text (`SendingTime`) is single-byte;
* `InRange l`   – the outbound counters of the final state are `≤ sys.maxsize + 1` (they never decrease, so this
                  bounds the whole run): beyond that the journal (SQLite INTEGER) cannot store a row and
                  `ResendRequest(n, 0)` – served up to `sys.maxsize` – would skip messages.

Proof architecture (`Lemmas/Link*.lean`): the executable model is abstracted (`absLink`) to a small pure protocol
model (`Model/LinkAbs.lean`); `step_sim` proves that the abstraction commutes with the step functions on
well-formed states by evaluating `_process_message`, `_process_resend`, `send_msg`, `disconnect`, … on every kind
of frame an endpoint can write; the invariants S1–S4 (`SafeInv`) and G1–G3 + handshake phases (`SyncInv'`) of
DESIGN Appendix A.2 are proved inductive on the abstract model.

What DESIGN calls `own_requests_in_range` is part of `DirSync`: under the invariant the only ResendRequests in
flight are `(e, 0)` with `e ≤ w < o` of the peer: the library's own endpoints never send the bounded or
out-of-range requests of the C06 defects (repaired in /repo, da179c4).
-/
namespace AsyncFix.Link

open AsyncFix.Session AsyncFix.Generated AsyncFix.Generated.ConnEnum

/-- MsgSeqNum of a delivered message / written frame -/
def seqNo (f : Msg) : Int := (seqOf f).getD 0

/-- an application frame: not one of the session-level types -/
def isAppFrame (f : Msg) : Bool :=
  f.mtype != mLogon && f.mtype != mResendRequest && f.mtype != mSequenceReset && f.mtype != mLogout

theorem absLink_delA (l : Link) : (absLink l).delA = l.delA.map absDelivered := rfl
theorem absLink_delI (l : Link) : (absLink l).delI = l.delI.map absDelivered := rfl
theorem absLink_accI (l : Link) : (absLink l).accI = l.accI.map payloadOf := rfl
theorem absLink_accA (l : Link) : (absLink l).accA = l.accA.map payloadOf := rfl

theorem map_absDelivered_payload (ms : List Msg) : (ms.map absDelivered).map (·.2) = ms.map payloadOf := by
  simp [absDelivered, List.map_map, Function.comp_def]

theorem map_absDelivered_seq (ms : List Msg) : (ms.map absDelivered).map (·.1) = ms.map seqNo := by
  simp [absDelivered, seqNo, List.map_map, Function.comp_def]

/-- **link_safety.**  At every moment each side's delivered sequence is, in order, a PREFIX (hence a
subsequence) of the application payloads the other side's `send_msg` accepted, and the delivered MsgSeqNums
strictly increase (nothing is delivered twice). -/
theorem link_safety (hb : Int) (evs : List Ev) (hwf : Wf evs) (hr : InRange (run (Link.init hb) evs)) :
    let l := run (Link.init hb) evs
    (l.delA.map payloadOf <+: l.accI.map payloadOf) ∧ (l.delI.map payloadOf <+: l.accA.map payloadOf) ∧
    (l.delA.map seqNo).Pairwise (· < ·) ∧ (l.delI.map seqNo).Pairwise (· < ·) := by
  obtain ⟨_, ⟨hIA, hAI⟩, _⟩ := reach_inv hb evs hwf hr
  refine ⟨?_, ?_, ?_, ?_⟩
  · have := safe_prefix hIA; rwa [absLink_delA, absLink_accI, map_absDelivered_payload] at this
  · have := safe_prefix hAI; rwa [absLink_delI, absLink_accA, map_absDelivered_payload] at this
  · have := safe_seq_increasing hIA
    rw [← map_absDelivered_seq, List.pairwise_map]; exact this
  · have := safe_seq_increasing hAI
    rw [← map_absDelivered_seq, List.pairwise_map]; exact this

/-- the property's wording: an in-order subsequence -/
theorem link_safety_sublist (hb : Int) (evs : List Ev) (hwf : Wf evs) (hr : InRange (run (Link.init hb) evs)) :
    let l := run (Link.init hb) evs
    (l.delA.map payloadOf).Sublist (l.accI.map payloadOf) ∧ (l.delI.map payloadOf).Sublist (l.accA.map payloadOf) :=
  let h := link_safety hb evs hwf hr
  ⟨h.1.sublist, h.2.1.sublist⟩

/-- **S1** (DESIGN A.2): what A's application has received is exactly the application rows of I's outbound
journal numbered below A's next expected number – nothing below it was skipped – and symmetrically. -/
theorem link_S1 (hb : Int) (evs : List Ev) (hwf : Wf evs) (hr : InRange (run (Link.init hb) evs)) :
    let l := run (Link.init hb) evs
    l.delA.map absDelivered = (appView (l.i.journal.out.map absRow)).filter (fun r => r.1 < l.a.sess.nextIn) ∧
    l.delI.map absDelivered = (appView (l.a.journal.out.map absRow)).filter (fun r => r.1 < l.i.sess.nextIn) ∧
    l.a.sess.nextIn ≤ l.i.sess.nextOut ∧ l.i.sess.nextIn ≤ l.a.sess.nextOut := by
  obtain ⟨_, ⟨hIA, hAI⟩, _⟩ := reach_inv hb evs hwf hr
  exact ⟨hIA.s1, hAI.s1, hIA.s2, hAI.s2⟩

/-- **number_payload_stable.**  A MsgSeqNum once written with an application payload is never written with a
different one by the same endpoint (retransmissions carry the original body). -/
theorem number_payload_stable (hb : Int) (evs : List Ev) (hwf : Wf evs) (hr : InRange (run (Link.init hb) evs))
    (s : Side) (f g : Msg) (hf : f ∈ (run (Link.init hb) evs).wire s) (hg : g ∈ (run (Link.init hb) evs).wire s)
    (haf : isAppFrame f = true) (hag : isAppFrame g = true) (hs : seqNo f = seqNo g) :
    payloadOf f = payloadOf g := by
  obtain ⟨_, ⟨hIA, hAI⟩, _⟩ := reach_inv hb evs hwf hr
  have key : ∀ (h : Msg), isAppFrame h = true →
      (absFrame h).kind = .app (payloadOf h) (h.get? tPossDupFlag == some "Y") := by
    intro h hh
    simp only [isAppFrame, Bool.and_eq_true, bne_iff_ne, ne_eq] at hh
    exact absFrame_app hh.1.1.1 hh.1.1.2 hh.1.2 hh.2
  have hseq : (absFrame f).seq = (absFrame g).seq := hs
  cases s with
  | I => exact safe_number_stable hIA (List.mem_map_of_mem hf) (List.mem_map_of_mem hg) hseq (key f haf) (key g hag)
  | A => exact safe_number_stable hAI (List.mem_map_of_mem hf) (List.mem_map_of_mem hg) hseq (key f haf) (key g hag)

/-- **link_sync** – the property's conclusion.  Whenever both connections are ACTIVE and nothing is in flight,
each side's next expected inbound number equals the other side's next outbound number, and each side's
application has received every application message the other side's `send_msg` accepted, exactly once and in
sending order. -/
theorem link_sync (hb : Int) (evs : List Ev) (hwf : Wf evs) (hr : InRange (run (Link.init hb) evs))
    (hq : (run (Link.init hb) evs).quiescent = true) :
    let l := run (Link.init hb) evs
    l.a.sess.nextIn = l.i.sess.nextOut ∧ l.i.sess.nextIn = l.a.sess.nextOut ∧
    l.delA.map payloadOf = l.accI.map payloadOf ∧ l.delI.map payloadOf = l.accA.map payloadOf := by
  obtain ⟨hg, ⟨hIA, hAI⟩, hsync⟩ := reach_inv hb evs hwf hr
  simp only [Link.quiescent, Bool.and_eq_true, beq_iff_eq, List.isEmpty_iff] at hq
  obtain ⟨⟨⟨hi, ha⟩, hqa⟩, hqi⟩ := hq
  have haq : (absLink (run (Link.init hb) evs)).quiescent = true := by
    simp only [ALink.quiescent, Bool.and_eq_true, decide_eq_true_eq, List.isEmpty_iff]
    exact ⟨⟨⟨absSt_active hi, absSt_active ha⟩, by simp [absLink, hqa]⟩, by simp [absLink, hqi]⟩
  obtain ⟨h1, h2⟩ := sync_counters _ hsync.1 haq
  refine ⟨h1, h2, ?_, ?_⟩
  · have := safe_complete hIA h1
    rwa [absLink_delA, absLink_accI, map_absDelivered_payload] at this
  · have := safe_complete hAI h2
    rwa [absLink_delI, absLink_accA, map_absDelivered_payload] at this

/-- the invariants G1–G3 and the handshake phases hold in every reachable state (stated on the abstraction) -/
theorem link_coverage_invariant (hb : Int) (evs : List Ev) (hwf : Wf evs) (hr : InRange (run (Link.init hb) evs)) :
    SyncInv (absLink (run (Link.init hb) evs)) ∧ SafeInv (absLink (run (Link.init hb) evs)) :=
  let h := reach_inv hb evs hwf hr
  ⟨h.2.2.1, h.2.1⟩

/-- no exception path is needed: every reachable state is well-formed (`LinkGood`), in particular no endpoint ever
rests in a transient state and every frame in flight is one the peer can parse -/
theorem link_wellformed (hb : Int) (evs : List Ev) (hwf : Wf evs) : LinkGood (run (Link.init hb) evs) :=
  (run_sim evs (Link.init hb) (linkGood_init hb) hwf).2

theorem run_append (l : Link) (a b : List Ev) : run l (a ++ b) = run (run l a) b := by
  induction a generalizing l with
  | nil => rfl
  | cons e r ih => simp only [List.cons_append, run]; exact ih _

/-- a clock value for the recovery events (any single-byte text will do) -/
def env0 : Env := { now := 0, stamp := "" }

/-- the concrete event of an abstract delivery -/
def concEv : AEv → Ev
  | .deliverNext s => .deliverNext s env0
  | _ => .breakConn env0

/-- the events of a recovery: break, reconnect, deliveries -/
def isRecoveryEv : Ev → Bool
  | .appSend _ _ _ => false
  | _ => true

theorem quiescent_of_abs {l : Link} (hg : LinkGood l) (h : (absLink l).quiescent = true) : l.quiescent = true := by
  simp only [ALink.quiescent, Bool.and_eq_true, decide_eq_true_eq, List.isEmpty_iff] at h
  obtain ⟨⟨⟨hi, ha⟩, hqa⟩, hqi⟩ := h
  simp only [Link.quiescent, Bool.and_eq_true, beq_iff_eq, List.isEmpty_iff]
  refine ⟨⟨⟨(absSt_active_iff hg.i).1 hi, (absSt_active_iff hg.a).1 ha⟩, ?_⟩, ?_⟩
  · have : (absLink l).toA = l.toA.map absFrame := rfl
    rw [this] at hqa; simpa using hqa
  · have : (absLink l).toI = l.toI.map absFrame := rfl
    rw [this] at hqi; simpa using hqi

/-- **Quiescence reachability.**  From every reachable state (with two numbers of head-room below `sys.maxsize` on
each side), a break, a reconnect and delivery of the frames in flight – no further application sends – lead to both
connections ACTIVE with nothing in flight: the recovery handshake terminates, and by `link_sync` everything accepted
so far has then been delivered. -/
theorem link_recovery (hb : Int) (evs : List Ev) (hwf : Wf evs)
    (hr : (run (Link.init hb) evs).i.sess.nextOut + 2 ≤ sysMaxsize + 1 ∧
      (run (Link.init hb) evs).a.sess.nextOut + 2 ≤ sysMaxsize + 1) :
    ∃ rec : List Ev, Wf rec ∧ (∀ e ∈ rec, isRecoveryEv e = true) ∧
      (run (Link.init hb) (evs ++ rec)).quiescent = true := by
  obtain ⟨hg, hsafe, _⟩ := reach_inv hb evs hwf ⟨by have := hr.1; omega, by have := hr.2; omega⟩
  obtain ⟨ea, hod, hq⟩ := recover_quiescent_safe (absLink (run (Link.init hb) evs)) hsafe hr
  have hmap : (ea.map concEv).map absEv = ea := by
    rw [List.map_map]
    conv => rhs; rw [← List.map_id ea]
    apply List.map_congr_left
    intro e he
    rcases hod e he with h | h <;> subst h <;> rfl
  have hrec : ∀ e ∈ [.breakConn env0, .reconnect env0] ++ ea.map concEv, e.wf = true ∧ isRecoveryEv e = true := by
    intro e he
    simp only [List.cons_append, List.nil_append, List.mem_cons, List.mem_map] at he
    rcases he with h | h | ⟨x, hx, h⟩
    · subst h; exact ⟨by decide, rfl⟩
    · subst h; exact ⟨by decide, rfl⟩
    · subst h; rcases hod x hx with h | h <;> subst h <;> exact ⟨by decide, rfl⟩
  have hwf' : Wf ([.breakConn env0, .reconnect env0] ++ ea.map concEv) := fun e he => (hrec e he).1
  refine ⟨_, hwf', fun e he => (hrec e he).2, ?_⟩
  obtain ⟨h1, h2⟩ := run_sim _ (run (Link.init hb) evs) hg hwf'
  rw [run_append]
  apply quiescent_of_abs h2
  rw [h1]
  simp only [List.map_cons, hmap, absEv, List.cons_append, List.nil_append, arun]
  exact hq

/-- the abstract events of a run with a break in the middle of the recovery of an earlier break -/
def demoEvents : List AEv :=
  [.reconnect, .deliverNext .A, .deliverNext .I, .appSend .I ("D", [(58, "one")]) true,
   .appSend .A ("D", [(58, "uno")]) true, .breakConn, .reconnect, .deliverNext .A, .breakConn,
   .reconnect, .deliverNext .A, .deliverNext .I, .deliverNext .I, .deliverNext .A, .deliverNext .A,
   .deliverNext .I, .deliverNext .I, .deliverNext .A]

/-- the hypotheses of `link_sync` are satisfiable by a non-trivial state: after two breaks (the second one
during the recovery from the first) the abstract model reaches quiescence with both messages delivered -/
example : (arun ainit demoEvents).quiescent = true ∧ (arun ainit demoEvents).delA = [(2, ("D", [(58, "one")]))] ∧
    (arun ainit demoEvents).delI = [(2, ("D", [(58, "uno")]))] ∧ Bounded (arun ainit demoEvents) ∧
    SyncInv' (arun ainit demoEvents) ∧ SafeInv (arun ainit demoEvents) := by decide

/-- well-formed events exist and the initial state is in range -/
example : Wf [Ev.reconnect ⟨0, "20240102-00:00:00.000"⟩, Ev.appSend .I ⟨0, "x"⟩ (Msg.mk' "D" [(58, "hi")]),
      Ev.appSend .A ⟨0, "x"⟩ (Msg.mk' "8" [(37, "o1"), (43, "N"), (122, "20240101-23:59:00.000")])] ∧
    ¬ Wf [Ev.appSend .I ⟨0, "x"⟩ (Msg.mk' "D" [(43, "Y")])] ∧
    InRange (Link.init 30) := by decide

end AsyncFix.Link
