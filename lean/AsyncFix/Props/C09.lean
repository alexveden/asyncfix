import AsyncFix.Lemmas.RestartStep
import AsyncFix.Lemmas.RestartKill
import AsyncFix.Lemmas.RestartInbound
import AsyncFix.Lemmas.RestartSeg

/-!
# C09 – restarting an endpoint is transparent to the session

Model: `AsyncFix/Model/Session*.lean` (one endpoint) and `AsyncFix/Model/Restart.lean`
(`restart`, the segmented `send_msg` / `_process_message`, crash states).

Scope of the history theorems (explicit, decidable hypotheses):
* `admissible`: the application does not call `reset_seq_num()` and does not send frames that carry
  their own MsgSeqNum (SequenceReset, PossDupFlag=Y) – those overwrite the stored outbound counter by design;
* `excFree`: no exception was swallowed or escaped during the run (an exception inside resend
  servicing leaves the outbound counter rewound – property C06's findings; a duplicate journal key leaves
  a counter advanced without its row).
Nothing is assumed about the counterparty: the inbound frames of a history are arbitrary.
-/
namespace AsyncFix.Props.C09

open AsyncFix.Session AsyncFix.Restart AsyncFix.Generated.ConnEnum

/-! ## the segmented handlers are the sequential ones -/

theorem send_segments_compose (env : Env) (m : Msg) : sendSeq env m = sendMsg env m := sendSeq_eq env m

theorem recv_segments_compose (sr : Msg → Bool) (env : Env) (m : Msg) :
    recvSeq sr env m = processMessage env sr m := recvSeq_eq sr env m

/-- killing after the last segment is completing the handler -/
theorem kill_after_last_segment_send (env : Env) (c : Conn) (m : Msg) :
    ((sendPrefix 5 env m >>= fun _ => pure ()).run c) = appSend env c m := by
  have : sendPrefix 5 env m >>= (fun _ => pure ()) = sendMsg env m := by
    rw [← sendSeq_eq]; rfl
  rw [this]; rfl

/-! ## 1. stored counters = live counters at every quiescent point -/

/-- a new object over ANY journal with a non-negative inbound counter starts quiescent -/
theorem create_stored_eq_live (s t : String) (j : Journal) (hb : Int) (role : Nat) :
    StoredEqLive (Conn.create s t j hb role) := ⟨rfl, rfl⟩

/-- FULL statement (false on the current code, D13 – refuted in `Findings/C09.lean`) -/
def stored_eq_live_full : Prop :=
  ∀ (sr : Msg → Bool) (c : Conn) (evs : List Event),
    StoredEqLive c → 0 < c.sess.nextIn → (∀ ev ∈ evs, admissible ev = true) →
    excFree (run sr c evs).2 = true → StoredEqLive (run sr c evs).1

/-- PARTIAL, with the exact lag: after every admissible, exception-free history from a quiescent state,
the stored outbound counter is one behind the live one, and the stored inbound counter is one behind
the live one UNLESS the inbound row stored under it is a SequenceReset `m` (the last inbound frame that was
journaled), in which case the stored counter is `m`'s own MsgSeqNum and the live one is `m`'s NewSeqNo. -/
theorem stored_eq_live_partial (sr : Msg → Bool) (c : Conn) (evs : List Event)
    (hq : Quiet c) (hadm : ∀ ev ∈ evs, admissible ev = true) (hex : excFree (run sr c evs).2 = true) :
    let c' := (run sr c evs).1
    c'.journal.outSeq + 1 = c'.sess.nextOut ∧
    (c'.journal.inSeq + 1 = c'.sess.nextIn ∨
      ∃ m, c'.journal.inb.find c'.journal.inSeq = some m ∧ m.mtype = mSequenceReset ∧
        seqOf m = some c'.journal.inSeq ∧ newSeqOf m = some c'.sess.nextIn) := by
  intro c'
  have hq' : Quiet c' := (run_goodH sr evs c hadm hex hq).quiet hq
  exact ⟨hq'.out, hq'.inb.imp_right inLag_iff.1⟩

/-- the invariant itself is inductive (so it holds at EVERY quiescent point of the history) -/
theorem quiet_invariant (sr : Msg → Bool) (c : Conn) (ev : Event) (hq : Quiet c)
    (hadm : admissible ev = true) (hex : excFree (step sr c ev).2 = true) : Quiet (step sr c ev).1 :=
  (step_goodH sr c ev hadm hex hq.pos).quiet hq

/-- PARTIAL, classical form: excluded class = histories containing a SequenceReset whose NewSeqNo is not
its MsgSeqNum + 1 (`jumpReset`, decidable).  Without one, stored = live exactly. -/
theorem stored_eq_live_without_jump_resets (sr : Msg → Bool) (c : Conn) (evs : List Event)
    (hs : StoredEqLive c) (hpos : 0 < c.sess.nextIn) (hadm : ∀ ev ∈ evs, admissible ev = true)
    (hnj : ∀ ev ∈ evs, jumpReset ev = false) (hex : excFree (run sr c evs).2 = true) :
    StoredEqLive (run sr c evs).1 :=
  ⟨((run_goodH sr evs c hadm hex ⟨hs.1, hpos, Or.inl hs.2⟩).quiet ⟨hs.1, hpos, Or.inl hs.2⟩).1,
   run_exact sr evs c hadm hnj hex ⟨hs.1, hpos, Or.inl hs.2⟩ hs.2⟩

/-- hence: a restart at such a point hands the new object exactly the old counters -/
theorem restart_counters_eq (c : Conn) (role : Nat) (hs : StoredEqLive c) :
    (restart c role).sess.nextOut = c.sess.nextOut ∧ (restart c role).sess.nextIn = c.sess.nextIn :=
  ⟨hs.1, hs.2⟩

/-- non-vacuity: a logged-on session with traffic satisfies the hypotheses -/
example : Quiet (Conn.create "S" "T" { outSeq := 6, inSeq := 4 } 30 1) := by decide

/-! ## 2. no outbound number is reused after a kill inside a send -/

/-- For every admissible exception-free history of the old incarnation and EVERY crash point `k` of a
following send of a message taking a new number: every new frame the old incarnation ever handed to the
transport (history + the killed send) carries a number below the restarted connection's `nextOut`. -/
theorem restart_no_number_reuse (sr : Msg → Bool) (c : Conn) (evs : List Event) (hq : Quiet c)
    (hadm : ∀ ev ∈ evs, admissible ev = true) (hex : excFree (run sr c evs).2 = true)
    (env : Env) (m : Msg) (hnew : ownSeq m = false) (k role : Nat) :
    NewWritesBelow ((run sr c evs).2 ++ (sendKilled k env (run sr c evs).1 m).2)
      (restart (sendKilled k env (run sr c evs).1 m).1 role).sess.nextOut := by
  have hh := run_goodH sr evs c hadm hex hq
  exact sendKilled_writes_below k env m hnew _ _ (hh.quiet hq).1 hh.writes role

/-- the crash states of a send, spelled out: either nothing durable happened and nothing reached the
transport (the number may be used again – for the same or another message, nobody saw it), or the frame
is in the journal under the number it carries (retransmittable on a ResendRequest), the stored counter
is that number, and nothing but this frame was written. -/
theorem send_crash_states (env : Env) (c : Conn) (m : Msg) (hnew : ownSeq m = false) (k : Nat) :
    let o := sendPrefix k env m c
    (o.conn.journal = c.journal ∧ ∀ f, Effect.write f ∉ o.eff) ∨
    (∃ fr, fr.get? tMsgSeqNum = some (pyStr c.sess.nextOut) ∧
       o.conn.journal.out.find c.sess.nextOut = some fr ∧ o.conn.journal.outSeq = c.sess.nextOut ∧
       ∀ f, Effect.write f ∈ o.eff → f = fr) := by
  intro o
  cases sendPrefix_crash k env m hnew c with
  | untouched hj hw => exact Or.inl ⟨hj, hw⟩
  | journaled fr hs _ hp hw =>
    obtain ⟨r, hr, hj⟩ := persist_out_inv hp
    exact Or.inr ⟨fr, hs, by rw [hj]; exact Rows.find_insert hr, by rw [hj], hw⟩

/-- non-vacuity: an application message takes a new number -/
example : ownSeq (Msg.mk' "D" [(11, "id1"), (58, "text")]) = false := by decide

/-! ## 3. a kill inside inbound processing: counted ⇒ delivered and journaled; otherwise still expected -/

/-- For EVERY crash point `k` of the processing of an application frame `m` (any state, any frame content,
exceptions included): after the restart either
* the frame is NOT counted – the new object expects the same number as the old one did before the frame,
  and the inbound rows of the journal are what they were (the frame will be asked for / sent again), or
* it IS counted – then it carries exactly the number the old object expected, it is in the journal under
  that number, the new object expects the next number, and `on_message(m)` had been called before the kill.
Never counted-but-undelivered. -/
theorem restart_inbound (k : Nat) (sr : Msg → Bool) (env : Env) (m : Msg) (happ : isApp m = true)
    (c : Conn) (hs : InExact c) (role : Nat) :
    ((restart (recvKilled k sr env c m).1 role).sess.nextIn = c.sess.nextIn ∧
      (recvKilled k sr env c m).1.journal.inb = c.journal.inb) ∨
    (seqOf m = some c.sess.nextIn ∧
      (restart (recvKilled k sr env c m).1 role).sess.nextIn = c.sess.nextIn + 1 ∧
      (recvKilled k sr env c m).1.journal.inb.find c.sess.nextIn = some m ∧
      Effect.deliver m ∈ (recvKilled k sr env c m).2) := by
  have hconn : (recvKilled k sr env c m).1 = (recvPrefix k sr env m c).conn := M.run_conn _ _
  have heff : ∀ x, x ∈ (recvPrefix k sr env m c).eff → x ∈ (recvKilled k sr env c m).2 :=
    fun x hx => M.mem_run_of_mem _ _ hx
  rw [hconn]
  rcases recv_crash_app k sr env m happ c with ⟨h1, h2⟩ | ⟨hq, h1, h2, h3⟩
  · left
    refine ⟨?_, h2⟩
    show (recvPrefix k sr env m c).conn.journal.inSeq + 1 = c.sess.nextIn
    rw [h1]; exact hs
  · right
    refine ⟨hq, ?_, h2, heff _ h3⟩
    show (recvPrefix k sr env m c).conn.journal.inSeq + 1 = c.sess.nextIn + 1
    rw [h1]

theorem counted_implies_delivered (k : Nat) (sr : Msg → Bool) (env : Env) (m : Msg) (happ : isApp m = true)
    (c : Conn) (hs : InExact c) (role : Nat)
    (h : (restart (recvKilled k sr env c m).1 role).sess.nextIn ≠ c.sess.nextIn) :
    Effect.deliver m ∈ (recvKilled k sr env c m).2 := by
  rcases restart_inbound k sr env m happ c hs role with ⟨h1, _⟩ | ⟨_, _, _, h4⟩
  · exact absurd h1 h
  · exact h4

/-- FULL statement (false: D15, inherent – callback and commit are not atomic): delivered ⇒ counted, i.e.
exactly-once across a kill.  Refuted in `Findings/C09.lean` with the kill between callback and journal. -/
def exactly_once_full : Prop :=
  ∀ (k : Nat) (sr : Msg → Bool) (env : Env) (m : Msg) (c : Conn) (role : Nat),
    isApp m = true → InExact c → Effect.deliver m ∈ (recvKilled k sr env c m).2 →
    (restart (recvKilled k sr env c m).1 role).sess.nextIn = c.sess.nextIn + 1

/-- non-vacuity -/
example : isApp (Msg.ofFields [(8, "FIX.4.4"), (35, "D"), (34, "5")]) = true := by decide

/-! ## 4. a restart at a quiescent point only loses the volatile fields -/

theorem restart_quiescent_transparent (c : Conn) (role : Nat) (hs : StoredEqLive c) :
    restart c role =
      { c with state := st_DISCONNECTED_NOCONN_TODAY, role := role, wasActive := false, maxResend := 0,
               testReqId := none, lastTime := 0, sock := false } := by
  obtain ⟨ho, hi⟩ := hs
  unfold OutOk at ho
  unfold InExact at hi
  obtain ⟨st, rl, wa, ⟨snd, tgt, ni, no⟩, mr, tr, lt, hb, sk, j⟩ := c
  simp only [restart, Conn.create, Conn.mk.injEq, Session.mk.injEq, true_and, and_true]
  exact ⟨hi, ho⟩

/-- … so that after the transport comes up again the restarted endpoint is the merely disconnected one
(EOF on the old object, then reconnect), except that it does not remember having been ACTIVE – which the
next `_state_set(ACTIVE)` restores. -/
theorem restart_then_connect_eq_disconnect_then_connect (env : Env) (c : Conn) (hs : StoredEqLive c)
    (hsock : c.sock = true) (hst : c.state > st_DISCONNECTED_BROKEN_CONN) (k : ConnKind) :
    (connected (restart c c.role) k).1 =
      { (connected (eof env c).1 k).1 with wasActive := false } := by
  rw [restart_quiescent_transparent c c.role hs, eof_apply env c hsock hst, connected_apply _ _ rfl,
    connected_apply _ _ rfl]
  cases k <;> rfl

example : StoredEqLive { (Conn.create "S" "T" { outSeq := 6, inSeq := 4 } 30 1) with
    state := st_ACTIVE, sock := true, wasActive := true } := by decide

end AsyncFix.Props.C09
