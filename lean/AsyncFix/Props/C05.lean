import AsyncFix.Lemmas.SessionOutExamples

/-!
# C05 — outbound messages are numbered consecutively and journaled under that number

Model: `AsyncFix.Session` (`send_msg`, `Codec.encode` number selection, `allocate_next_num_out`,
`persist_msg`, every handler that sends, `_process_resend`).  Definitions used by the statements:

* `OutInv c`   (Lemmas/SessionOutDefs) – stored next-outbound + 1 = session counter; every outbound row
  `(n, frame)` is a well-formed frame whose MsgSeqNum(34) reads `n`, `n < counter`; rows ascending;
  CompIDs single-byte; a connection outside the disconnected states has its transport.
* `isNew f` – not a SequenceReset and no PossDupFlag=Y: exactly the messages `encode` allocates a
  number for.  `newWrites es` – the `write` effects that are new messages, in order; `numbered b l` –
  `l` carries MsgSeqNum `b, b+1, …`.
* `Event.ok` – side conditions on an event: SendingTime text of a `recv` is single-byte (the real
  clock prints ASCII), an application `send_msg` is a NEW message.  (An application that hand-crafts a
  SequenceReset / PossDupFlag=Y message bypasses the numbering: finding `C05-app-own-number`.)
* `Slot sr c n f` – what the journal holds under `n` for a frame `f` once sent under `n`: `f` or a
  retransmitted copy of it (`Copy`), or – only when `f` is `Declined` (session-level type, or
  `should_replay` refused it or a copy of it) – a SequenceReset-GapFill row or nothing.
  ResendRequests of every class are covered (bounded and inverted ranges too: since fix da179c4 rows
  above EndSeqNo are put back into the journal identically).
-/
namespace AsyncFix.Props.C05

open AsyncFix.Session AsyncFix.Generated AsyncFix.Generated.ConnEnum

/-- a fresh connection object over ANY stored counter and any journal of well-formed rows below it -/
theorem outInv_create (sender target : String) (j : Journal) (hb : Int) (role : Nat)
    (hl : isLatin1 sender = true ∧ isLatin1 target = true) (hs : Rows.Sorted j.out)
    (hrows : ∀ p ∈ j.out, RowOk p.2 p.1 ∧ p.1 ≤ j.outSeq) :
    OutInv (Conn.create sender target j hb role) :=
  ⟨rfl, fun p hp => ⟨(hrows p hp).1, by have := (hrows p hp).2; simp only [Conn.create]; omega⟩, hs, hl,
    fun h => absurd (show st_DISCONNECTED_BROKEN_CONN < st_DISCONNECTED_NOCONN_TODAY from h) (by decide)⟩

/-- `OutInv` is preserved by EVERY event: all message types and shapes, ResendRequests of every class
(bounded, inverted, out of range), `reset_seq_num()`, ticks, transport events. -/
theorem outInv_step (sr : Msg → Bool) (c : Conn) (ev : Event) (hI : OutInv c) (hok : ev.ok) :
    OutInv (step sr c ev).1 := step_inv sr c ev hI hok

theorem outInv_run (sr : Msg → Bool) (c : Conn) (evs : List Event) (hI : OutInv c)
    (hok : ∀ ev ∈ evs, ev.ok) : OutInv (run sr c evs).1 := run_inv sr evs c hI hok

/-- what `OutInv` says about reading back: the frame stored under `n` reads MsgSeqNum `n`, and the
stored next-outbound number is the last allocated number + 1 -/
theorem outInv_readback (c : Conn) (hI : OutInv c) (n : Int) (f : Msg)
    (h : Rows.find n c.journal.out = some f) :
    seqOf f = some n ∧ n < c.sess.nextOut ∧ c.journal.outSeq + 1 = c.sess.nextOut :=
  ⟨(hI.rows _ (Rows.find_mem h)).1.seqOf, (hI.rows _ (Rows.find_mem h)).2, hI.counter⟩

/-- the full statement without the side condition on application sends; refuted in Findings/C05 -/
def outInv_step_full : Prop :=
  ∀ (sr : Msg → Bool) (c : Conn) (env : Env) (m : Msg), OutInv c → OutInv (step sr c (.appSend env m)).1

/-- A NEW message accepted for sending leaves in exactly one `write`, numbered with
the session counter, carrying the session's CompIDs; the counter moves by one; the journal gains
exactly that frame under that number (the bytes sent can be read back), the stored counter is that
number; nothing is raised. -/
theorem send_numbered (env : Env) (c : Conn) (m : Msg) (hI : OutInv c) (hnew : isNew m = true)
    (hacc : sendRefused c m = false)
    (hlat : frameLatin1 (buildFrame c.sess env.stamp m c.sess.nextOut) = true) :
    let f := buildFrame c.sess env.stamp m c.sess.nextOut
    let r := appSend env c m
    r.2 = gateEff c ++ [.write f] ∧ allWrites r.2 = [f] ∧
    seqOf f = some c.sess.nextOut ∧ f.get? tSenderCompID = some c.sess.sender ∧
    f.get? tTargetCompID = some c.sess.target ∧
    r.1.sess.nextOut = c.sess.nextOut + 1 ∧
    r.1.journal.out = c.journal.out ++ [(c.sess.nextOut, f)] ∧
    r.1.journal.outSeq = c.sess.nextOut ∧
    r.1.journal.recoverOut c.sess.nextOut c.sess.nextOut = [f] ∧ OutInv r.1 := by
  intro f r
  have hr : r = (sentFresh (afterGate c) f, gateEff c ++ [.write f]) := appSend_accepted env c m hI hnew hacc hlat
  have hinv : OutInv r.1 := outInv_step (fun _ => true) c (.appSend env m) hI hnew
  have hout : r.1.journal.out = c.journal.out ++ [(c.sess.nextOut, f)] := by
    rw [hr]; simp [sentFresh, afterGate_journal, afterGate_sess]
  refine ⟨by rw [hr], ?_, buildFrame_seqOf _ _ _ _, buildFrame_get_sender _ _ _ _, buildFrame_get_target _ _ _ _,
    by rw [hr]; simp [sentFresh, afterGate_sess], hout, by rw [hr]; simp [sentFresh, afterGate_sess], ?_, hinv⟩
  · rw [hr, allWrites_append, show allWrites (gateEff c) = [] by unfold gateEff; split <;> rfl]; rfl
  · -- the journal is ascending, so `recover_messages(n, n)` is the row found under `n`
    exact recoverOut_single _ hinv.sorted _ _
      (by rw [hout]; exact (Rows.find_append_last _ _ _ _ hI.allLt).trans (if_pos rfl))

/-- A state refusal (not connected; first message not Logon / Logout;
initiator waiting for the Logon reply; TestRequest not via `send_test_req`) leaves the connection
EXACTLY as it was – counter, journal, stored counter, state, everything – and writes nothing. -/
theorem refused_send_unchanged (env : Env) (c : Conn) (m : Msg) (hnew : isNew m = true)
    (h : sendRefused c m = true) : appSend env c m = (c, [.raised .connection]) := by
  rw [appSend_new env c m hnew, if_pos h]

/-- Text that is not single-byte ⇒ EncodingError; the number is handed back, no
journal row, nothing written.  What HAS happened by then is the NETWORK_CONN_ESTABLISHED →
LOGON_INITIAL_SENT transition of a first Logon / Logout (`afterGate`): it precedes encoding. -/
theorem encoding_refusal (env : Env) (c : Conn) (m : Msg) (hnew : isNew m = true)
    (hacc : sendRefused c m = false)
    (hlat : frameLatin1 (buildFrame c.sess env.stamp m c.sess.nextOut) = false) :
    appSend env c m = (afterGate c, gateEff c ++ [.raised .encoding]) ∧
    (afterGate c).sess = c.sess ∧ (afterGate c).journal = c.journal ∧
    (c.state ≠ st_NETWORK_CONN_ESTABLISHED → afterGate c = c ∧ gateEff c = []) := by
  refine ⟨by rw [appSend_new env c m hnew, if_neg (by simp [hacc]), if_pos hlat], afterGate_sess c,
    afterGate_journal c, fun h6 => ?_⟩
  have : (c.state == st_NETWORK_CONN_ESTABLISHED) = false := by simpa using h6
  simp [afterGate, gateEff, this]

/-- every FIXConnectionError out of `send_msg` is one of those refusals -/
theorem refusal_complete (env : Env) (c : Conn) (m : Msg) (hI : OutInv c) (hnew : isNew m = true)
    (h : Effect.raised .connection ∈ (appSend env c m).2) : sendRefused c m = true := by
  cases hr : sendRefused c m with
  | true => rfl
  | false =>
    -- every other outcome raises something else, or nothing
    have hno : ∀ e : Effect, e ≠ .raised .connection → Effect.raised .connection ∉ gateEff c ++ [e] := by
      intro e he hm
      unfold gateEff at hm
      split at hm <;> simp at hm <;> exact he hm.symm
    rw [appSend_new env c m hnew, hr] at h
    simp only [Bool.false_eq_true, if_false] at h
    split at h
    · exact absurd h (hno _ (by simp))
    · split at h
      · exact absurd h (hno _ (by simp))
      · split at h <;> exact absurd h (hno _ (by simp))

/-- Over every history without `reset_seq_num()` (which restarts the
numbering at 1 by design), from every state satisfying `OutInv` with session counter `b` – e.g. a fresh
connection over any stored counter `b − 1` – the new messages written to the transport, in order, are numbered
`b, b+1, b+2, …` without gap or repeat; the counter ends at `b` + their number; the stored
next-outbound number equals the last number + 1; `OutInv` holds at the end.  ResendRequests of every
class are allowed in the history. -/
theorem new_messages_consecutive (sr : Msg → Bool) (c : Conn) (evs : List Event) (hI : OutInv c)
    (hok : ∀ ev ∈ evs, ev.ok ∧ isReset ev = false) :
    numbered c.sess.nextOut (newWrites (run sr c evs).2) ∧
    (run sr c evs).1.sess.nextOut = c.sess.nextOut + (newWrites (run sr c evs).2).length ∧
    (run sr c evs).1.journal.outSeq + 1 = (run sr c evs).1.sess.nextOut ∧
    OutInv (run sr c evs).1 := by
  have g := run_good (sr := sr) (U := True) (X := False) evs c hI hok (fun h => h.elim)
  exact ⟨g.num, g.cnt, g.inv.counter, g.inv⟩

/-- Over every history without `reset_seq_num()` – ResendRequests of EVERY
class included (unbounded, bounded, inverted, out of range) – with numbers that fit SQLite's INTEGER,
every new message `f` sent under `n` is at the end represented in the journal under `n` by `f` itself
or a retransmitted copy of it; only a message that is never retransmitted (session-level type, or
declined by `should_replay`) may instead be covered by a SequenceReset-GapFill row / lie inside a
multi-number gap fill. -/
theorem new_messages_journaled (sr : Msg → Bool) (c : Conn) (evs : List Event) (hI : OutInv c)
    (hok : ∀ ev ∈ evs, ev.ok ∧ isReset ev = false)
    (hmax : (run sr c evs).1.sess.nextOut ≤ sysMaxsize + 1) :
    ∀ f ∈ newWrites (run sr c evs).2, ∀ n, seqOf f = some n → Slot sr (run sr c evs).1 n f :=
  (run_good (sr := sr) (U := True) (X := False) evs c hI hok (fun h => h.elim)).freshSlot trivial hmax

/-- In a history in which no ResendRequest arrives, the exact frame written
for each new message is what `recover_messages(OUTBOUND, n, n)` returns at the end. -/
theorem new_messages_readback (sr : Msg → Bool) (c : Conn) (evs : List Event) (hI : OutInv c)
    (hok : ∀ ev ∈ evs, ev.ok ∧ isReset ev = false) (hnr : ∀ ev ∈ evs, isResendReq ev = false) :
    ∀ f ∈ newWrites (run sr c evs).2, ∀ n, seqOf f = some n →
      (run sr c evs).1.journal.recoverOut n n = [f] := by
  have g := run_good (sr := sr) (U := True) (X := True) evs c hI hok (fun _ => hnr)
  intro f hf n hn
  exact recoverOut_single _ g.inv.sorted n f (g.freshRow trivial f hf n hn)

/-! ## non-vacuity (concrete states and the history `hist`: Lemmas/SessionOutExamples) -/

/-- `outInv_create` applies to a journal with stored counter 41 (`c0`), `outInv_step` to `c0` -/
example : OutInv c0 := outInv_create _ _ _ _ _ (by decide) (by simp [j0, Rows.Sorted]) (by simp [j0])

example : OutInv c1 := outInv_step (fun _ => true) c0 (.connected .initiator) c0_inv trivial

example : c1.state = st_NETWORK_CONN_ESTABLISHED ∧ c1.sess.nextOut = 42 := by decide

/-- `send_numbered` applies: the first Logon of an initiator whose stored counter is 41 leaves as 42 -/
example : seqOf (buildFrame c1.sess env0.stamp logon 42) = some 42 ∧
    (appSend env0 c1 logon).1.sess.nextOut = 43 ∧ (appSend env0 c1 logon).1.journal.outSeq = 42 := by
  have h := send_numbered env0 c1 logon c1_inv rfl (by decide) logon_latin
  exact ⟨h.2.2.1, h.2.2.2.2.2.1, h.2.2.2.2.2.2.2.1⟩

/-- `refused_send_unchanged` applies: an application message as first message of an initiator;
`refusal_complete` applies to the same send -/
example : appSend env0 c1 (order "x") = (c1, [.raised .connection]) :=
  refused_send_unchanged env0 c1 (order "x") rfl (by decide)

example : sendRefused c1 (order "x") = true :=
  refusal_complete env0 c1 (order "x") c1_inv rfl
    (by rw [refused_send_unchanged env0 c1 (order "x") rfl (by decide)]; simp)

/-- `encoding_refusal` applies: a Logon with a non-single-byte field from NETWORK_CONN_ESTABLISHED; the
state HAS moved to LOGON_INITIAL_SENT although nothing was sent and no number was used -/
example : (appSend env0 c1 badLogon).1.state = st_LOGON_INITIAL_SENT ∧
    (appSend env0 c1 badLogon).1.sess = c1.sess ∧ (appSend env0 c1 badLogon).1.journal = c1.journal := by
  have h := encoding_refusal env0 c1 badLogon rfl (by decide) (by decide)
  rw [h.1]
  exact ⟨by decide, h.2.1, h.2.2.1⟩

/-- the history theorems apply to `hist` from `c0`, and `hist` is not trivial: four new messages leave
(Logon, two orders, the Heartbeat answering the TestRequest), numbered 42 … 45 from the stored counter
41, although a ResendRequest is serviced in between and the last send is refused (EncodingError). -/
example : OutInv (run (fun _ => true) c0 hist).1 :=
  (new_messages_consecutive _ c0 hist c0_inv hist_ok).2.2.2

example : (newWrites (run (fun _ => true) c0 hist).2).map seqOf = [some 42, some 43, some 44, some 45] := by
  decide +kernel

/-- the hypotheses of `new_messages_journaled` hold for `hist` from `c0` (which services a ResendRequest),
those of `new_messages_readback` for the first five events (no ResendRequest yet) -/
example : OutInv c0 ∧ (∀ ev ∈ hist, ev.ok ∧ isReset ev = false) ∧
    (run (fun _ => true) c0 hist).1.sess.nextOut ≤ sysMaxsize + 1 :=
  ⟨c0_inv, hist_ok, hist_max⟩

example : ∀ f ∈ newWrites (run (fun _ => true) c0 (hist.take 5)).2, ∀ n, seqOf f = some n →
    (run (fun _ => true) c0 (hist.take 5)).1.journal.recoverOut n n = [f] :=
  new_messages_readback (fun _ => true) c0 (hist.take 5) c0_inv
    (fun ev hev => hist_ok ev (List.mem_of_mem_take hev)) hist5_noResend

end AsyncFix.Props.C05
