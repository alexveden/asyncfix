/-
C03 — stream reassembly is independent of how the byte stream is chunked.

`feedAll bs tbl [] chunks []` is the model of the inner loop of `socket_read_task` run over the
reads `chunks` (Model/Codec/Reader.lean); `decode` is the model of `Codec.decode`.
The stream is `g0 f1 g1 f2 … fn gn` (`interleave gs frames`): valid frames (`WFFrame`, the
structural spec of Model/Codec/Frame.lean) each of which decodes on its own, separated by blocks
that contain no frame-start marker.  The theorems quantify over ALL chunk lists whose
concatenation is the stream: no bound on sizes, empty chunks allowed, boundaries anywhere
(inside the marker, the BodyLength field, the CheckSum field – they are all instances).

Proof: Lemmas/CodecReader{Basic,Frame,Loop}.lean (invariant over the chunk list), over the staged form of
`decode` of Lemmas/CodecDecodeShape.lean.  The proofs use of a frame only that it decodes on its own (`self_frame`):
`hb` and the `WFFrame` half of `hv` are not needed.
-/
import AsyncFix.Lemmas.CodecReaderLoop
import AsyncFix.Generated.Proto
namespace AsyncFix.Props.C03
open AsyncFix.Model.Codec

/-- **C03.**  Whatever the reads are, the reader hands over exactly the frames that were sent, in
order, each with the message the decoder produces for that frame alone. -/
theorem reader_chunk_independent (bs : Bytes) (tbl : Tbl) (frames : List Bytes) (gs : List Bytes)
    (chunks : List Bytes)
    (hb : okBegin bs = true)
    (hv : ∀ f ∈ frames, WFFrame bs f ∧ ∃ m, decode bs tbl f = .msg m f.length f)
    (hg : ∀ g ∈ gs, NoMarker g) (hlen : gs.length = frames.length + 1)
    (hc : chunks.flatten = interleave gs frames) :
    (feedAll bs tbl [] chunks []).2 = frames.map (fun f => (msgOf bs tbl f, f)) := by
  obtain ⟨g0, gs', rfl, hgood⟩ := good_of (fun f hf => (hv f hf).2) hg hlen
  have := (feedAll_good chunks [] [] frames g0 gs' hgood (by simpa using hc) (short_nil g0 fun f hf => (hv f hf).2)).1
  simpa using this

/-- After all reads the buffer holds a (possibly empty) proper prefix of the marker that is a
suffix of the last junk block: nothing of a delivered frame, nothing that is not a potential
beginning of the next frame. -/
theorem reader_residual_buffer (bs : Bytes) (tbl : Tbl) (frames : List Bytes) (gs : List Bytes)
    (chunks : List Bytes)
    (hb : okBegin bs = true)
    (hv : ∀ f ∈ frames, WFFrame bs f ∧ ∃ m, decode bs tbl f = .msg m f.length f)
    (hg : ∀ g ∈ gs, NoMarker g) (hlen : gs.length = frames.length + 1)
    (hc : chunks.flatten = interleave gs frames) :
    ∃ k, k < 6 ∧ (feedAll bs tbl [] chunks []).1 = marker.take k ∧
      (feedAll bs tbl [] chunks []).1 <:+ lastG gs := by
  obtain ⟨g0, gs', rfl, hgood⟩ := good_of (fun f hf => (hv f hf).2) hg hlen
  exact (feedAll_good chunks [] [] frames g0 gs' hgood (by simpa using hc) (short_nil g0 fun f hf => (hv f hf).2)).2

/-- Two ways of cutting the same stream give the same deliveries (in particular: any chunking
and the single read of the whole stream). -/
theorem reader_chunkings_agree (bs : Bytes) (tbl : Tbl) (frames : List Bytes) (gs : List Bytes)
    (chunks₁ chunks₂ : List Bytes)
    (hb : okBegin bs = true)
    (hv : ∀ f ∈ frames, WFFrame bs f ∧ ∃ m, decode bs tbl f = .msg m f.length f)
    (hg : ∀ g ∈ gs, NoMarker g) (hlen : gs.length = frames.length + 1)
    (hc₁ : chunks₁.flatten = interleave gs frames) (hc₂ : chunks₂.flatten = interleave gs frames) :
    (feedAll bs tbl [] chunks₁ []).2 = (feedAll bs tbl [] chunks₂ []).2 := by
  rw [reader_chunk_independent bs tbl frames gs chunks₁ hb hv hg hlen hc₁,
    reader_chunk_independent bs tbl frames gs chunks₂ hb hv hg hlen hc₂]

/-- The degenerate chunking: one byte per read. -/
theorem reader_one_byte_reads (bs : Bytes) (tbl : Tbl) (frames : List Bytes) (gs : List Bytes)
    (hb : okBegin bs = true)
    (hv : ∀ f ∈ frames, WFFrame bs f ∧ ∃ m, decode bs tbl f = .msg m f.length f)
    (hg : ∀ g ∈ gs, NoMarker g) (hlen : gs.length = frames.length + 1) :
    (feedAll bs tbl [] ((interleave gs frames).map fun b => [b]) []).2 =
      frames.map (fun f => (msgOf bs tbl f, f)) := by
  refine reader_chunk_independent bs tbl frames gs _ hb hv hg hlen ?_
  generalize interleave gs frames = s
  induction s with
  | nil => rfl
  | cons b s ih => simp [ih]

/-- The reader neither raises nor stalls on such a stream, for any buffer content that is a prefix
of it (in particular after every read). -/
theorem reader_no_raise_no_stall (bs : Bytes) (tbl : Tbl) (frames : List Bytes) (gs : List Bytes)
    (X R : Bytes)
    (hb : okBegin bs = true)
    (hv : ∀ f ∈ frames, WFFrame bs f ∧ ∃ m, decode bs tbl f = .msg m f.length f)
    (hg : ∀ g ∈ gs, NoMarker g) (hlen : gs.length = frames.length + 1)
    (hs : X ++ R = interleave gs frames) :
    (readLoop bs tbl X []).raised = none ∧ (readLoop bs tbl X []).stalled = false := by
  obtain ⟨g0, gs', rfl, hgood⟩ := good_of (fun f hf => (hv f hf).2) hg hlen
  obtain ⟨_, _, _, _, _, _, hrl, _⟩ := readLoop_good frames g0 gs' X R [] hgood hs
  rw [hrl]
  exact ⟨rfl, rfl⟩

/-- A stream that is cut off (the connection ends – EOF, watchdog, application disconnect – while `R` has not
arrived): whatever the reads were, exactly the first `j` frames are handed over, where `j` is determined by the
length of `R` alone: the delivered frames had arrived completely (`R` is no longer than the stream from the junk
block behind frame `j` on) and the end of the next frame had not (`R` is longer than what follows that frame). -/
theorem reader_truncated_stream (bs : Bytes) (tbl : Tbl) (frames : List Bytes) (gs : List Bytes)
    (chunks : List Bytes) (R : Bytes)
    (hb : okBegin bs = true)
    (hv : ∀ f ∈ frames, WFFrame bs f ∧ ∃ m, decode bs tbl f = .msg m f.length f)
    (hg : ∀ g ∈ gs, NoMarker g) (hlen : gs.length = frames.length + 1)
    (hc : chunks.flatten ++ R = interleave gs frames) :
    ∃ j, j ≤ frames.length ∧
      (feedAll bs tbl [] chunks []).2 = (frames.take j).map (fun f => (msgOf bs tbl f, f)) ∧
      R.length ≤ (interleave (gs.drop j) (frames.drop j)).length ∧
      (j < frames.length → (interleave (gs.drop (j + 1)) (frames.drop (j + 1))).length < R.length) := by
  obtain ⟨g0, gs', rfl, hgood⟩ := good_of (fun f hf => (hv f hf).2) hg hlen
  obtain ⟨done, left, g', gj, gsl, hfr, hdel, hgd, hbr, hdj, hsj, hsh⟩ :=
    feedAll_good_trunc R chunks [] [] frames g0 gs' hgood (by simpa using hc) (short_nil g0 fun f hf => (hv f hf).2)
  have htake : frames.take done.length = done := by rw [hfr, List.take_left]
  have hdropf : frames.drop done.length = left := by rw [hfr, List.drop_left]
  refine ⟨done.length, by rw [hfr, List.length_append]; omega, ?_, ?_, ?_⟩
  · rw [htake]; simpa using hdel
  · rw [hdj, hdropf, interleave_head gj]
    have h1 := congrArg List.length hbr
    rw [interleave_head g'] at h1
    have h2 := hsj.length_le
    simp only [List.length_append] at h1 ⊢
    omega
  · intro hj
    rw [hfr, List.length_append] at hj
    match left, hgd, hbr, hsh, hdropf, hj with
    | f' :: rest, hgd, hbr, hsh, hdropf, _ =>
      obtain ⟨g1, gsl', rfl⟩ := hgd.gs_cons
      have hd1 : (g0 :: gs').drop (done.length + 1) = g1 :: gsl' := by
        rw [← List.drop_drop, hdj]; rfl
      have hd2 : frames.drop (done.length + 1) = rest := by
        rw [← List.drop_drop, hdropf]; rfl
      rw [hd1, hd2]
      have h1 := congrArg List.length hbr
      simp only [interleave, List.length_append] at h1
      have h3 : (feedAll bs tbl [] chunks []).1.length < g'.length + f'.length := hsh
      omega
    | [], _, _, _, _, hj => simp at hj

def protoBegin : Bytes := AsyncFix.Generated.Proto.beginString.toUTF8.toList.map (·.toNat)

/-- The side condition on the BeginString holds for the protocol of /repo (generated). -/
theorem okBegin_proto : okBegin protoBegin = true := by decide +kernel

/-! ### non-vacuity: a concrete stream that satisfies every hypothesis

two frames (a Heartbeat whose Text value contains `8=FIX.`, a NewOrderSingle), junk blocks that end
with partial markers, reads that end inside the marker, inside `9=`, inside `10=`, an empty read. -/

def exTbl : Tbl := AsyncFix.Generated.Proto.groups.map fun (g, ms) => (natToDec g, ms.map natToDec)

def exF1 : Bytes := [56, 61, 70, 73, 88, 46, 52, 46, 52, 1, 57, 61, 51, 49, 1, 51, 53, 61, 48, 1, 52, 57,
  61, 83, 1, 53, 54, 61, 84, 1, 51, 52, 61, 49, 1, 53, 56, 61, 56, 61, 70, 73, 88, 46, 120, 1, 49, 48, 61,
  48, 56, 48, 1]
def exF2 : Bytes := [56, 61, 70, 73, 88, 46, 52, 46, 52, 1, 57, 61, 50, 53, 1, 51, 53, 61, 68, 1, 52, 57,
  61, 83, 1, 53, 54, 61, 84, 1, 51, 52, 61, 50, 1, 53, 53, 61, 65, 1, 49, 48, 61, 49, 54, 52, 1]
def exFs1 : List Fld := [⟨[51, 53], [48]⟩, ⟨[52, 57], [83]⟩, ⟨[53, 54], [84]⟩, ⟨[51, 52], [49]⟩,
  ⟨[53, 56], [56, 61, 70, 73, 88, 46, 120]⟩]
def exFs2 : List Fld := [⟨[51, 53], [68]⟩, ⟨[52, 57], [83]⟩, ⟨[53, 54], [84]⟩, ⟨[51, 52], [50]⟩,
  ⟨[53, 53], [65]⟩]
/-- `xx8=F`, `8`, `\x0110=8=FIX` -/
def exGs : List Bytes := [[120, 120, 56, 61, 70], [56], [1, 49, 48, 61, 56, 61, 70, 73, 88]]
def exStream : Bytes := interleave exGs [exF1, exF2]
/-- cuts: inside the junk's partial marker, inside the first marker, inside `9=31`, an empty read,
inside `10=080`, inside the second junk/marker, the rest -/
def exChunks : List Bytes :=
  [exStream.take 4, (exStream.drop 4).take 4, (exStream.drop 8).take 5, [], (exStream.drop 13).take 38,
   (exStream.drop 51).take 10, exStream.drop 61]

def isMsg (r : DecRes) (n : Nat) (raw : Bytes) : Bool :=
  match r with
  | .msg _ n' raw' => n' == n && raw' == raw
  | _ => false

theorem isMsg_spec {r : DecRes} {n : Nat} {raw : Bytes} (h : isMsg r n raw = true) :
    ∃ m, r = .msg m n raw := by
  unfold isMsg at h
  split at h
  · simp only [Bool.and_eq_true, beq_iff_eq] at h
    exact ⟨_, by rw [h.1, h.2]⟩
  · cases h

theorem exFrames_wf : ∀ f ∈ [exF1, exF2], WFFrame protoBegin f := by
  intro f hf
  simp only [List.mem_cons, List.not_mem_nil, or_false] at hf
  rcases hf with rfl | rfl
  · exact ⟨exFs1, by decide +kernel, by decide +kernel, by decide +kernel⟩
  · exact ⟨exFs2, by decide +kernel, by decide +kernel, by decide +kernel⟩

theorem exGs_noMarker : ∀ g ∈ exGs, NoMarker g := by
  intro g hg
  simp only [exGs, List.mem_cons, List.not_mem_nil, or_false] at hg
  rcases hg with rfl | rfl | rfl <;> (unfold NoMarker; decide +kernel)

theorem exChunks_flatten : exChunks.flatten = interleave exGs [exF1, exF2] := by decide +kernel

example :
    okBegin protoBegin = true ∧
    (∀ f ∈ [exF1, exF2], WFFrame protoBegin f ∧ ∃ m, decode protoBegin exTbl f = .msg m f.length f) ∧
    (∀ g ∈ exGs, NoMarker g) ∧ exGs.length = [exF1, exF2].length + 1 ∧
    exChunks.flatten = interleave exGs [exF1, exF2] ∧ exChunks.length = 7 ∧ [] ∈ exChunks := by
  refine ⟨okBegin_proto, ?_, exGs_noMarker, rfl, exChunks_flatten, rfl, by decide +kernel⟩
  intro f hf
  refine ⟨exFrames_wf f hf, ?_⟩
  simp only [List.mem_cons, List.not_mem_nil, or_false] at hf
  rcases hf with rfl | rfl <;> exact isMsg_spec (by decide +kernel)

end AsyncFix.Props.C03
