import AsyncFix.Lemmas.SessionResendWitness
import AsyncFix.Lemmas.SessionResendShared

/-!
# C06 – a ResendRequest is answered completely, in order and without side effects

Code: asyncfix/connection.py `_process_resend` (+ `send_msg`, `should_replay`, `Codec.encode`,
journaler `recover_messages` / `set_seq_num` / `persist_msg`); model: `Model/SessionResend.lean`
(`processResend`), entry point `recv` (`Model/Session.lean`).

The SPEC of a correct reply is `C06.ReplyChain` (`Lemmas/SessionResendSpec.lean`, definitions only):
the written frames cover `[b, last]` exactly once, ascending and abutting; each frame is either the
retransmission of the replayable journal row of that number (same MsgSeqNum, PossDupFlag=Y,
OrigSendingTime = first sending time, same content fields in the same order, same type) or a
SequenceReset-GapFill `[a, a')` over numbers none of which is a replayable row.

The other words of the statements – the request as read (`Req`), the frame around it (`Envelope`), the last number
asked for (`reqLast`), what an ignored request leaves (`ignored`, `pre`, `post`) – are defined in
`Lemmas/SessionResendTerms.lean`; `Hyp`, `Served`, `Ignored` below.  These two files and this one say what is claimed.

All theorems are for ALL journals satisfying the outbound invariant (any length), ALL `should_replay` predicates
`sr`, all counters that fit `sys.maxsize` (`Hyp`); the request's BeginSeqNo and EndSeqNo are numbers (`Req`).

* `resend_full`                   – ALL (BeginSeqNo, EndSeqNo): served up to `min(EndSeqNo, last sent)` with
                                    the rows after it untouched, or ignored (numbers never sent)
* `resend_reply_chain`            – the open-ended case (EndSeqNo = 0, or ≥ last sent) spelled out
* `invalid_request_no_side_effect`– BeginSeqNo < 1 or ≥ next outbound number: exact post-state
* `no_session_message_retransmitted`, `reply_numbers_ascending` – what every chain implies
* `journal_calls_leave_other_sessions` – a journal shared with other sessions: theirs is untouched

Until /repo da179c4 a bounded EndSeqNo below the last sent number (class D9) gap-filled and deleted the
journal rows after EndSeqNo.
-/
namespace AsyncFix.Session.C06
open Msg AsyncFix.Generated AsyncFix.Generated.ConnEnum

/-- what the theorems assume about the connection, the clock and the frame around the request -/
structure Hyp (env : Env) (c : Conn) (m : Msg) (b e : Int) : Prop where
  /-- ACTIVE, or the receiver itself awaits a resend (and this request does not close its own gap) -/
  state : c.state = st_ACTIVE ∨ (c.state = st_RESENDREQ_AWAITING ∧ c.sess.nextIn < c.maxResend)
  sock : c.sock = true
  /-- CompIDs and the clock text are single-byte (else `send_msg` refuses with EncodingError) -/
  lsender : isLatin1 c.sess.sender = true
  ltarget : isLatin1 c.sess.target = true
  lstamp : isLatin1 env.stamp = true
  /-- property C05: rows ascending, row `n` is a complete frame numbered `n`, rows `< nextOut`,
  stored counter = `nextOut − 1` -/
  inv : OutInv c
  /-- the frame passes `_validate_integrity` and carries the expected MsgSeqNum -/
  envelope : Envelope c m
  req : Req m b e
  /-- journal numbers fit SQLite's INTEGER (`EndSeqNo = 0` is replaced by `sys.maxsize`) -/
  fits : c.sess.nextOut - 1 ≤ sysMaxsize

/-- the request was served up to `last`: reply chain, no side effects outside `[b, last]` -/
def Served (sr : Msg → Bool) (env : Env) (c : Conn) (m : Msg) (b last : Int) : Prop :=
  ∃ sent : Rows,
    writes (recv sr env c m).2 = sent.map (·.2) ∧
    ReplyChain c.sess c.journal.out sr b last (sent.map (·.2)) ∧
    Quiet (recv sr env c m).2 ∧
    (recv sr env c m).1.sess.nextOut = c.sess.nextOut ∧
    (recv sr env c m).1.journal.outSeq = c.journal.outSeq ∧
    (recv sr env c m).1.state = c.state ∧
    (recv sr env c m).1.journal.out =
      c.journal.out.below b ++ sent ++ c.journal.out.filter (fun p => last < p.1) ∧
    (∀ p ∈ sent, b ≤ p.1 ∧ p.1 ≤ last ∧ RowOK p.1 p.2) ∧
    (∀ n, n < b → (recv sr env c m).1.journal.out.find n = c.journal.out.find n) ∧
    OutInv (recv sr env c m).1

/-- the request was ignored: nothing written, outbound side and state untouched -/
def Ignored (sr : Msg → Bool) (env : Env) (c : Conn) (m : Msg) : Prop :=
  writes (recv sr env c m).2 = [] ∧
  (recv sr env c m).1.sess.nextOut = c.sess.nextOut ∧
  (recv sr env c m).1.journal.outSeq = c.journal.outSeq ∧
  (recv sr env c m).1.journal.out = c.journal.out ∧
  (recv sr env c m).1.state = c.state ∧
  (Rows.AllLt c.sess.nextIn c.journal.inb → Quiet (recv sr env c m).2)

/-- **Invalid request** (`BeginSeqNo < 1` or `≥ nextOut`: numbers never sent).  `_process_resend`
returns normally, writes nothing, and leaves the connection exactly as it was except that ACTIVE is
(re-)recorded in `wasActive`; the only effects are the two state notifications of the excursion
RESENDREQ_HANDLING → ACTIVE (none while awaiting).  Through `recv`: no frame written; `nextOut`, the
stored counter, all outbound rows and the state unchanged. -/
theorem invalid_request_no_side_effect (sr : Msg → Bool) (env : Env) (c : Conn) (m : Msg) (b e : Int)
    (hst : c.state = st_ACTIVE ∨ (c.state = st_RESENDREQ_AWAITING ∧ c.sess.nextIn < c.maxResend))
    (henv : Envelope c m) (hreq : Req m b e) (hbad : b < 1 ∨ c.sess.nextOut ≤ b) :
    processResend env sr m c = ⟨.ok (), ignored c, pre c ++ post c⟩ ∧ Ignored sr env c m := by
  have epr := processResend_invalid env sr m c b e (hst.imp_right And.left) hreq hbad
  obtain ⟨r1, r2, r3, r4, r5, r6⟩ := recv_resend sr env c (ignored c) m _ hreq.mtype henv hst epr rfl rfl rfl
  refine ⟨epr, ?_, r2, r4, r3, r1, fun hl => ?_⟩
  · rw [r5, writes_append, writes_pre, writes_post]; rfl
  · rw [r6 hl]; exact quiet_append (quiet_pre c) (quiet_post c)

/-- Session-level messages (`noreply_msgs`) are never retransmitted: every frame of a reply chain is a
SequenceReset-GapFill or the PossDupFlag=Y copy of a message whose type is not in that set. -/
theorem no_session_message_retransmitted {s : Session} {J : Rows} {sr : Msg → Bool} {b last : Int}
    {frames : List Msg} (h : ReplyChain s J sr b last frames) :
    ∀ g ∈ frames, (g.mtype = mSequenceReset ∧ g.get? tGapFillFlag = some "Y") ∨
      (ConnEnum.noReplay.contains g.mtype = false ∧ g.get? tPossDupFlag = some "Y") :=
  chain_frames h

/-- The MsgSeqNums of a reply chain are strictly ascending numbers of `[b, last]`, starting at `b`. -/
theorem reply_numbers_ascending {s : Session} {J : Rows} {sr : Msg → Bool} {b last : Int}
    {frames : List Msg} (h : ReplyChain s J sr b last frames) :
    ∃ ns : List Int, frames.map (·.get? tMsgSeqNum) = ns.map (fun n => some (pyStr n)) ∧
      ns.Pairwise (· < ·) ∧ (∀ n ∈ ns, b ≤ n ∧ n ≤ last) ∧
      (∀ g ∈ frames.head?, g.get? tMsgSeqNum = some (pyStr b)) := by
  obtain ⟨ns, h1, h2, h3, h4⟩ := chain_seqs h
  exact ⟨ns, h1, h2, fun n hn => ⟨(h3 n hn).1, by have := (h3 n hn).2; omega⟩, h4⟩

theorem chainEnd_eq (c : Conn) (b e : Int) (hb2 : b < c.sess.nextOut)
    (hfits : c.sess.nextOut - 1 ≤ sysMaxsize) : chainEnd c b e = reqLast c b e + 1 := by
  unfold chainEnd effEnd reqLast
  by_cases h0 : e = 0
  · subst h0; simp only [beq_self_eq_true, if_true, true_or]; omega
  · have : (e == 0) = false := by simpa using h0
    simp only [this, Bool.false_eq_true, if_false, h0, false_or]
    split
    · omega
    · split <;> omega

/-- the rows put back are the journal's rows above `reqLast` (all rows are below `nextOut`) -/
theorem tailRows_eq (c : Conn) (b e : Int)
    (hfits : c.sess.nextOut - 1 ≤ sysMaxsize) (hlt : Rows.AllLt c.sess.nextOut c.journal.out) :
    tailRows c b e = c.journal.out.filter (fun p => reqLast c b e < p.1) := by
  unfold tailRows Rows.range
  rw [List.filter_filter]
  apply List.filter_congr
  intro p hp
  have hp' := hlt p hp
  rw [Bool.eq_iff_iff]
  unfold effEnd reqLast
  by_cases h0 : e = 0
  · subst h0; simp only [beq_self_eq_true, if_true, true_or, Bool.and_eq_true, decide_eq_true_eq]; omega
  · have : (e == 0) = false := by simpa using h0
    simp only [this, Bool.false_eq_true, if_false, h0, false_or, Bool.and_eq_true, decide_eq_true_eq]
    split
    · omega
    · split <;> omega

/-- **Every request.**  For every journal satisfying the outbound invariant (any length), every replay
filter, all counters, every `(BeginSeqNo, EndSeqNo)`, in ACTIVE or RESENDREQ_AWAITING: a request for
numbers that were sent (`1 ≤ b < nextOut`) is served up to `last = reqLast` – the frames written by
`recv` form a `ReplyChain` covering exactly `[b, last]`, nothing else happens (`Quiet`), `nextOut`, the
stored counter and the state are what they were, the journal is the old rows `< b`, then exactly the
frames written (each under its own number), then the old rows `> last` untouched, and `OutInv` holds
again; any other request is ignored without a trace. -/
theorem resend_full (sr : Msg → Bool) (env : Env) (c : Conn) (m : Msg) (b e : Int)
    (h : Hyp env c m b e) :
    if 1 ≤ b ∧ b < c.sess.nextOut then Served sr env c m b (reqLast c b e) else Ignored sr env c m := by
  split
  · rename_i hb
    obtain ⟨hb1, hb2⟩ := hb
    have epr := processResend_run env sr m c b e (h.state.imp_right And.left) h.sock h.lsender h.ltarget h.lstamp
      h.req h.inv.sorted h.inv.lt h.inv.rows hb1 hb2
    have hch := chain_replyRows env sr c b e h.inv h.fits
    obtain ⟨-, hsK⟩ := replyRows_keys env sr c b e h.inv.sorted h.inv.lt
    obtain ⟨so, hall⟩ := sorted_served env sr c b e h.inv.sorted h.inv.lt
    have hrok := rowOK_replyRows (env := env) (sr := sr) (b := b) (e0 := e) h.lsender h.ltarget h.lstamp h.inv.rows
    have hK : ∀ p ∈ replyRows env sr c b e, b ≤ p.1 ∧ p.1 < reqLast c b e + 1 := by
      intro p hp
      have := hsK p hp
      rw [← chainEnd_eq c b e hb2 h.fits, lt_chainEnd_iff this.1]
      omega
    rw [chainEnd_eq c b e hb2 h.fits] at hch
    rw [tailRows_eq c b e h.fits h.inv.lt] at epr so hall
    generalize replyRows env sr c b e = sent at epr hch so hall hK hrok
    have hle := chain_le hch
    obtain ⟨r1, r2, r3, r4, r5, r6⟩ := recv_resend sr env c _ m _ h.req.mtype h.envelope h.state epr rfl rfl rfl
    have hout : (recv sr env c m).1.journal.out =
        c.journal.out.below b ++ sent ++ c.journal.out.filter (fun p => reqLast c b e < p.1) := r3
    have hrecv := r6 (Rows.allLt_below _ _)
    -- the journal afterwards: the rows `< b`, what was sent for `[b, last]`, the rows `> last`
    have htail : ∀ p ∈ c.journal.out.filter (fun p => decide (reqLast c b e < p.1)),
        p ∈ c.journal.out ∧ reqLast c b e + 1 ≤ p.1 := by
      intro p hp
      obtain ⟨h1, h2⟩ := List.mem_filter.mp hp
      simp only [decide_eq_true_eq] at h2
      exact ⟨h1, by omega⟩
    refine ⟨sent, ?_, hch, ?_, r2, ?_, r1, hout, ?_, ?_, ?_⟩
    · rw [r5]
      simp only [writes_append, writes_pre, writes_post, writes_map_write, List.nil_append,
        List.append_nil]
    · rw [hrecv]
      refine quiet_append (quiet_append (quiet_pre c) ?_) (quiet_post c)
      intro x hx
      obtain ⟨p, _, rfl⟩ := List.mem_map.mp hx
      exact Or.inl ⟨_, rfl⟩
    · exact r4.trans (by show c.sess.nextOut - 1 = c.journal.outSeq; have := h.inv.stored; omega)
    · intro p hp
      have := hK p hp
      exact ⟨this.1, by omega, hrok p hp⟩
    · intro n hn
      rw [hout, List.append_assoc]
      refine Rows.find_below_append h.inv.sorted (by rw [← List.append_assoc]; exact so) ?_ hn
      intro p hp
      rcases List.mem_append.mp hp with h1 | h1
      · exact (hK p h1).1
      · have := (htail p h1).2; omega
    · refine ⟨by rw [hout]; exact so, by rw [hout, r2]; exact hall, ?_, ?_⟩
      · rw [hout]
        intro p hp
        rcases List.mem_append.mp hp with h1 | h1
        · rcases List.mem_append.mp h1 with h2 | h2
          · exact h.inv.rows p (Rows.mem_below.mp h2).1
          · exact hrok p h2
        · exact h.inv.rows p (htail p h1).1
      · rw [r4, r2]
        show c.sess.nextOut - 1 + 1 = c.sess.nextOut
        omega
  · rename_i hb
    exact (invalid_request_no_side_effect sr env c m b e h.state h.envelope h.req (by omega)).2

/-- **Open-ended request** (EndSeqNo `0` or `≥` the last sent number), spelled out: the chain covers
exactly `[b, nextOut − 1]` and the journal is the old rows `< b` followed by exactly the frames written. -/
theorem resend_reply_chain (sr : Msg → Bool) (env : Env) (c : Conn) (m : Msg) (b e : Int)
    (h : Hyp env c m b e) (hb1 : 1 ≤ b) (hb2 : b < c.sess.nextOut)
    (he : e = 0 ∨ c.sess.nextOut - 1 ≤ e) :
    ∃ sent : Rows,
      writes (recv sr env c m).2 = sent.map (·.2) ∧
      ReplyChain c.sess c.journal.out sr b (c.sess.nextOut - 1) (sent.map (·.2)) ∧
      Quiet (recv sr env c m).2 ∧
      (recv sr env c m).1.sess.nextOut = c.sess.nextOut ∧
      (recv sr env c m).1.journal.outSeq = c.journal.outSeq ∧
      (recv sr env c m).1.state = c.state ∧
      (recv sr env c m).1.journal.out = c.journal.out.below b ++ sent ∧
      (∀ p ∈ sent, b ≤ p.1 ∧ p.1 < c.sess.nextOut ∧ RowOK p.1 p.2) ∧
      (∀ n, n < b → (recv sr env c m).1.journal.out.find n = c.journal.out.find n) ∧
      OutInv (recv sr env c m).1 := by
  have hf := resend_full sr env c m b e h
  rw [if_pos ⟨hb1, hb2⟩] at hf
  have hlast : reqLast c b e = c.sess.nextOut - 1 := by unfold reqLast; rw [if_pos he]
  rw [hlast] at hf
  obtain ⟨sent, g1, g2, g3, g4, g5, g6, g7, g8, g9, g10⟩ := hf
  have hnil : c.journal.out.filter (fun p => decide (c.sess.nextOut - 1 < p.1)) = [] := by
    rw [List.filter_eq_nil_iff]
    intro p hp
    have := h.inv.lt p hp
    simp only [decide_eq_true_eq]; omega
  rw [hnil, List.append_nil] at g7
  refine ⟨sent, g1, g2, g3, g4, g5, g6, g7, ?_, g9, g10⟩
  intro p hp
  obtain ⟨a1, a2, a3⟩ := g8 p hp
  exact ⟨a1, by omega, a3⟩

/-! ### a journal shared with other sessions

The session model holds the journal of one session; `Served` / `Ignored` speak about its rows.  When the
same `Journaler` also serves other sessions, nothing of theirs may change either.  `_process_resend`
calls the journaler only through `recover_messages`, `set_seq_num` and `persist_msg` with its own
session object (`OnSession k`); for the multi-session journal model of property C13: -/

/-- Any sequence of journaler calls made with session `k`'s object, on any journal satisfying C13's
invariant (i.e. after any history, `C13.jinv_reachable`), leaves every OTHER session's rows (inbound and
outbound, every number), stored counters and CompID registration exactly as they were. -/
theorem journal_calls_leave_other_sessions (j : AsyncFix.Model.Journal.Journal)
    (hinv : AsyncFix.Model.Journal.JInv j) (ops : List AsyncFix.Model.Journal.Op) (k : Int)
    (h : ∀ op ∈ ops, OnSession k op) :
    SameElsewhere k (AsyncFix.Model.Journal.abs j)
      (AsyncFix.Model.Journal.abs (AsyncFix.Model.Journal.applyOps j ops)) :=
  other_sessions_untouched j hinv ops k h

/-! ### non-vacuity: a concrete journal satisfies the hypotheses and yields the expected chain

Journal (next outbound number 7): 1 application message, 2 Heartbeat (session level), 3 application
message the filter declines, 4 missing, 5 application message, 6 missing.  ResendRequest(1, 0) is
answered by exactly four frames: copy of 1, GapFill 2 → 5, copy of 5, GapFill 6 → 7. -/
section NonVacuity
open Witness

def J4 : Rows := [app 1, row 2 "0" [], app 3, app 5]
def c4 : Conn := conn 7 J4
/-- the application declines MsgSeqNum 3 -/
def sr3 : Msg → Bool := fun m => m.get? tMsgSeqNum != some "3"

theorem hyp_conn (env : Env) {nextOut : Int} {rows : Rows} (b e : Int)
    (hstamp : isLatin1 env.stamp = true) (hinv : OutInv (conn nextOut rows))
    (hfits : nextOut - 1 ≤ sysMaxsize) : Hyp env (conn nextOut rows) (req b e) b e where
  state := Or.inl rfl
  sock := rfl
  lsender := by show isLatin1 "S" = true; decide
  ltarget := by show isLatin1 "T" = true; decide
  lstamp := hstamp
  inv := hinv
  envelope := envelope_req _ _ _ _
  req := req_req b e
  fits := hfits

theorem outInv4 : OutInv c4 :=
  outInv_conn (by unfold Rows.Sorted; decide) (by unfold Rows.AllLt; decide)
    (List.forall_mem_cons.mpr ⟨rowOK_app 1, List.forall_mem_cons.mpr ⟨rowOK_row 2 "0" [] rfl rfl,
      List.forall_mem_cons.mpr ⟨rowOK_app 3, List.forall_mem_cons.mpr ⟨rowOK_app 5, nofun⟩⟩⟩⟩)

theorem hyp4 (b e : Int) (hb : 0 ≤ b) (he : 0 ≤ e) : Hyp envW c4 (req b e) b e :=
  hyp_conn envW b e latin_envW outInv4 (by decide)

/-- the hypotheses of `resend_reply_chain` are satisfiable by a journal with a session message, a
declined message and two holes -/
example : ∃ sent : Rows,
    writes (recv sr3 envW c4 (req 1 0)).2 = sent.map (·.2) ∧
    ReplyChain c4.sess c4.journal.out sr3 1 6 (sent.map (·.2)) := by
  obtain ⟨sent, h1, h2, _⟩ :=
    resend_reply_chain sr3 envW c4 (req 1 0) 1 0 (hyp4 1 0 (by decide) (by decide)) (by decide)
      (by decide) (Or.inl rfl)
  exact ⟨sent, h1, h2⟩

/-- the chain is the expected one: (type, MsgSeqNum, PossDupFlag, NewSeqNo) of the 4 frames -/
example :
    (writes (recv sr3 envW c4 (req 1 0)).2).map
      (fun g => (g.mtype, g.get? tMsgSeqNum, g.get? tPossDupFlag, g.get? tNewSeqNo)) =
    [("D", some "1", some "Y", none), ("4", some "2", none, some "5"),
     ("D", some "5", some "Y", none), ("4", some "6", none, some "7")] := by
  decide +kernel

/-- the same journal while the receiver itself awaits a resend (watermark 9): hypotheses hold too -/
example : Hyp envW { c4 with state := st_RESENDREQ_AWAITING, maxResend := 9 } (req 2 0) 2 0 :=
  { hyp4 2 0 (by decide) (by decide) with
    state := Or.inr ⟨rfl, by decide⟩
    inv := ⟨outInv4.sorted, outInv4.lt, outInv4.rows, outInv4.stored⟩
    envelope := ⟨(envelope_req 7 J4 2 0).begin_, (envelope_req 7 J4 2 0).sender,
      (envelope_req 7 J4 2 0).target, (envelope_req 7 J4 2 0).seq⟩ }

/-- an invalid request (BeginSeqNo = 7 = next outbound number) on the same connection: ignored -/
example : Ignored sr3 envW c4 (req 7 0) :=
  (invalid_request_no_side_effect sr3 envW c4 (req 7 0) 7 0 (Or.inl rfl) (envelope_req _ _ _ _)
    (req_req 7 0) (Or.inr (by decide))).2

/-! #### the former finding D9 (repaired by /repo da179c4): bounded and inverted ranges

Journal: application messages 1..5, next outbound number 6.  ResendRequest(2, 3) is answered by the copies
of 2 and 3 only, and 4, 5 stay in the journal; ResendRequest(4, 2) writes nothing and changes nothing. -/

def J5 : Rows := [app 1, app 2, app 3, app 4, app 5]
def c5 : Conn := conn 6 J5

theorem outInv5 : OutInv c5 :=
  outInv_conn (by unfold Rows.Sorted; decide) (by unfold Rows.AllLt; decide)
    (List.forall_mem_cons.mpr ⟨rowOK_app 1, List.forall_mem_cons.mpr ⟨rowOK_app 2,
      List.forall_mem_cons.mpr ⟨rowOK_app 3, List.forall_mem_cons.mpr ⟨rowOK_app 4,
        List.forall_mem_cons.mpr ⟨rowOK_app 5, nofun⟩⟩⟩⟩⟩)

theorem hyp5 (b e : Int) (hb : 0 ≤ b) (he : 0 ≤ e) : Hyp envW c5 (req b e) b e :=
  hyp_conn envW b e latin_envW outInv5 (by decide)

/-- `resend_full` applies to the bounded request (2, 3): served up to 3 -/
example : Served (fun _ => true) envW c5 (req 2 3) 2 3 := by
  have := resend_full (fun _ => true) envW c5 (req 2 3) 2 3 (hyp5 2 3 (by decide) (by decide))
  rw [if_pos (by decide)] at this
  exact this

/-- what `recv` does on (2, 3): two copies, rows 4 and 5 still there (all five rows are type D) -/
example :
    (writes (recv (fun _ => true) envW c5 (req 2 3)).2).map
      (fun g => (g.mtype, g.get? tMsgSeqNum, g.get? tPossDupFlag, g.get? tNewSeqNo)) =
      [("D", some "2", some "Y", none), ("D", some "3", some "Y", none)] ∧
    (recv (fun _ => true) envW c5 (req 2 3)).1.journal.out.map (fun p => (p.1, p.2.mtype)) =
      [(1, "D"), (2, "D"), (3, "D"), (4, "D"), (5, "D")] ∧
    (recv (fun _ => true) envW c5 (req 2 3)).1.journal.out.find 5 = c5.journal.out.find 5 := by
  decide +kernel

/-- EndSeqNo < BeginSeqNo asks for nothing: nothing written, journal identical -/
example :
    writes (recv (fun _ => true) envW c5 (req 4 2)).2 = [] ∧
    (recv (fun _ => true) envW c5 (req 4 2)).1.journal.out = c5.journal.out := by
  decide +kernel

/-- bounded request over the mixed journal `J4`: (1, 4) ends with GapFill 2 → 5, row 5 untouched -/
example :
    (writes (recv sr3 envW c4 (req 1 4)).2).map
      (fun g => (g.mtype, g.get? tMsgSeqNum, g.get? tNewSeqNo)) =
      [("D", some "1", none), ("4", some "2", some "5")] ∧
    (recv sr3 envW c4 (req 1 4)).1.journal.out.find 5 = c4.journal.out.find 5 := by
  decide +kernel

/-! #### rows that already carry PossDupFlag / OrigSendingTime without being copies

Row 2 was sent by the application with an explicit header field `43=N` (in the middle of its own tags),
row 3 carries a stale `122` and no `43`.  Both are ordinary `RowOK` rows, so `resend_full` covers them:
`IsRetransmission` demands `43=Y` under the ORIGINAL number whatever the row had (`prepareReplay` sets 43
with `replace`), and OrigSendingTime = the row's 122 when it has one, else its SendingTime. -/

def J3n : Rows :=
  [app 1, row 2 "D" [(11, "o2"), (43, "N"), (58, "x")],
   row 3 "D" [(11, "o3"), (58, "x"), (122, "20231231-23:59:59.000")]]
def c3n : Conn := conn 4 J3n

theorem outInv3n : OutInv c3n :=
  outInv_conn (by unfold Rows.Sorted; decide) (by unfold Rows.AllLt; decide)
    (List.forall_mem_cons.mpr ⟨rowOK_app 1, List.forall_mem_cons.mpr
      ⟨rowOK_row 2 "D" _ (by decide) (by decide +kernel), List.forall_mem_cons.mpr
        ⟨rowOK_row 3 "D" _ (by decide) (by decide +kernel), nofun⟩⟩⟩)

theorem hyp3n (b e : Int) (hb : 0 ≤ b) (he : 0 ≤ e) : Hyp envW c3n (req b e) b e :=
  hyp_conn envW b e latin_envW outInv3n (by decide)

/-- the theorem applies: all three rows are retransmitted in a chain over `[1, 3]` -/
example : Served (fun _ => true) envW c3n (req 1 0) 1 3 := by
  have := resend_full (fun _ => true) envW c3n (req 1 0) 1 0 (hyp3n 1 0 (by decide) (by decide))
  rw [if_pos (by decide)] at this
  exact this

/-- each row goes out under its own number with 43=Y (replaced IN PLACE for row 2, appended for row 3) and the right
OrigSendingTime; (type, 34, 43, 122) and the content fields of the copy of row 2 -/
example :
    (writes (recv (fun _ => true) envW c3n (req 1 0)).2).map
      (fun g => (g.mtype, g.get? tMsgSeqNum, g.get? tPossDupFlag, g.get? tOrigSendingTime)) =
      [("D", some "1", some "Y", some stamp0), ("D", some "2", some "Y", some stamp0),
       ("D", some "3", some "Y", some "20231231-23:59:59.000")] ∧
    ((writes (recv (fun _ => true) envW c3n (req 1 0)).2).map appBody)[1]? =
      some [(11, "o2"), (58, "x")] ∧
    (recv (fun _ => true) envW c3n (req 1 0)).1.sess.nextOut = 4 := by
  decide +kernel

/-! #### magnitudes: the counter has passed 999999 and EndSeqNo is exactly 999999

`resend_full` has no special numbers: EndSeqNo = 999999 (the "infinity" of FIX 4.0 / 4.1) is a bound like
any other once more than a million messages were sent. -/

def J1M : Rows := [app 999998, app 999999, app 1000000, app 1000001]
def c1M : Conn := conn 1000002 J1M

theorem outInv1M : OutInv c1M :=
  outInv_conn (by unfold Rows.Sorted; decide) (by unfold Rows.AllLt; decide)
    (List.forall_mem_cons.mpr ⟨rowOK_app _, List.forall_mem_cons.mpr ⟨rowOK_app _,
      List.forall_mem_cons.mpr ⟨rowOK_app _, List.forall_mem_cons.mpr ⟨rowOK_app _, nofun⟩⟩⟩⟩)

theorem hyp1M (b e : Int) (hb : 0 ≤ b) (he : 0 ≤ e) : Hyp envW c1M (req b e) b e :=
  hyp_conn envW b e latin_envW outInv1M (by decide)

example : Served (fun _ => true) envW c1M (req 999998 999999) 999998 999999 := by
  have := resend_full (fun _ => true) envW c1M (req 999998 999999) 999998 999999
    (hyp1M _ _ (by decide) (by decide))
  rw [if_pos (by decide)] at this
  exact this

example :
    (writes (recv (fun _ => true) envW c1M (req 999998 999999)).2).map
      (fun g => (g.mtype, g.get? tMsgSeqNum, g.get? tPossDupFlag)) =
      [("D", some "999998", some "Y"), ("D", some "999999", some "Y")] ∧
    (recv (fun _ => true) envW c1M (req 999998 999999)).1.journal.out.find 1000000 =
      c1M.journal.out.find 1000000 ∧
    (recv (fun _ => true) envW c1M (req 999998 999999)).1.journal.out.find 1000001 =
      c1M.journal.out.find 1000001 := by
  decide +kernel

/-! #### the clock: `resend_full` holds for EVERY `env`, also one whose time text is EARLIER than the rows'

`IsRetransmission.orig` ties OrigSendingTime to the row (its 122, else its SendingTime), never to the clock of
the retransmission. -/

/-- the wall clock stepped back: the request is served "the day before" the rows were stamped -/
def envBack : Env := { now := 500, stamp := "20240101-23:59:59.999" }

theorem hyp5back (b e : Int) (hb : 0 ≤ b) (he : 0 ≤ e) : Hyp envBack c5 (req b e) b e :=
  hyp_conn envBack b e (by decide) outInv5 (by decide)

example : Served (fun _ => true) envBack c5 (req 2 3) 2 3 := by
  have := resend_full (fun _ => true) envBack c5 (req 2 3) 2 3 (hyp5back 2 3 (by decide) (by decide))
  rw [if_pos (by decide)] at this
  exact this

/-- SendingTime is the (earlier) clock, OrigSendingTime the original SendingTime byte for byte -/
example :
    (writes (recv (fun _ => true) envBack c5 (req 2 3)).2).map
      (fun g => (g.get? tMsgSeqNum, g.get? tSendingTime, g.get? tOrigSendingTime)) =
      [(some "2", some "20240101-23:59:59.999", some stamp0),
       (some "3", some "20240101-23:59:59.999", some stamp0)] := by
  decide +kernel

end NonVacuity

end AsyncFix.Session.C06
