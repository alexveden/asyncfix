import AsyncFix.Lemmas.BridgeDecode

/-!
C01 through the bridge — the session model's frames decode to themselves.

The session model (`AsyncFix.Session`) calls the `Msg` inside `Effect.write` "the frame as the decoder
reads it back".  This file makes that a theorem about the codec model: `decode` of the rendered
bytes of `buildFrame s stamp m seq` is the message whose entries are exactly the fields of that
`Msg` (type = the message's own), the whole frame is consumed and its bytes are returned.
Proof: `Props.C01.decode_flat` + the bridge (`Lemmas/Bridge*.lean`).

Hypotheses (explicit, `PlainOK` / `hdrFree`): the session strings, the type and the kept values
contain no SOH; the kept tags (all but 34/52/49/56) are pairwise distinct, none of 8 / 9 / 35 / 10,
no group tag of the table, at most `maxStrDigits` digits; no header / trailer tag is a group tag
(true of the generated FIX 4.4 table: `hdrFree_proto`); BodyLength has at most `maxStrDigits` digits.
-/
namespace AsyncFix.Props.C01Bridge

open AsyncFix AsyncFix.Bridge AsyncFix.Generated AsyncFix.Model
open AsyncFix.Session (Msg buildFrame)

theorem decode_render_buildFrame (tbl : Codec.Tbl) (s : Session.Session) (stamp : String) (m : Msg)
    (seq : Int) (h10 : Codec.tblNo10 tbl = true) (hT : hdrFree tbl = true) (hok : PlainOK tbl s stamp m)
    (hd : (Codec.natToDec (blenOf s stamp m seq)).length ≤ Codec.maxStrDigits) :
    Codec.decode Proto.beginStringBytes tbl (render (buildFrame s stamp m seq)) =
      .msg (toCodec (buildFrame s stamp m seq))
        (render (buildFrame s stamp m seq)).length (render (buildFrame s stamp m seq)) :=
  Bridge.decode_render_buildFrame tbl s stamp m seq h10 hT hok hd

/-- … in particular on the generated FIX 4.4 group table -/
theorem decode_render_buildFrame_proto (s : Session.Session) (stamp : String) (m : Msg) (seq : Int)
    (hok : PlainOK C01.protoTbl s stamp m)
    (hd : (Codec.natToDec (blenOf s stamp m seq)).length ≤ Codec.maxStrDigits) :
    Codec.decode Proto.beginStringBytes C01.protoTbl (render (buildFrame s stamp m seq)) =
      .msg (toCodec (buildFrame s stamp m seq))
        (render (buildFrame s stamp m seq)).length (render (buildFrame s stamp m seq)) :=
  Bridge.decode_render_buildFrame _ s stamp m seq C01.tblNo10_proto hdrFree_proto hok hd

/-! ### non-vacuity: an order with a latin-1 text and a MsgSeqNum(34) of its own (dropped by the
encoder), session INIT→ACPT, on the generated table -/

def exSess : Session.Session := { sender := "INIT", target := "ACPT" }
def exMsg : Msg := ⟨"D", [(11, "c1"), (34, "9"), (58, "hé")]⟩
def exStamp : String := "20240102-00:00:00.000"

theorem ex_ok : PlainOK C01.protoTbl exSess exStamp exMsg := by
  have hk : keptTags exMsg = [(11, "c1"), (58, "hé")] := by decide +kernel
  have h11 : Codec.natToDec 11 = [49, 49] := by simp [Codec.natToDec]
  have h58 : Codec.natToDec 58 = [53, 56] := by simp [Codec.natToDec]
  refine ⟨by decide +kernel, by decide +kernel, by decide +kernel, by decide +kernel, ?_, ?_⟩
  · rw [hk]; decide
  · intro p hp
    rw [hk] at hp
    simp only [List.mem_cons, List.not_mem_nil, or_false] at hp
    rcases hp with rfl | rfl
    · refine ⟨by decide, by decide, by decide, by decide, Codec.short_tag 11 (by decide), by decide +kernel, ?_⟩
      rw [h11]; decide +kernel
    · refine ⟨by decide, by decide, by decide, by decide, Codec.short_tag 58 (by decide), by decide +kernel, ?_⟩
      rw [h58]; decide +kernel

example : Codec.decode Proto.beginStringBytes C01.protoTbl (render (buildFrame exSess exStamp exMsg 7)) =
    .msg (toCodec (buildFrame exSess exStamp exMsg 7))
      (render (buildFrame exSess exStamp exMsg 7)).length (render (buildFrame exSess exStamp exMsg 7)) :=
  decode_render_buildFrame_proto exSess exStamp exMsg 7 ex_ok (Codec.short_tag _ (by decide +kernel))

end AsyncFix.Props.C01Bridge
