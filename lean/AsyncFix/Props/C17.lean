/-
C17 — an order object converges to the exchange's view of the order.

Objects: `Model/OrderObj` (FIXNewOrderSingle, branch for branch incl. the branches that raise; the
transition function is `changeStatus` over the table GENERATED from the source), `Model/Exchange`
(reference exchange – spec), `Model/OrderLink` (order + two FIFO queues + exchange).

LOCAL theorems hold for ARBITRARY call sequences on the order object – any interleaving of
new_req / cancel_req / replace_req with ANY reports, well-formed or not (`runOps`).
GLOBAL theorems hold for every interleaving of client and exchange actions (`run`) that contains
none of the two races recorded as known findings (`calm`); the full statement `converges_full`
stays visible and is refuted in `Findings/C17`.
-/
import AsyncFix.Lemmas.OrderObjStep
namespace AsyncFix.Props.C17
open AsyncFix.Model.OrderObj AsyncFix.Model.Exchange AsyncFix.Model.OrderLink AsyncFix.Model.OrderTable
open AsyncFix.Props.C16 (finished)

/-- an order object as the constructor returns it, then any call sequence -/
def Reachable (o : Order) : Prop :=
  ∃ (root : Str) (p q : Int) (t s ot a : Str) (o0 : Order) (ops : List Op),
    Order.init root p q t s ot a = .ok o0 ∧ o = runOps o0 ops

theorem reachable_inv {o : Order} (h : Reachable o) : LocalInv o := by
  obtain ⟨root, p, q, t, s, ot, a, o0, ops, hi, rfl⟩ := h
  exact runOps_inv o0 ops (init_inv hi)

/-- the status is always a member of the status enum -/
theorem status_is_enum {o : Order} (h : Reachable o) : o.status ∈ statusValues :=
  (reachable_inv h).enum

/-- `orig_clord_id` is set only while a cancel / replace request is pending (or after the order was
canceled), and while one is pending both builders refuse (FIXError, order untouched): the client
cannot have two requests outstanding -/
theorem one_outstanding {o : Order} (h : Reachable o) :
    (truthy o.origClordId = true → o.status = "6" ∨ o.status = "E" ∨ o.status = "4") ∧
    (o.status = "6" ∨ o.status = "E" →
      cancelReq o = (o, .raised .fixError) ∧ ∀ p q, replaceReq o p q = (o, .raised .fixError)) := by
  refine ⟨fun ht => ?_, fun hp => ?_⟩
  · have := (reachable_inv h).orig ht
    simpa [AsyncFix.Props.C16.sticky] using this
  · exact not_live_refuses (by rcases hp with h' | h' <;> rw [h'] <;> decide)

/-- `can_cancel()` true ⇒ `cancel_req()` returns the request and does not raise;
`can_replace()` true and the call changes price or quantity ⇒ `replace_req()` likewise.
(`replace_req` raises FIXError by design when neither changes: hence the hypothesis that one does.)
The request carries the new id `nextId o` as ClOrdID and the id the order had as OrigClOrdID. -/
theorem can_implies_builds {o : Order} (h : Reachable o) :
    (canCancel o = .ok true → ∃ m, cancelReq o = (startRequest o "6", .ok m) ∧ m.msgType = "F" ∧
        m.clOrdId = some (nextId o) ∧ m.origClOrdId = some o.clordId) ∧
    (∀ p q, canReplace o = .ok true → (effPrice o p ≠ o.price ∨ effQty o q ≠ o.qty) →
        ∃ m, replaceReq o p q = (startRequest o "E", .ok m) ∧ m.msgType = "G" ∧
        m.clOrdId = some (nextId o) ∧ m.origClOrdId = some o.clordId) := by
  have hi := reachable_inv h
  refine ⟨fun hc => ?_, fun p q hc hch => ?_⟩
  · have hl := live_of_can (canCancel_eq o) hc
    exact ⟨msgF o, by rw [cancelReq_eq, if_pos hl, not_truthy_of_live hi hl]; rfl, rfl, rfl, rfl⟩
  · have hl := live_of_can (canReplace_eq o) hc
    have hne : ¬ (effPrice o p = o.price ∧ effQty o q = o.qty) := fun ⟨h1, h2⟩ => hch.elim (· h1) (· h2)
    exact ⟨msgG o _ _, by rw [replaceReq_eq, if_pos hl, if_neg hne, not_truthy_of_live hi hl]; rfl, rfl, rfl, rfl⟩

/-- a finished order stays finished whatever report arrives – late, duplicated, an OrderCancelReject
or an execution report with any OrdStatus / ExecType, well-formed or not: the status does not change
(so `is_finished()` stays true and both gates stay false, `gates_total`) -/
theorem finished_stays_finished (o : Order) (r : Report) (hf : o.status ∈ finished) :
    (feed o r).1.status = o.status ∧ isFinished (feed o r).1 = true := by
  have hst : (feed o r).1.status = o.status :=
    (feed_status o r).resolve_right fun ⟨_, _, _, _, hs⟩ =>
      AsyncFix.Props.C16.finished_absorbing _ _ _ _ _ _ hf hs
  exact ⟨hst, by rw [← hst] at hf; exact (finished_facts _ hf).2⟩

/-- OBSERVATION outside the property's quantifier (application hooks that raise): the builders are not
exception safe – after `set_instrument` raised inside `cancel_req()` of a NEW order nothing was sent,
yet ClOrdID, OrigClOrdID and counter have advanced, `can_cancel()` is still true and the next
`cancel_req()` fails its assertion.  (`cancelReqH … .raises` mirrors the code as it is; the
correspondence exercises it.  All theorems here assume hooks that return normally.) -/
example :
    let o : Order := { clordId := [111, 45, 45, 49], price := 80, qty := 40, clordCnt := 1, status := "0" }
    (cancelReqH o .raises).2 = .raised .hook ∧ (cancelReqH o .raises).1.origClordId = some [111, 45, 45, 49] ∧
    canCancel (cancelReqH o .raises).1 = .ok true ∧
    (cancelReq (cancelReqH o .raises).1).2 = .raised .assertion := by decide +kernel

/-- with well-behaved hooks the hook-aware builders are the plain builders -/
theorem builders_hook_ok (o : Order) (p q : Option Int) :
    newReqH o .ok = newReq o ∧ cancelReqH o .ok = cancelReq o ∧ replaceReqH o p q .ok = replaceReq o p q := by
  refine ⟨?_, ?_, ?_⟩
  · unfold newReqH
    by_cases hz : o.status ≠ "Z"
    · rw [if_pos hz, newReq_eq, if_pos hz]
    · rw [if_neg hz]
  · unfold cancelReqH; cases (cancelReq o).2 <;> rfl
  · unfold replaceReqH; cases (replaceReq o p q).2 <;> rfl

/-- the gates never raise and are decided by the status alone -/
theorem gates_total (o : Order) :
    canCancel o = .ok (decide (o.status ∈ AsyncFix.Props.C16.live)) ∧
    canReplace o = .ok (decide (o.status ∈ AsyncFix.Props.C16.live)) :=
  ⟨canCancel_eq o, canReplace_eq o⟩

/-- ClOrdIDs are fresh, for EVERY root: along any call sequence the counter values of the requests
built strictly increase, each ClOrdID is `<something>--<counter>`, and no two are equal -/
theorem clordid_fresh (o : Order) (ops : List Op) :
    (builtOps o ops).Pairwise (fun a b => a.1 < b.1) ∧
    (∀ cm ∈ builtOps o ops, o.clordCnt < cm.1 ∧ ∃ x, cm.2.clOrdId = some (x ++ [45, 45] ++ dec cm.1)) ∧
    (builtOps o ops).Pairwise (fun a b => a.2.clOrdId ≠ b.2.clOrdId) :=
  ⟨builtOps_sorted o ops, builtOps_spec o ops, builtOps_fresh o ops⟩

/-- for a root that is non-empty and does not end in `--<digits>` (line breaks allowed), the k-th
request built carries exactly `<root>--<counter>` -/
theorem clordid_root_k {root : Str} (g : GoodRoot root) {p q : Int} {t s ot a : Str} {o : Order}
    (hi : Order.init root p q t s ot a = .ok o) (ops : List Op) :
    ∀ cm ∈ builtOps o ops, cm.2.clOrdId = some (root ++ [45, 45] ++ dec cm.1) := by
  obtain ⟨_, rfl⟩ := init_ok hi
  exact builtOps_good g _ ops ⟨Or.inl rfl, fun x hx => by cases hx⟩

/-- root extraction, as the property text reads: for EVERY root that does not itself end in the
chaining suffix, `clord_root` gives the root back from the bare root and from every chained id -/
theorem root_extraction_full (root : Str) (h0 : root ≠ []) (hb : ¬ ChainForm root) :
    clordRoot root = root ∧ ∀ k, clordRoot (root ++ [45, 45] ++ dec k) = root :=
  ⟨clordRoot_bare root hb, fun k => clordRoot_chain_dec root k h0⟩

theorem root_extraction {root : Str} (g : GoodRoot root) :
    clordRoot root = root ∧ ∀ k, clordRoot (root ++ [45, 45] ++ dec k) = root :=
  root_extraction_full root g.ne g.bare

/-- … precisely: a chained id is always cut back to what stands before the LAST `--<digits>` (also
when that itself ends in `--<digits>`), and a text is returned unchanged exactly when it is not of
the chain form – the excluded roots are exactly the chain-form ones -/
theorem root_extraction_char (s : Str) :
    (clordRoot s = s ↔ ¬ ChainForm s) ∧
    (s ≠ [] → ∀ k, clordRoot (s ++ [45, 45] ++ dec k) = s) :=
  ⟨⟨fun h hc => clordRoot_cut s hc h, clordRoot_bare s⟩, fun h0 k => clordRoot_chain_dec s k h0⟩

/-- excluded by the property text: a root that ends in the chaining suffix loses it ("abc--7" ↦ "abc") -/
example : clordRoot [97, 98, 99, 45, 45, 55] = [97, 98, 99] := by decide +kernel
/-- line breaks are harmless since /repo 6584134: "a\nb" and "a\nb--12" -/
example : clordRoot [97, 10, 98] = [97, 10, 98] ∧
    clordRoot ([97, 10, 98] ++ [45, 45] ++ dec 12) = [97, 10, 98] := by decide +kernel
/-- non-vacuity: "ord" is a good root -/
example : clordRoot [111, 114, 100] = [111, 114, 100] ∧
    clordRoot ([111, 114, 100] ++ [45, 45] ++ dec 12) = [111, 114, 100] := by decide +kernel

/-- the closed system started from a freshly constructed order -/
def start (o : Order) : Link := { order := o }

theorem start_inv {root : Str} {p q : Int} {t s ot a : Str} {o : Order}
    (hi : Order.init root p q t s ot a = .ok o) : Inv (start o) := by
  obtain ⟨_, rfl⟩ := init_ok hi
  exact ⟨fun _ => ⟨rfl, rfl, rfl⟩, fun _ => rfl, trivial, Sync0.created ⟨rfl, rfl, rfl, rfl⟩⟩

theorem calm_inv {root : Str} {p q : Int} {t s ot a : Str} {o : Order} (acts : List Action)
    (hi : Order.init root p q t s ot a = .ok o) (hcalm : calm (start o) acts = true) :
    Inv (run (start o) acts) :=
  run_inv acts (start o) (start_inv hi) hcalm

theorem sync_at_rest {l : Link} (h : Inv l) (hq : l.quiescent = true) : Sync0 l.order [] l.ex := by
  simp only [Link.quiescent, Bool.and_eq_true, List.isEmpty_iff] at hq
  have hsync := h.sync
  rwa [hq.1, hq.2] at hsync

/-- the order agrees with the exchange; a finished exchange order is finished and refuses requests -/
def Converged (l : Link) : Prop :=
  l.order.status = l.ex.reported ∧ l.order.cumQty = l.ex.cum ∧ l.order.leavesQty = l.ex.leaves ∧
  l.order.price = l.ex.price ∧ l.order.qty = l.ex.qty ∧
  (l.ex.reported ∈ finished → isFinished l.order = true ∧
     cancelReq l.order = (l.order, .raised .fixError) ∧
     ∀ p q, replaceReq l.order p q = (l.order, .raised .fixError))

/-- FULL statement of the first sentence of C17: for every interleaving, whenever both queues are
empty the order equals the exchange's view.  FALSE on the current code (Findings/C17). -/
def converges_full : Prop :=
  ∀ (root : Str) (p q : Int) (t s ot a : Str) (o : Order) (acts : List Action),
    Order.init root p q t s ot a = .ok o →
    (run (start o) acts).quiescent = true → (run (start o) acts).ex.known = true →
    Converged (run (start o) acts)

theorem converged_of_inv {l : Link} (h : Inv l) (hq : l.quiescent = true) (hk : l.ex.known = true) :
    Converged l := by
  cases sync_at_rest h hq with
  | created hs => rw [hs.known] at hk; cases hk
  | idle hs =>
    have hrep : l.ex.reported = l.ex.base := reported_of_pending_none hs.pend
    refine ⟨hs.status.trans hrep.symm, hs.nums.cum, hs.nums.leaves, hs.nums.price, hs.nums.qty, fun hf => ?_⟩
    rw [hrep, ← hs.status] at hf
    exact ⟨(finished_facts _ hf).2, not_live_refuses (finished_facts _ hf).1⟩
  | reqPending pr hs =>
    have hrep : l.ex.reported = pstat pr.kind := reported_of_pending_some hs.pend
    refine ⟨hs.status.trans hrep.symm, hs.nums.cum, hs.nums.leaves, hs.nums.price, hs.nums.qty, fun hf => ?_⟩
    rw [hrep] at hf
    rcases pstat_pending pr.kind with h' | h' <;> rw [h'] at hf <;> exact absurd hf (by decide)

/-- Proved part: every interleaving in which no suspended order expires and no replace is accepted
on a suspended order (`calm`, a decidable predicate on the interleaving). -/
theorem converges_partial (root : Str) (p q : Int) (t s ot a : Str) (o : Order) (acts : List Action)
    (hi : Order.init root p q t s ot a = .ok o) (hcalm : calm (start o) acts = true)
    (hq : (run (start o) acts).quiescent = true) (hk : (run (start o) acts).ex.known = true) :
    Converged (run (start o) acts) :=
  converged_of_inv (calm_inv acts hi hcalm) hq hk

/-- a calm interleaving with a fill racing a replace request -/
def demoActs : List Action :=
  [.cNew, .xRecv .accept, .cRecv, .cReplace none (some 16), .xFill 8 80, .xRecv .pend, .cRecv, .cRecv,
   .xDecide .accept, .cRecv]

/-- non-vacuity: it satisfies the hypotheses of `converges_partial` and ends partially filled with the new quantity -/
example : calm (start { clordId := [111], price := 80, qty := 40 }) demoActs = true ∧
    (run (start { clordId := [111], price := 80, qty := 40 }) demoActs).quiescent = true ∧
    (run (start { clordId := [111], price := 80, qty := 40 }) demoActs).ex.known = true ∧
    (run (start { clordId := [111], price := 80, qty := 40 }) demoActs).order.status = "1" ∧
    (run (start { clordId := [111], price := 80, qty := 40 }) demoActs).order.qty = 16 ∧
    (run (start { clordId := [111], price := 80, qty := 40 }) demoActs).order.leavesQty = 8 := by
  decide +kernel

/-- in a calm interleaving the order object never raises on a report of the exchange, every report
that reaches an order without pending request is an unsolicited one under its current ClOrdID -/
theorem reports_never_raise (root : Str) (p q : Int) (t s ot a : Str) (o : Order) (acts : List Action)
    (hi : Order.init root p q t s ot a = .ok o) (hcalm : calm (start o) acts = true) :
    ChainP (run (start o) acts).order (run (start o) acts).e2c :=
  (calm_inv acts hi hcalm).chain

theorem one_in_flight_of_inv {l : Link} (h : Inv l) :
    l.c2e.length ≤ 1 ∧ ∀ m ∈ l.c2e, l.ex.pending = none ∧
      (m.msgType ≠ "D" → l.ex.known = true ∧ (Req.ofMsg m).origClOrdId = some l.ex.liveId) := by
  have hsync := h.sync
  generalize drain l.order l.e2c = od at hsync
  generalize l.c2e = c at hsync ⊢
  cases hsync with
  | created hs => simp
  | idle hs => simp
  | reqPending pr hs => simp
  | newSent m oo hs =>
    refine ⟨by simp, fun m' hm' => ?_⟩
    rw [List.mem_singleton] at hm'; subst hm'
    refine ⟨hs.pend, fun hD => ?_⟩
    have : (Req.ofMsg m').kind = "D" := by rw [hs.req]
    exact absurd this hD
  | reqSent m k pr qr hs =>
    refine ⟨by simp, fun m' hm' => ?_⟩
    rw [List.mem_singleton] at hm'; subst hm'
    exact ⟨hs.pend, fun _ => ⟨hs.known, by rw [hs.req]⟩⟩

/-- at most one request is outstanding: the request queue never holds more than one message, and a
cancel / replace request in it refers (OrigClOrdID, tag 41) to the ClOrdID under which the order is
live at the exchange, which holds no other request at that moment -/
theorem one_request_in_flight (root : Str) (p q : Int) (t s ot a : Str) (o : Order) (acts : List Action)
    (hi : Order.init root p q t s ot a = .ok o) (hcalm : calm (start o) acts = true) :
    (run (start o) acts).c2e.length ≤ 1 ∧
    ∀ m ∈ (run (start o) acts).c2e, (run (start o) acts).ex.pending = none ∧
      (m.msgType ≠ "D" → (run (start o) acts).ex.known = true ∧
        (Req.ofMsg m).origClOrdId = some (run (start o) acts).ex.liveId) :=
  one_in_flight_of_inv (calm_inv acts hi hcalm)

theorem orig_iff_pending_of_inv {l : Link} (h : Inv l) (hq : l.quiescent = true) (hk : l.ex.known = true) :
    (l.ex.pending.isSome = true → l.order.origClordId = some l.ex.liveId) ∧
    (l.ex.pending = none → l.ex.base ≠ "4" → l.order.origClordId = none) := by
  cases sync_at_rest h hq with
  | created hs => rw [hs.known] at hk; cases hk
  | idle hs => exact ⟨fun hp => (by rw [hs.pend] at hp; cases hp), fun _ h4 => hs.orig h4⟩
  | reqPending pr hs => exact ⟨fun _ => hs.orig, fun hp => (by rw [hs.pend] at hp; cases hp)⟩

/-- quiescent points of a calm run: `orig_clord_id` is set exactly while the exchange holds the
client's request as pending (or after the cancel was done) -/
theorem orig_iff_pending_at_rest (root : Str) (p q : Int) (t s ot a : Str) (o : Order) (acts : List Action)
    (hi : Order.init root p q t s ot a = .ok o) (hcalm : calm (start o) acts = true)
    (hq : (run (start o) acts).quiescent = true) (hk : (run (start o) acts).ex.known = true) :
    ((run (start o) acts).ex.pending.isSome = true →
        (run (start o) acts).order.origClordId = some (run (start o) acts).ex.liveId) ∧
    ((run (start o) acts).ex.pending = none → (run (start o) acts).ex.base ≠ "4" →
        (run (start o) acts).order.origClordId = none) :=
  orig_iff_pending_of_inv (calm_inv acts hi hcalm) hq hk

end AsyncFix.Props.C17
