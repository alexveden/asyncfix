/-
C04 — inbound application messages are delivered in order, once, never past a gap.

All theorems are about the session model `AsyncFix.Session` (Model/Session*.lean, which mirrors
asyncfix/connection.py branch for branch and is compared with the real connection step by step by
harness/c04.py) and are symbolic in every counter, the clock, the `should_replay` filter, the frame
and the whole connection state.

Vocabulary (Lemmas/SessionInMsg.lean, SessionInHist.lean, SessionInGap.lean):
* `seqOf m` / `newSeqOf m` – MsgSeqNum(34) / NewSeqNo(36) as Python's `int()` reads them;
* `isApp m` – "application message": `m.mtype` is none of the types the dispatch of
  `_process_message` handles itself (ResendRequest, SequenceReset, Logon, TestRequest, Heartbeat);
  only such a frame can reach `on_message` (a Logout never does: it disconnects first);
* `deliveries es` – the messages handed to `on_message` in the effect list `es`, in order;
* `HonouredTo c m k` – `m` is a SequenceReset the receiver acts on, moving the expectation to its
  NewSeqNo `k`: Reset mode – always; GapFill mode – only if its own MsgSeqNum is the expected number
  and `k` is beyond it;
* `backwardReset c m` – the excluded class of the `_partial` theorems (known finding D6).
-/
import AsyncFix.Lemmas.SessionInHist
import AsyncFix.Lemmas.SessionInGap
import AsyncFix.Lemmas.SessionInAwait
namespace AsyncFix.Props.C04
open AsyncFix.Session AsyncFix.Generated AsyncFix.Generated.ConnEnum

/-- If `on_message(m')` is called while frame `m` is processed then `m'` is `m` itself, `m` is an
application message (no session-level type, not a Logout), its MsgSeqNum is exactly the number that
was expected BEFORE the frame, a Logon has been received on this connection (state past
LOGON_INITIAL_SENT), it is the only delivery of the step and the expectation has advanced by one. -/
theorem deliver_only_expected (sr : Msg → Bool) (env : Env) (c : Conn) (m m' : Msg)
    (h : Effect.deliver m' ∈ (recv sr env c m).2) :
    m' = m ∧ seqOf m = some c.sess.nextIn ∧ isApp m = true ∧ m.mtype ≠ mLogout ∧
    st_LOGON_INITIAL_RECV ≤ c.state ∧
    deliveries (recv sr env c m).2 = [m] ∧ (recv sr env c m).1.sess.nextIn = c.sess.nextIn + 1 := by
  have hm := mem_deliveries.2 h
  obtain ⟨hd, -⟩ := recv_msgOk sr env c m
  rcases hd with hd | ⟨hd, hs, happ, hlo, hst, hk⟩
  · rw [hd] at hm; cases hm
  · rw [hd] at hm
    exact ⟨by simpa using hm, hs, happ, hlo, hst, hd, hk⟩

/-- a SequenceReset (either mode) is never handed to the application -/
theorem seqreset_never_delivered (sr : Msg → Bool) (env : Env) (c : Conn) (m m' : Msg)
    (hm : m.mtype = mSequenceReset) : Effect.deliver m' ∉ (recv sr env c m).2 := by
  intro h
  exact (isApp_iff.1 (deliver_only_expected sr env c m m' h).2.2.1).2.1 hm

/-- at most one `on_message` call per frame -/
theorem deliver_at_most_once (sr : Msg → Bool) (env : Env) (c : Conn) (m : Msg) :
    deliveries (recv sr env c m).2 = [] ∨ deliveries (recv sr env c m).2 = [m] := by
  obtain ⟨hd, -⟩ := recv_msgOk sr env c m
  rcases hd with hd | ⟨hd, -⟩
  · exact Or.inl hd
  · exact Or.inr hd

/-- After one frame the expected number is unchanged, or one higher (then the frame is not a
SequenceReset and carried exactly the expected number), or the NewSeqNo of an honoured SequenceReset
(`HonouredTo`: Reset mode – any NewSeqNo, also a lower one; GapFill mode – only when the GapFill's own
MsgSeqNum is the expected number and NewSeqNo is beyond it). -/
theorem nextIn_moves (sr : Msg → Bool) (env : Env) (c : Conn) (m : Msg) :
    Moves c m (recv sr env c m).1.sess.nextIn :=
  (recv_msgOk sr env c m).2

/-- Full statement: the expected number never goes back. -/
def nextIn_forward_full : Prop :=
  ∀ (sr : Msg → Bool) (env : Env) (c : Conn) (m : Msg), c.sess.nextIn ≤ (recv sr env c m).1.sess.nextIn

/-- Proved part.  Excluded: `backwardReset c m` – a Reset-mode SequenceReset whose NewSeqNo is below
the expected number (known finding C04-backward-reset-moves-counter-back, pinned by
test_sequence_reset_request__incoming_seq_num_toolow_ignored; `Findings/C04.lean` refutes the full
statement). -/
theorem nextIn_forward_partial (sr : Msg → Bool) (env : Env) (c : Conn) (m : Msg)
    (hb : backwardReset c m = false) : c.sess.nextIn ≤ (recv sr env c m).1.sess.nextIn :=
  moves_forward (nextIn_moves sr env c m) hb

/-- a GapFill never moves the expectation unless it is numbered as expected, and then only forward -/
theorem gapfill_moves (sr : Msg → Bool) (env : Env) (c : Conn) (m : Msg)
    (hm : m.mtype = mSequenceReset) (hg : isGapFill m = true) :
    (recv sr env c m).1.sess.nextIn = c.sess.nextIn ∨
    (seqOf m = some c.sess.nextIn ∧ newSeqOf m = some (recv sr env c m).1.sess.nextIn ∧
      c.sess.nextIn < (recv sr env c m).1.sess.nextIn) := by
  rcases nextIn_moves sr env c m with h | ⟨h, -⟩ | ⟨-, n, hn, hk, hgf⟩
  · exact Or.inl h
  · exact absurd hm h
  · obtain ⟨rfl, hlt⟩ := hgf hg
    exact Or.inr ⟨hn, hk, hlt⟩

/-- Frame `m` passes `_validate_integrity`, carries number `n` above the expectation, is no Logon /
Logout / Reset-mode SequenceReset (a GapFill is allowed), a Logon has been received, the state is not
RESENDREQ_AWAITING and the ResendRequest can be sent (`CanSend`).  Then the effects START with exactly
one ResendRequest(BeginSeqNo = expected, EndSeqNo = 0) and the state change to RESENDREQ_AWAITING with
watermark `n`; whatever the dispatch of a session-level message adds afterwards (`rest`) delivers
nothing and leaves the expected number alone; for an application message or a GapFill there is nothing
else and the new connection is exactly `gapConn`. -/
theorem gap_one_resend (sr : Msg → Bool) (env : Env) (c : Conn) (m : Msg) (n : Int) (j : Journal)
    (hgood : (validateIntegrity m c).res = .ok .good)
    (hst : st_LOGON_INITIAL_RECV ≤ c.state) (hna : c.state ≠ st_RESENDREQ_AWAITING)
    (hs : seqOf m = some n) (hn : c.sess.nextIn < n)
    (hA : m.mtype ≠ mLogon) (h5 : m.mtype ≠ mLogout)
    (h4 : m.mtype = mSequenceReset → isGapFill m = true) (hsend : CanSend env c j) :
    ∃ rest, (recv sr env c m).2 = .write (rrFrame env c) :: .onState st_RESENDREQ_AWAITING :: rest ∧
      deliveries (recv sr env c m).2 = [] ∧
      (recv sr env c m).1.sess.nextIn = c.sess.nextIn ∧
      ((isApp m = true ∨ m.mtype = mSequenceReset) →
        rest = [] ∧ (recv sr env c m).1 = gapConn c n j) := by
  obtain ⟨rest, he, hq, hx⟩ := (processMessage_gap env sr m c n j hgood hst hna hs hn hA h5 h4 hsend).elim
  rw [recv_conn, recv_eff, he]
  refine ⟨rest ++ raisedOf (processMessage env sr m c).res, by simp [gapEffects], by simp [gapEffects, deliveries, hq.2],
    by simpa [gapConn] using hq.1, fun h => ?_⟩
  obtain ⟨h1, h2, h3⟩ := hx h
  rw [h1, h3]
  exact ⟨rfl, h2⟩

/-- the frame written on a gap is a ResendRequest from the expected number to "everything" -/
theorem rrFrame_fields (env : Env) (c : Conn) :
    (rrFrame env c).mtype = mResendRequest ∧
    (rrFrame env c).get? tBeginSeqNo = some (pyStr c.sess.nextIn) ∧
    (rrFrame env c).get? tEndSeqNo = some "0" ∧
    (rrFrame env c).get? tMsgSeqNum = some (pyStr c.sess.nextOut) := by
  simp [rrFrame, rrMsg, buildFrame, bodyFields, Msg.mk', Msg.get?, Msg.lookup, tBeginSeqNo, tEndSeqNo,
    tMsgSeqNum, tBeginString, tBodyLength, tMsgType, tSenderCompID, tTargetCompID, tSendingTime, tCheckSum]

/-- while RESENDREQ_AWAITING `_check_seqnum_gaps` – the only place that builds a ResendRequest – sends
nothing and changes nothing, whatever the number -/
theorem awaiting_gapcheck_silent (env : Env) (n : Int) (c : Conn) (h : c.state = st_RESENDREQ_AWAITING) :
    (checkSeqnumGaps env n c).conn = c ∧ (checkSeqnumGaps env n c).eff = [] :=
  ((checkSeqnumGaps_spec env n c).elim).2 (Or.inr h)

/-- While RESENDREQ_AWAITING no inbound frame (any type but a Logon, any number, any flags) makes the
receiver write a ResendRequest, and afterwards the connection is still RESENDREQ_AWAITING, or
disconnected, or ACTIVE – the latter only through `_finalize_message` with the watermark reached:
the watermark was positive, is cleared, and the expected number is now beyond it.
(`journalWf`: outbound journal rows are as the encoder wrote them – needed only when the frame is
itself a ResendRequest, whose servicing replays journal rows under their own message type.) -/
theorem awaiting_no_second_resend (sr : Msg → Bool) (env : Env) (c : Conn) (m : Msg)
    (h12 : c.state = st_RESENDREQ_AWAITING) (hA : m.mtype ≠ mLogon)
    (hwf : m.mtype = mResendRequest → journalWf c) :
    (∀ f, Effect.write f ∈ (recv sr env c m).2 → f.mtype ≠ mResendRequest) ∧
    ((recv sr env c m).1.state = st_RESENDREQ_AWAITING ∨
     (recv sr env c m).1.state ≤ st_DISCONNECTED_BROKEN_CONN ∨
     ((recv sr env c m).1.state = st_ACTIVE ∧ (recv sr env c m).1.maxResend = 0 ∧
       0 < c.maxResend ∧ c.maxResend ≤ (recv sr env c m).1.sess.nextIn - 1)) := by
  obtain ⟨hn, hs⟩ := (processMessage_aw12 env sr m c h12 hA hwf).elim
  rw [recv_conn, recv_eff]
  exact ⟨noRR_append hn (by cases (processMessage env sr m c).res <;> simp [raisedOf, noRR]), hs⟩

/-- RESENDREQ_AWAITING is left for ACTIVE exactly when `_finalize_message` sees a (positive) number
that has reached the (positive) watermark; `acceptedNum` is the number it sees: the frame's MsgSeqNum
when that is the expected one, NewSeqNo − 1 for a SequenceReset.  Otherwise the state stays. -/
theorem awaiting_left_exactly (env : Env) (c : Conn) (m : Msg) (h12 : c.state = st_RESENDREQ_AWAITING) :
    ((finalizeMessage env m c).conn.state = st_ACTIVE ↔
      ∃ k, acceptedNum c m = some k ∧ 0 < k ∧ c.maxResend ≤ k ∧ 0 < c.maxResend) ∧
    ((finalizeMessage env m c).conn.state = st_ACTIVE ∨
     (finalizeMessage env m c).conn.state = st_RESENDREQ_AWAITING) := by
  obtain ⟨-, -, -, hact, hsame⟩ := (finalizeMessage_spec env m c).elim
  by_cases h : ∃ k, acceptedNum c m = some k ∧ 0 < k ∧ c.maxResend ≤ k ∧ 0 < c.maxResend
  · exact ⟨⟨fun _ => h, fun _ => (hact ⟨h12, h⟩).1⟩, Or.inl (hact ⟨h12, h⟩).1⟩
  · have hs := (hsame fun h' => h h'.2).1
    refine ⟨⟨fun ha => ?_, fun h' => absurd h' h⟩, Or.inr (hs.trans h12)⟩
    rw [hs, h12] at ha
    exact absurd ha (by decide)

/-- Full statement: along EVERY history of events (frames from an arbitrary peer interleaved with
sends, timer ticks, disconnects, reconnects; only the application's own `reset_seq_num()` excluded)
the delivered MsgSeqNums are strictly increasing. -/
def delivered_strictly_increasing_full : Prop :=
  ∀ (sr : Msg → Bool) (c : Conn) (hist : List Event),
    (hist.all fun ev => match ev with | .resetSeq => false | _ => true) = true →
    ∃ ns : List Int, deliveredNums (run sr c hist).2 = ns.map some ∧ ns.Pairwise (· < ·)

/-- one step of such a history: a delivered number is the expectation before the step, and the
expectation afterwards is past it (this is the induction step, stated for the oracle's per-event
clause) -/
theorem step_delivers_expected (sr : Msg → Bool) (c : Conn) (ev : Event) (h : okEvent c ev = true) :
    c.sess.nextIn ≤ (step sr c ev).1.sess.nextIn ∧
    (deliveries (step sr c ev).2 = [] ∨
      ∃ m, deliveries (step sr c ev).2 = [m] ∧ seqOf m = some c.sess.nextIn ∧
        (step sr c ev).1.sess.nextIn = c.sess.nextIn + 1) := by
  -- every event but `recv` runs a computation that keeps the number and delivers nothing
  have q : ∀ {α} {A : Foot} {x : M α}, M.Rel (Fp A) x → A.sub quietK = true →
      c.sess.nextIn ≤ (x.run c).1.sess.nextIn ∧ (deliveries (x.run c).2 = [] ∨
        ∃ m, deliveries (x.run c).2 = [m] ∧ seqOf m = some c.sess.nextIn ∧
          (x.run c).1.sess.nextIn = c.sess.nextIn + 1) := by
    intro α A x hx hA
    rw [M.run_eq]
    obtain ⟨hk, hd⟩ := (hx.quiet hA).out c
    refine ⟨Int.le_of_eq hk.symm, Or.inl ?_⟩
    simp only [deliveries_append, hd, List.nil_append]
    cases (x c).res <;> rfl
  cases ev with
  | recv env m =>
    have hb : backwardReset c m = false := by simpa [okEvent] using h
    obtain ⟨hd, hm⟩ := recv_msgOk sr env c m
    exact ⟨moves_forward hm hb, hd.imp id fun ⟨hd, hs, _, _, _, hk⟩ => ⟨m, hd, hs, hk⟩⟩
  | appSend env m => exact q (sendMsg_fp env m) rfl
  | appTestReq env => exact q (sendTestReq_fp env) rfl
  | appDisconnect env d l => exact q (disconnect_fp env d l) rfl
  | tick env => exact q (tickBody_fp env) rfl
  | eof env =>
    simp only [step, eof]
    split
    · exact q (disconnect_fp env _ none) rfl
    · exact ⟨Int.le_refl _, Or.inl rfl⟩
  | connected k => exact q (connectedM_fp k) rfl
  | resetSeq => simp [okEvent] at h

/-- Proved part: histories without a backward Reset-mode SequenceReset (`noBackward`, a decidable
condition evaluated along the run; finding C04-backward-reset-moves-counter-back).  Every delivered
message has a proper MsgSeqNum; the numbers are strictly increasing (so nothing is delivered twice and
nothing after a higher number), each is at least the initial expectation and below the final one, and
the expectation never went back. -/
theorem delivered_strictly_increasing_partial (sr : Msg → Bool) (c : Conn) (hist : List Event)
    (h : noBackward sr c hist = true) :
    c.sess.nextIn ≤ (run sr c hist).1.sess.nextIn ∧
    ∃ ns : List Int, deliveredNums (run sr c hist).2 = ns.map some ∧ ns.Pairwise (· < ·) ∧
      ∀ n ∈ ns, c.sess.nextIn ≤ n ∧ n < (run sr c hist).1.sess.nextIn := by
  induction hist generalizing c with
  | nil => exact ⟨by simp [run], [], rfl, List.Pairwise.nil, by simp⟩
  | cons ev rest ih =>
    simp only [noBackward, Bool.and_eq_true] at h
    obtain ⟨h1, hrest⟩ := step_delivers_expected sr c ev h.1
    obtain ⟨h2, ns, hns, hpw, hbd⟩ := ih _ h.2
    simp only [run]
    refine ⟨by omega, ?_⟩
    rcases hrest with hd | ⟨m, hd, hs, hk⟩
    · refine ⟨ns, by simpa [deliveredNums, hd] using hns, hpw, fun n hn => ?_⟩
      have := hbd n hn
      omega
    · refine ⟨c.sess.nextIn :: ns, by simpa [deliveredNums, hd, hs] using hns, ?_, ?_⟩
      · refine List.Pairwise.cons (fun n hn => ?_) hpw
        have := hbd n hn
        omega
      · intro n hn
        rcases List.mem_cons.1 hn with rfl | hn
        · omega
        · have := hbd n hn
          omega

/-! ## non-vacuity: concrete states and frames satisfy the hypotheses and show the effects -/
namespace Witness

def env0 : Env := { now := 1700000000000, stamp := "20240102-00:00:01.000" }

/-- an ACTIVE initiator expecting inbound number 5 -/
def active : Conn :=
  { state := st_ACTIVE, role := roleInitiator, wasActive := true, sock := true,
    sess := { sender := "S", target := "T", nextIn := 5, nextOut := 9 } }

def frame (mtype n : String) (extra : List (Nat × String)) : Msg :=
  Msg.ofFields ([(8, "FIX.4.4"), (9, "50"), (35, mtype), (49, "T"), (56, "S"), (34, n), (52, "t")]
    ++ extra ++ [(10, "000")])

def app (n : String) : Msg := frame "D" n [(58, "hi")]
def reset (n nw : String) : Msg := frame "4" n [(36, nw)]
def gapFill (n nw : String) : Msg := frame "4" n [(123, "Y"), (36, nw)]
def dup (n : String) : Msg := frame "D" n [(43, "Y"), (58, "hi")]
def all : Msg → Bool := fun _ => true

-- 1: an in-sequence application frame in ACTIVE is delivered, exactly once, and the counter advances
example : (recv all env0 active (app "5")).2 = [.deliver (app "5")] := by decide +kernel
example : (recv all env0 active (app "5")).1.sess.nextIn = 6 := by decide +kernel
-- below / above the expectation: nothing is delivered
example : deliveries (recv all env0 active (app "4")).2 = [] := by decide +kernel
example : deliveries (recv all env0 active (app "7")).2 = [] := by decide +kernel
-- 2: an honoured GapFill moves to NewSeqNo; one numbered too high / not forward does not
example : (recv all env0 active (gapFill "5" "9")).1.sess.nextIn = 9 := by decide +kernel
example : (recv all env0 active (gapFill "7" "9")).1.sess.nextIn = 5 := by decide +kernel
example : (recv all env0 active (gapFill "5" "5")).1.sess.nextIn = 5 := by decide +kernel
example : backwardReset active (reset "5" "9") = false ∧ backwardReset active (reset "5" "3") = true := by
  decide +kernel
-- 3: the hypotheses of `gap_one_resend` hold for an application frame and a GapFill numbered 7
def gapJournal : Journal := { out := [(9, rrFrame env0 active)], outSeq := 9 }
example : (validateIntegrity (app "7") active).res = .ok .good := by rfl
example : CanSend env0 active gapJournal := ⟨rfl, by decide +kernel, by decide +kernel⟩
example : (recv all env0 active (app "7")).2 = [.write (rrFrame env0 active), .onState st_RESENDREQ_AWAITING] ∧
    (recv all env0 active (app "7")).1 = gapConn active 7 gapJournal := by decide +kernel
example : (recv all env0 active (gapFill "7" "9")).2 =
    [.write (rrFrame env0 active), .onState st_RESENDREQ_AWAITING] := by decide +kernel
-- the gap is closed (state back to ACTIVE) exactly by the frame that reaches the watermark
example : (run all active [.recv env0 (app "7"), .recv env0 (app "5"), .recv env0 (app "6")]).1.state
    = st_RESENDREQ_AWAITING := by decide +kernel
example : (run all active [.recv env0 (app "7"), .recv env0 (app "5"), .recv env0 (app "6"),
    .recv env0 (app "7")]).1.state = st_ACTIVE := by decide +kernel
-- the journal rows of the witness states are well-formed (vacuously here; the harness states carry encoder-made rows)
example : journalWf active := by intro p hp; cases hp
example : acceptedNum { active with state := st_RESENDREQ_AWAITING, maxResend := 5 } (app "5") = some 5 := by
  decide +kernel
-- 4: a history with a gap, a PossDup duplicate, a forward reset: hypothesis holds, numbers 5 6 7 20 delivered
def hist : List Event :=
  [.recv env0 (app "7"), .recv env0 (app "5"), .recv env0 (dup "5"), .recv env0 (app "6"), .tick env0,
   .recv env0 (app "7"), .recv env0 (reset "8" "20"), .recv env0 (app "20")]
example : noBackward all active hist = true := by decide +kernel
example : deliveredNums (run all active hist).2 = [some 5, some 6, some 7, some 20] := by decide +kernel

end Witness

end AsyncFix.Props.C04
