/-
C10 — the decoder is total, makes progress and never accepts a frame whose CheckSum is
inconsistent with its bytes.

All theorems are about the model `decode` / `readLoop` / `readLoopP` / `feed`
(lean/AsyncFix/Model/Codec/{Decode,Reader,ReaderProc}.lean, tied to asyncfix/codec.py and the inner
loop of `socket_read_task` by the differential harness harness/c10.py) and quantify over
ALL byte strings `raw : List Nat`, all group tables and all BeginStrings.
-/
import AsyncFix.Model.Codec.Reader
import AsyncFix.Model.Codec.ReaderProc
import AsyncFix.Lemmas.CodecDecodeCorrupt
import AsyncFix.Lemmas.CodecDecodeWait
import AsyncFix.Lemmas.CodecDecodeEval
import AsyncFix.Lemmas.CodecReaderStep
import AsyncFix.Model.Codec.Frame
namespace AsyncFix.Props.C10
open AsyncFix.Model.Codec

/-! ## 1. totality: `decode(silent=True)` never raises

The model carries a `raised` outcome at every place where the Python can raise
(`msg[0].split("=", 1)` unpacking, `FIXContainer.set` duplicate, `add_group` on a plain value);
none of them is reachable. -/

theorem decode_no_raise : ∀ (bs : Bytes) (tbl : Tbl) (raw : Bytes) (k : Kind),
    decode bs tbl raw ≠ .raised k :=
  decode_ne_raised

/-! ## 2. the consumed length is within the buffer -/

theorem decode_bounds (bs : Bytes) (tbl : Tbl) (raw : Bytes) :
    (∀ m n enc, decode bs tbl raw = .msg m n enc → n ≤ raw.length) ∧
    (∀ n, decode bs tbl raw = .none n → n ≤ raw.length) := by
  refine ⟨fun m n e hd => (decode_msg_range hd).2, fun n hd => ?_⟩
  obtain ⟨enc, h⟩ := decode_resOK bs tbl raw
  rw [hd] at h; exact h

/-! ## 3. progress and termination of the read loop -/

theorem decode_msg_progress (bs : Bytes) (tbl : Tbl) (raw : Bytes) (m : Msg) (n : Nat) (enc : Bytes)
    (h : decode bs tbl raw = .msg m n enc) : 0 < n :=
  (decode_msg_range h).1

/-- the loop of `socket_read_task` without the model's defensive guard -/
theorem readLoop_eq (bs : Bytes) (tbl : Tbl) (buf : Bytes) (acc : List (Msg × Bytes)) :
    readLoop bs tbl buf acc =
      match decode bs tbl buf with
      | .raised k => { buf := buf, delivered := acc, raised := some k }
      | .none n => { buf := buf.drop n, delivered := acc }
      | .msg m n raw => readLoop bs tbl (buf.drop n) (acc ++ [(m, raw)]) :=
  Model.Codec.readLoop_eq bs tbl buf acc

/-- The guard in the model's `readLoop` is never taken and `decode` never raises inside it:
the model loop *is* the Python loop, and its termination is the definition's own
well-founded recursion on the buffer length (justified by `decode_msg_progress`). -/
theorem readLoop_never_stalls (bs : Bytes) (tbl : Tbl) (buf : Bytes) (acc : List (Msg × Bytes)) :
    (readLoop bs tbl buf acc).stalled = false ∧ (readLoop bs tbl buf acc).raised = none :=
  have h := readLoop_ok bs tbl buf acc
  ⟨h.1, h.2.1⟩

theorem readLoop_buffer_suffix (bs : Bytes) (tbl : Tbl) (buf : Bytes) (acc : List (Msg × Bytes)) :
    (readLoop bs tbl buf acc).buf <:+ buf :=
  (readLoop_ok bs tbl buf acc).2.2

theorem feed_buffer_suffix (bs : Bytes) (tbl : Tbl) (buf chunk : Bytes) :
    (feed bs tbl buf chunk).buf <:+ buf ++ chunk :=
  readLoop_buffer_suffix bs tbl (buf ++ chunk) []

theorem feed_never_stalls (bs : Bytes) (tbl : Tbl) (buf chunk : Bytes) :
    (feed bs tbl buf chunk).stalled = false ∧ (feed bs tbl buf chunk).raised = none :=
  readLoop_never_stalls bs tbl (buf ++ chunk) []

/-! ### the loop with a processing step that may raise

`_process_message` can raise out of the inner loop (e.g. `_validate_integrity` on a duplicated header
tag).  The buffer is advanced before processing, so whatever processing does the frame is handed over
exactly once and nothing behind it is lost. -/

/-- never stalls, and `decode` never raises inside it – for every processing step -/
theorem readLoopP_never_stalls (bs : Bytes) (tbl : Tbl) (proc : Msg → Bytes → Bool) (buf : Bytes)
    (acc : List (Msg × Bytes)) :
    (readLoopP bs tbl proc buf acc).stalled = false ∧ (readLoopP bs tbl proc buf acc).raised = none :=
  have h := (readLoopP_reads bs tbl proc buf acc).ok
  ⟨h.1, h.2.1⟩

/-- with a processing step that never raises this is `readLoop` -/
theorem readLoopP_no_raise_eq (bs : Bytes) (tbl : Tbl) (buf : Bytes) (acc : List (Msg × Bytes)) :
    (readLoopP bs tbl (fun _ _ => false) buf acc).buf = (readLoop bs tbl buf acc).buf ∧
    (readLoopP bs tbl (fun _ _ => false) buf acc).delivered = (readLoop bs tbl buf acc).delivered ∧
    (readLoopP bs tbl (fun _ _ => false) buf acc).procRaised = false := by
  rw [readLoopP_false]
  exact ⟨rfl, rfl, rfl⟩

/-- **The buffer is advanced regardless of what processing does.**  If processing raised, the bytes
of the offending frame are gone and resuming the loop on what is left delivers exactly what an
undisturbed loop would have delivered: nothing is lost, nothing is handed over twice.  If processing
did not raise, the result is that of the undisturbed loop. -/
theorem readLoopP_resume (bs : Bytes) (tbl : Tbl) (proc : Msg → Bytes → Bool) (buf : Bytes)
    (acc : List (Msg × Bytes)) :
    readLoop bs tbl (readLoopP bs tbl proc buf acc).buf (readLoopP bs tbl proc buf acc).delivered
        = readLoop bs tbl buf acc ∨
    ((readLoopP bs tbl proc buf acc).procRaised = false ∧
      (readLoopP bs tbl proc buf acc).buf = (readLoop bs tbl buf acc).buf ∧
      (readLoopP bs tbl proc buf acc).delivered = (readLoop bs tbl buf acc).delivered) :=
  (readLoopP_reads bs tbl proc buf acc).resume

/-- the frame that was handed to processing is no longer in the buffer: what is left is a suffix of
the buffer behind that frame, whatever processing did -/
theorem readLoopP_frame_consumed (bs : Bytes) (tbl : Tbl) (proc : Msg → Bytes → Bool) (buf : Bytes)
    (acc : List (Msg × Bytes)) (m : Msg) (n : Nat) (raw : Bytes) (hd : decode bs tbl buf = .msg m n raw) :
    (readLoopP bs tbl proc buf acc).buf <:+ buf.drop n ∧ 0 < n := by
  have h := readLoopP_reads bs tbl proc buf acc
  generalize readLoopP bs tbl proc buf acc = r at h
  cases h with
  | stop hd' => rw [hd] at hd'; cases hd'
  | procRaised hd' hn _ => rw [hd] at hd'; cases hd'; exact ⟨List.suffix_refl _, hn⟩
  -- the rest of the loop only shortens the buffer further
  | step hd' hn _ hr => rw [hd] at hd'; cases hd'; exact ⟨hr.ok.2.2, hn⟩

/-! ## 4. a returned message has a CheckSum field that matches its bytes -/

theorem sum_append_soh (pre : Bytes) : sum (pre ++ [SOH]) = sum pre + 1 := by
  rw [sum_append, sum_cons, sum_nil]; rfl

/-- Every returned frame `enc` is `pre ++ SOH "10=" v SOH`, where `v` is EXACTLY three ASCII digits
(`ckParse`) denoting the byte sum of `pre ++ SOH` (everything in front of `10=`) modulo 256.
`pre` is exactly the model's `SOH.join(msg[:-1])`. -/
theorem checksum_sound (bs : Bytes) (tbl : Tbl) (raw : Bytes) (m : Msg) (n : Nat) (enc : Bytes)
    (h : decode bs tbl raw = .msg m n enc) :
    ∃ pre v, enc = pre ++ SOH :: (tag10 ++ EQS :: v) ++ [SOH] ∧
      ckParse v = some (sum (pre ++ [SOH]) % 256) ∧
      pre = join SOH (fieldsOf enc).dropLast := by
  obtain ⟨pre, v, h1, h4, h5⟩ := decode_checksum_soh h
  exact ⟨pre, v, h1, by rw [h4, sum_append_soh], h5⟩

/-- what `ckParse v = some n` means -/
theorem ckParse_spec (v : Bytes) (n : Nat) (h : ckParse v = some n) :
    ∃ a b c, v = [a, b, c] ∧ isDigit a = true ∧ isDigit b = true ∧ isDigit c = true ∧
      n = (a - 48) * 100 + (b - 48) * 10 + (c - 48) :=
  ckParse_some h

/-- the returned bytes are a contiguous piece of the buffer -/
theorem decode_raw_infix (bs : Bytes) (tbl : Tbl) (raw : Bytes) (m : Msg) (n : Nat) (enc : Bytes)
    (h : decode bs tbl raw = .msg m n enc) : enc <:+: raw := by
  obtain ⟨vi, _, _, _, rfl, _⟩ := decode_msg_iff.1 h
  exact List.IsInfix.trans (List.take_prefix _ _).isInfix (List.drop_suffix _ _).isInfix

/-- the value a returned frame carries is the sum of what precedes it -/
theorem returned_value (bs : Bytes) (tbl : Tbl) (raw : Bytes) (m : Msg) (n : Nat) (pre v tail : Bytes)
    (h : decode bs tbl raw = .msg m n (pre ++ SOH :: (tag10 ++ EQS :: v) ++ tail))
    (hv : SOH ∉ v) (ht : tail = [] ∨ tail = [SOH]) : ckParse v = some (sum (pre ++ [SOH]) % 256) := by
  obtain ⟨p1, v1, e1, hp1, _⟩ := decode_checksum_soh h
  obtain ⟨rfl, rfl⟩ := ck_decomp_unique e1 hv (ckParse_noSep hp1) ht
  rw [hp1, sum_append_soh]

/-- **A frame whose CheckSum value does not match its bytes is never returned** – by any buffer,
table or BeginString.  (`pre` is everything in front of `SOH 10=`.)  This is the part of "never
accepts a corrupted frame" that the code guarantees: every edit of `pre` that changes the byte sum
modulo 256, and every edit of the CheckSum value itself, is rejected. -/
theorem C10_corruption_partial (pre v tail : Bytes) (hv : SOH ∉ v) (ht : tail = [] ∨ tail = [SOH])
    (hbad : ckParse v ≠ some (sum (pre ++ [SOH]) % 256)) :
    ∀ bs tbl raw m n, decode bs tbl raw ≠ .msg m n (pre ++ SOH :: (tag10 ++ EQS :: v) ++ tail) :=
  fun bs tbl raw m n h => hbad (returned_value bs tbl raw m n pre v tail h hv ht)

/-- one-byte edits that change the byte sum: substitution by a different byte, deletion or
insertion of a non-NUL byte (all bytes < 256) -/
inductive SumEdit1 : Bytes → Bytes → Prop
  | subst (a b : Bytes) (x y : Nat) : x ≠ y → x < 256 → y < 256 → SumEdit1 (a ++ x :: b) (a ++ y :: b)
  | delete (a b : Bytes) (x : Nat) : 0 < x → x < 256 → SumEdit1 (a ++ x :: b) (a ++ b)
  | insert (a b : Bytes) (y : Nat) : 0 < y → y < 256 → SumEdit1 (a ++ b) (a ++ y :: b)

theorem SumEdit1.sum_ne {p p' : Bytes} (h : SumEdit1 p p') :
    sum (p ++ [SOH]) % 256 ≠ sum (p' ++ [SOH]) % 256 := by
  rw [sum_append_soh, sum_append_soh]
  cases h with
  | subst a b x y hxy hx hy => exact sum_subst_ne hx hy hxy
  | delete a b x h0 hx => rw [sum_append, sum_append, sum_cons]; omega
  | insert a b y h0 hy => rw [sum_append, sum_append, sum_cons]; omega

/-- every single-byte substitution / non-NUL deletion / non-NUL insertion in front of the CheckSum
field of a returned frame yields a byte string that is never returned -/
theorem edit_in_summed_region_rejected (bs : Bytes) (tbl : Tbl) (raw : Bytes) (m : Msg) (n : Nat)
    (pre pre' v tail : Bytes)
    (h : decode bs tbl raw = .msg m n (pre ++ SOH :: (tag10 ++ EQS :: v) ++ tail))
    (hv : SOH ∉ v) (ht : tail = [] ∨ tail = [SOH]) (he : SumEdit1 pre pre') :
    ∀ bs' tbl' raw' m' n',
      decode bs' tbl' raw' ≠ .msg m' n' (pre' ++ SOH :: (tag10 ++ EQS :: v) ++ tail) := by
  apply C10_corruption_partial pre' v tail hv ht
  rw [returned_value bs tbl raw m n pre v tail h hv ht]
  intro hp2
  simp only [Option.some.injEq] at hp2
  exact he.sum_ne hp2

/-- **any change of the CheckSum value is rejected**: if `… 10=v` is returned then `… 10=v'` with
`v' ≠ v` (any length, any bytes without SOH – in particular every single-byte substitution,
insertion or deletion inside the value) is never returned -/
theorem checksum_value_edit_rejected (bs : Bytes) (tbl : Tbl) (raw : Bytes) (m : Msg) (n : Nat)
    (pre v v' tail : Bytes)
    (h : decode bs tbl raw = .msg m n (pre ++ SOH :: (tag10 ++ EQS :: v) ++ tail))
    (hv : SOH ∉ v) (hv' : SOH ∉ v') (ht : tail = [] ∨ tail = [SOH]) (hne : v' ≠ v) :
    ∀ bs' tbl' raw' m' n',
      decode bs' tbl' raw' ≠ .msg m' n' (pre ++ SOH :: (tag10 ++ EQS :: v') ++ tail) := by
  apply C10_corruption_partial pre v' tail hv' ht
  intro h'
  exact hne (ckParse_inj h' (returned_value bs tbl raw m n pre v tail h hv ht))

/-- **Same-shape corruption is rejected.**  Take a frame that the decoder returns,
`(a ++ x :: b) ++ SOH "10=" v ++ tail`, and replace the byte `x` anywhere in the summed region
by a different byte `y` (both < 256), leaving the CheckSum field untouched.  The modified
byte string is never returned as a message – by any buffer, table or BeginString. -/
theorem same_shape_corruption_rejected (bs : Bytes) (tbl : Tbl) (raw : Bytes) (m : Msg) (n : Nat)
    (a b v tail : Bytes) (x y : Nat)
    (h : decode bs tbl raw = .msg m n ((a ++ x :: b) ++ SOH :: (tag10 ++ EQS :: v) ++ tail))
    (hv : SOH ∉ v) (ht : tail = [] ∨ tail = [SOH]) (hx : x < 256) (hy : y < 256) (hxy : x ≠ y) :
    ∀ bs' tbl' raw' m' n',
      decode bs' tbl' raw' ≠ .msg m' n' ((a ++ y :: b) ++ SOH :: (tag10 ++ EQS :: v) ++ tail) :=
  edit_in_summed_region_rejected bs tbl raw m n _ _ v tail h hv ht (SumEdit1.subst a b x y hxy hx hy)

/-- **No single-byte substitution of a returned frame is ever returned** – wherever the byte lies
(summed region, the `SOH 10=` tag, the CheckSum digits, the final SOH) and whatever buffer, table or
BeginString the modified bytes are decoded with. -/
theorem no_substitution_returned (bs : Bytes) (tbl : Tbl) (raw : Bytes) (m : Msg) (n : Nat)
    (a b : Bytes) (x y : Nat) (h : decode bs tbl raw = .msg m n (a ++ x :: b))
    (hxy : x ≠ y) (hx : x < 256) (hy : y < 256) :
    ∀ bs' tbl' raw' m' n', decode bs' tbl' raw' ≠ .msg m' n' (a ++ y :: b) :=
  substitution_never_returned h hxy hx hy

/-- … and when the substitution keeps the field structure (the piece still starts with the marker
and gets no earlier `SOH "10="`), the buffer that starts with the corrupted frame yields NO message
at all, whatever follows it. -/
theorem same_shape_corruption_not_decoded (bs : Bytes) (tbl : Tbl) (raw : Bytes) (m : Msg) (n : Nat)
    (a b v : Bytes) (x y : Nat)
    (h : decode bs tbl raw = .msg m n ((a ++ x :: b) ++ SOH :: (tag10 ++ EQS :: v) ++ [SOH]))
    (hv : SOH ∉ v) (hx : x < 256) (hy : y < 256) (hxy : x ≠ y)
    (hmark : isPrefix marker (a ++ y :: b) = true)
    (hshape : findSub cksumPat ((a ++ y :: b) ++ cksumPat) = some (a ++ y :: b).length) :
    ∀ rest m' n' e', decode bs tbl ((a ++ y :: b) ++ cksumPat ++ v ++ SOH :: rest) ≠ .msg m' n' e' := by
  intro rest m' n' e'
  apply mismatching_frame_rejected bs tbl hmark hshape hv
  have h1 := returned_value bs tbl raw m n _ v [SOH] h hv (Or.inr rfl)
  rw [h1]
  intro hp2
  simp only [Option.some.injEq] at hp2
  have := (SumEdit1.subst a b x y hxy hx hy).sum_ne
  apply this
  rw [hp2, sum_append_soh]

/-! ## 5. a wait is only ever for bytes that have not arrived -/

/-- **Characterisation of "consume nothing".**  `decode` returns `(None, 0, None)` only if
 (a) the buffer is a proper prefix of the marker `8=FIX.` (possibly empty), or
 (b) it starts with the marker and a CheckSum field `SOH 10=…` has begun whose terminating SOH has
     not arrived, or
 (c) it starts with the marker, contains no `SOH 10=` yet and has fewer than three fields, or
 (d) it starts with the marker, has at least three fields and declares (BodyLength) more bytes
     than are buffered.
In every case the decoder is waiting for bytes that have not arrived. -/
theorem no_permanent_stall (bs : Bytes) (tbl : Tbl) (raw : Bytes) (h : decode bs tbl raw = .none 0) :
    (findSub marker raw = none ∧ raw.length ≤ 5 ∧ raw = marker.take raw.length) ∨
    (isPrefix marker raw = true ∧ ckOpen raw = true) ∨
    (isPrefix marker raw = true ∧ findSub cksumPat raw = none ∧
      (fieldsOf (raw.take (cutOf raw))).length < 3) ∨
    (isPrefix marker raw = true ∧ 3 ≤ (fieldsOf (raw.take (cutOf raw))).length ∧
      raw.length < declaredOf (fieldsOf (raw.take (cutOf raw)))) :=
  decode_none_zero h

/-- Once a complete CheckSum field (`SOH "10=" … SOH`) has arrived at or after the first marker –
e.g. because a later frame followed the malformed one – the decoder stops waiting at the latest
when the length declared by the head is buffered, for EVERY continuation `ext` of the stream. -/
theorem closed_frame_wait_bounded (bs : Bytes) (tbl : Tbl) (raw : Bytes) (vi c : Nat)
    (hvi : findSub marker raw = some vi) (hc : closedAtOf (raw.drop vi) = some c) (ext : Bytes)
    (hN : vi + declaredOf (fieldsOf ((raw.drop vi).take c)) ≤ (raw ++ ext).length) :
    decode bs tbl (raw ++ ext) ≠ .none 0 :=
  closed_wait_bounded bs tbl hvi hc ext hN

/-- **One malformed frame cannot block the frames that follow it**: whatever bytes `p` are in
the buffer, as soon as something frame-like (`8=FIX.` … `SOH 10=` … `SOH`) has followed them there
is a bound `N` such that every continuation of the stream that brings the buffer to `N` bytes makes
`decode` consume something (> 0 bytes or a message); together with `readLoop_never_stalls` the reader
then proceeds with a strictly shorter buffer. -/
theorem following_frame_unblocks (bs : Bytes) (tbl : Tbl) (p q v r : Bytes) :
    ∃ N, ∀ ext, N ≤ ((p ++ marker ++ q ++ cksumPat ++ v ++ SOH :: r) ++ ext).length →
      decode bs tbl ((p ++ marker ++ q ++ cksumPat ++ v ++ SOH :: r) ++ ext) ≠ .none 0 := by
  obtain ⟨vi, c, hvi, hc⟩ := closed_of_contains (p := p) (q := q) (v := v) (r := r)
  exact ⟨_, fun ext hN => closed_wait_bounded bs tbl hvi hc ext hN⟩

/-! ## 6. the full statement of the property (violated by the unchanged code, see Findings/C10) -/

/-- BodyLength(9) equals the number of bytes after the BodyLength field's SOH up to and including
the SOH in front of `10=` -/
def BodyLengthOK (enc : Bytes) : Prop :=
  ∃ f0 f1 rest v1, fieldsOf enc = f0 :: f1 :: rest ∧ splitEq f1 = some (tag9, v1) ∧
    pyInt v1 = some (((join SOH (fieldsOf enc).dropLast).length + 1 - (f0.length + f1.length + 2) : Nat) : Int)

/-- one-byte edits of a byte string -/
inductive Edit1 : Bytes → Bytes → Prop
  | subst (a b : Bytes) (x y : Nat) : x ≠ y → y < 256 → Edit1 (a ++ x :: b) (a ++ y :: b)
  | delete (a b : Bytes) (x : Nat) : Edit1 (a ++ x :: b) (a ++ b)
  | insert (a b : Bytes) (y : Nat) : y < 256 → Edit1 (a ++ b) (a ++ y :: b)

/-- "A message is returned only when the frame's CheckSum AND BodyLength are consistent with its
bytes" -/
def C10_bodylength_full : Prop :=
  ∀ bs tbl raw m n enc, decode bs tbl raw = .msg m n enc → BodyLengthOK enc

/-- "no single-byte corruption of a valid frame is ever returned as a message": the byte string
`f'` is never the raw frame of a returned message, whatever buffer it arrives in -/
def C10_corruption_full : Prop :=
  ∀ bs tbl f f', okBegin bs = true → WFFrame bs f → Edit1 f f' →
    ∀ raw m n, decode bs tbl raw ≠ .msg m n f'

/-- the complete second sentence of C10 -/
def C10_full : Prop := C10_bodylength_full ∧ C10_corruption_full

/-! ## non-vacuity: concrete instances of the hypotheses -/

/-- `8=FIX.4.4|9=10|35=0|49=S|10=205|` (built by the reference framer `mkFrame`) -/
def sampleFrame : Bytes := mkFrame bs44 [⟨[51, 53], [48]⟩, ⟨[52, 57], [83]⟩]

/-- the sample frame is returned (hypothesis of `checksum_sound` / `decode_msg_progress`) … -/
example : ∃ m, decode bs44 [] (sampleFrame ++ [56, 61]) = .msg m 32 sampleFrame :=
  DecRes.of_returnedOf (by decide +kernel)

/-- … and has the shape required by `same_shape_corruption_rejected` / `…_not_decoded`
(x = '0' of `35=0` replaced by y = '1') -/
example : sampleFrame =
    (([56, 61, 70, 73, 88, 46, 52, 46, 52, 1, 57, 61, 49, 48, 1, 51, 53, 61] ++ 48 :: [1, 52, 57, 61, 83])
      ++ SOH :: (tag10 ++ EQS :: [50, 48, 53]) ++ [SOH]) ∧
    isPrefix marker ([56, 61, 70, 73, 88, 46, 52, 46, 52, 1, 57, 61, 49, 48, 1, 51, 53, 61] ++ 49 :: [1, 52, 57, 61, 83]) = true ∧
    findSub cksumPat (([56, 61, 70, 73, 88, 46, 52, 46, 52, 1, 57, 61, 49, 48, 1, 51, 53, 61] ++ 49 :: [1, 52, 57, 61, 83]) ++ cksumPat)
      = some 24 := by decide +kernel

/-- the four kinds of wait of `no_permanent_stall` all occur:
`8=FI`, `8=FIX.4.4|9=5|10=0`, `8=FIX.4.4|9=`, `8=FIX.4.4|9=100|35=0|` -/
example : decode bs44 [] [56, 61, 70, 73] = .none 0 ∧
    decode bs44 [] [56, 61, 70, 73, 88, 46, 52, 46, 52, 1, 57, 61, 53, 1, 49, 48, 61, 48] = .none 0 ∧
    decode bs44 [] [56, 61, 70, 73, 88, 46, 52, 46, 52, 1, 57, 61] = .none 0 ∧
    decode bs44 [] [56, 61, 70, 73, 88, 46, 52, 46, 52, 1, 57, 61, 49, 48, 48, 1, 51, 53, 61, 48, 1] = .none 0 :=
  ⟨DecRes.of_noneOf (by decide +kernel), DecRes.of_noneOf (by decide +kernel),
   DecRes.of_noneOf (by decide +kernel), DecRes.of_noneOf (by decide +kernel)⟩

/-- hypotheses of `closed_frame_wait_bounded`: head declaring 100 bytes, closed by a CheckSum field -/
example : findSub marker ([0, 0] ++ [56, 61, 70, 73, 88, 46, 52, 46, 52, 1, 57, 61, 49, 48, 48, 1, 51, 53, 61, 48, 1, 49, 48, 61, 48, 1]) = some 2 ∧
    closedAtOf (([0, 0] ++ [56, 61, 70, 73, 88, 46, 52, 46, 52, 1, 57, 61, 49, 48, 48, 1, 51, 53, 61, 48, 1, 49, 48, 61, 48, 1]).drop 2) = some 26 := by
  decide +kernel

end AsyncFix.Props.C10
