/-
C20 — the bundled test helper fabricates valid, consistent counterparty traffic.

Part 1 (this file): the fabrication functions of `FIXTester` (`Model/Tester.lean`): every report the
model of `fix_exec_report_msg` returns – for ALL tester states, order views and argument combinations,
i.e. whenever none of the helper's own assertions (each modelled as an explicit refusal) fires –
satisfies the quantity invariants, carries a fresh ExecID and exactly the documented tags; ExecIDs are
strictly increasing over arbitrary call sequences; the OrderID is stable per order (the order's own
once it has one, the one remembered for its ClOrdID root before); the
report is processed by the order object without raising when it names the order's ClOrdID or OrigClOrdID
and reports a member of `FOrdStatus` (for a foreign ClOrdID the order raises: `Findings/C20.lean`); a
cancel reject reporting a member of `FOrdStatus` is processed by every order object; all fabricated messages
(Logon without extra tags) pass
the structural part of the dictionary check generated from FIX44.xml – known type, required members, no
foreign tag –, the value formats being a hypothesis.

Part 2 (`Props/C20Lock.lean`): the simulated acceptor wiring is in lock-step with two session-model
endpoints on clean scripts.
-/
import AsyncFix.Lemmas.TesterFab
import AsyncFix.Lemmas.TesterDict
namespace AsyncFix.Props.C20
open AsyncFix.Tester AsyncFix.Model.OrderTable

theorem documentedTags_nodup (a : Args) : (documentedTags a).Nodup := by
  unfold documentedTags
  cases truthy a.origClordId <;> cases a.lastQty.isSome <;> decide

/-- Whenever `fix_exec_report_msg` returns a message: CumQty + LeavesQty ≤ OrderQty (the values the
message carries at 14 / 151 / 38), LeavesQty = 0 when the reported status is one the code treats as
finished (FILLED CANCELED REJECTED EXPIRED), ExecID is the successor of the tester's counter, which
moves to it, and the tags are exactly the documented ones, each once, in the documented order. -/
theorem fabricated_report_inv {sc : Option (RMsg → Bool)} {st st' : TState} {o : OrderView} {a : Args} {m : RMsg}
    (h : fabricate sc st o a = (st', .ok m)) :
    ∃ cum leaves oq : Int,
      m.qty? 14 = some cum ∧ m.qty? 151 = some leaves ∧ m.qty? 38 = some oq ∧
      cum + leaves ≤ oq ∧
      (∀ s, m.str? 39 = some s → s ∈ finished → leaves = 0) ∧
      m.nat? 17 = some (st.execCtr + 1) ∧ st'.execCtr = st.execCtr + 1 ∧
      m.mtype = "8" ∧ m.tagList = documentedTags a ∧ m.tagList.Nodup := by
  obtain ⟨_, hm, rfl, rfl, _⟩ := fabricate_ok h
  have g := fun (t : Nat) (ht : t ≠ 41 ∧ t ≠ 32) => buildReport_get? o a (orderIdOf st o).2 (st.execCtr + 1) ht
  refine ⟨(effOf o a).cum.e, (effOf o a).leaves.e, (effOf o a).orderQty.e, ?_, ?_, ?_, check_sumLeOrderQty hm, ?_, ?_,
    rfl, rfl, buildReport_tagList .., ?_⟩
  · rw [RMsg.qty?, g 14 (by decide)]; rfl
  · rw [RMsg.qty?, g 151 (by decide)]; rfl
  · rw [RMsg.qty?, g 38 (by decide)]; rfl
  · intro s hs hfin
    rw [RMsg.str?, g 39 (by decide)] at hs
    cases hs
    exact check_finished hm hfin
  · rw [RMsg.nat?, g 17 (by decide)]; rfl
  · rw [buildReport_tagList]; exact documentedTags_nodup a

/-- non-vacuity: a partial fill of a live order is accepted (and the theorem applies to it) -/
example :
    (fabricate none { registered := ["c--1"] }
      { clordId := "c--1", qty := ⟨80, true⟩, price := ⟨800, true⟩, leavesQty := ⟨80, true⟩, status := "0" }
      { clordId := "c--1", execType := "F", ordStatus := "1", cumQty := some ⟨24, true⟩, leavesQty := some ⟨56, true⟩,
        lastQty := some ⟨24, true⟩ }).2.isOk = true := by decide +kernel

/-- the ExecIDs of the reports a call sequence produced, in call order -/
def execIds : List (Except Refusal RMsg) → List Nat
  | [] => []
  | .ok m :: r => (match m.nat? 17 with | some k => [k] | none => []) ++ execIds r
  | .error _ :: r => execIds r

theorem execIds_bounds (sc : Option (RMsg → Bool)) (calls : List (OrderView × Args)) (st : TState) :
    st.execCtr ≤ (runCalls sc st calls).1.execCtr ∧
    (∀ i ∈ execIds (runCalls sc st calls).2, st.execCtr < i ∧ i ≤ (runCalls sc st calls).1.execCtr) ∧
    (execIds (runCalls sc st calls).2).Pairwise (· < ·) := by
  induction calls generalizing st with
  | nil => simp [runCalls, execIds]
  | cons c rest ih =>
    obtain ⟨o, a⟩ := c
    have hle := fabricate_execCtr_le sc st o a
    obtain ⟨ih1, ih2, ih3⟩ := ih (fabricate sc st o a).1
    simp only [runCalls]
    rcases hf : fabricate sc st o a with ⟨st1, r⟩
    rw [hf] at hle ih1 ih2 ih3
    simp only at hle ih1 ih2 ih3 ⊢
    cases r with
    | error e =>
      refine ⟨by omega, ?_, ih3⟩
      intro i hi
      have := ih2 i hi
      omega
    | ok m =>
      obtain ⟨_, _, _, _, _, _, _, _, h17, hctr, _⟩ := fabricated_report_inv hf
      simp only [execIds, h17]
      refine ⟨by omega, ?_, ?_⟩
      · intro i hi
        rcases List.mem_append.mp hi with hi | hi
        · simp at hi; subst hi; omega
        · have := ih2 i hi; omega
      · simp only [List.singleton_append, List.pairwise_cons]
        exact ⟨fun j hj => by have := ih2 j hj; omega, ih3⟩

/-- Every ExecID is strictly greater than every ExecID fabricated before it on the same tester – for
every sequence of calls, for any orders and arguments, refused calls included. -/
theorem exec_ids_strictly_increasing (sc : Option (RMsg → Bool)) (st : TState) (calls : List (OrderView × Args)) :
    (execIds (runCalls sc st calls).2).Pairwise (· < ·) := (execIds_bounds sc calls st).2.2

theorem fabricated_str37 (o : OrderView) (a : Args) (oid : Val) (eid : Nat) :
    (buildReport o a oid eid).str? 37 = some oid.render := by
  rw [RMsg.str?, buildReport_get? o a oid eid (by decide)]; rfl

/-- Once the order has an OrderID, every report fabricated for it – on any tester, in any tester state,
with any arguments – carries exactly that OrderID. -/
theorem order_id_stable_partial {sc : Option (RMsg → Bool)} {st st' : TState} {o : OrderView} {a : Args} {m : RMsg}
    {x : String} (hid : o.orderId = some x) (h : fabricate sc st o a = (st', .ok m)) : m.str? 37 = some x := by
  obtain ⟨_, _, _, rfl, _⟩ := fabricate_ok h
  rw [fabricated_str37]; simp only [orderIdOf, hid]; rfl

/-- Before the first report is processed (`order.order_id is None`): after a report was fabricated for an
order, every later report on the same tester for an order with the same ClOrdID root and still without
OrderID carries the same OrderID – whatever calls (any orders, any arguments, refused ones included, any
schema) happened in between (fix e62ed38: `_order_ids`; D27 repaired). -/
theorem order_id_stable_sequence {sc sc' sc'' : Option (RMsg → Bool)} {st st1 st3 : TState} {o o' : OrderView}
    {a1 a2 : Args} {m1 m2 : RMsg} (calls : List (OrderView × Args))
    (h1 : fabricate sc st o a1 = (st1, .ok m1)) (hid : o.orderId = none)
    (hid' : o'.orderId = none) (hroot : rootOf o' = rootOf o)
    (h2 : fabricate sc' (runCalls sc'' st1 calls).1 o' a2 = (st3, .ok m2)) :
    m2.str? 37 = m1.str? 37 := by
  obtain ⟨_, _, hst1, rfl, _⟩ := fabricate_ok h1
  obtain ⟨_, _, _, rfl, _⟩ := fabricate_ok h2
  obtain ⟨k, hk, hknow⟩ := orderIdOf_none (st := st) hid
  have hk1 : lookupRoot (rootOf o) st1.orderIds = some k := by rw [hst1]; exact hknow
  have hk2 := knows_runCalls sc'' calls hk1
  have h37 : (orderIdOf (runCalls sc'' st1 calls).1 o').2 = .c k := by
    unfold orderIdOf
    rw [hid']
    simp only [hroot, hk2]
  rw [fabricated_str37, fabricated_str37, hk, h37]

/-- **OrderID stable per order**: two reports fabricated for the same order one after the other carry the
same OrderID, whether or not the order already has one. -/
theorem order_id_stable_full (sc : Option (RMsg → Bool)) (st st1 st2 : TState) (o : OrderView) (a1 a2 : Args)
    (m1 m2 : RMsg) (h1 : fabricate sc st o a1 = (st1, .ok m1)) (h2 : fabricate sc st1 o a2 = (st2, .ok m2)) :
    m1.str? 37 = m2.str? 37 := by
  cases hid : o.orderId with
  | some x => rw [order_id_stable_partial hid h1, order_id_stable_partial hid h2]
  | none => exact (order_id_stable_sequence (sc'' := sc) [] h1 hid hid rfl h2).symm

theorem k8_mem : "8" ∈ AsyncFix.Generated.OrderTable.spec.map Prod.fst := by decide +kernel
theorem k9_mem : "9" ∈ AsyncFix.Generated.OrderTable.spec.map Prod.fst := by decide +kernel

theorem applyStatus_ok (o : OrderView) (r : Res) (rep : String) (hrep : rep ∈ stVals)
    (hr : r = .to rep ∨ r = .none) : ∃ o' b, applyStatus o r = .ok (o', b) :=
  Tester.applyStatus_ok o hrep hr

/-- Full statement: every report the helper fabricates for an order is processed by that order's
`process_execution_report` without raising.  FALSE: the helper accepts any non-empty ClOrdID
(`Findings/C20.lean`). -/
def fabricated_processable_full : Prop :=
  ∀ (sc : Option (RMsg → Bool)) (st st' : TState) (o : OrderView) (a : Args) (m : RMsg),
    a.ordStatus ∈ stVals → fabricate sc st o a = (st', .ok m) → ∃ o' b, processExecReport o m = .ok (o', b)

/-- Proved part: the report names the order's ClOrdID or its OrigClOrdID, and the reported status is a
member of `FOrdStatus` (typed argument).  Then none of the raising branches of
`process_execution_report` is taken (message type, the seven tag reads, the `float()`s, the ClOrdID
check, `change_status`, `FOrdStatus(new_status)`); the status part is C16's trichotomy for kind 8 in
non-raising mode. -/
theorem fabricated_processable_partial {sc : Option (RMsg → Bool)} {st st' : TState} {o : OrderView} {a : Args}
    {m : RMsg} (hs : a.ordStatus ∈ stVals)
    (hc : a.clordId = o.clordId ∨ some a.clordId = o.origClordId)
    (h : fabricate sc st o a = (st', .ok m)) : ∃ o' b, processExecReport o m = .ok (o', b) := by
  obtain ⟨_, _, _, rfl, _⟩ := fabricate_ok h
  obtain ⟨o2, _, he⟩ := processExecReport_buildReport o a (orderIdOf st o).2 (st.execCtr + 1)
  have hr := changeStatus_soft o.status "8" a.execType a.ordStatus k8_mem
  have hmis : ¬ (a.clordId != o.clordId && some a.clordId != o.origClordId) = true := by
    rcases hc with hc | hc <;> simp [hc]
  rw [he, if_neg hmis, not_raised_of_soft hr]
  exact applyStatus_ok o2 _ _ hs hr

/-- after the first processing the order has adopted the report's OrderID, so from then on
`order_id_stable_partial` applies: every later report for that order carries the same OrderID -/
theorem order_id_adopted {sc : Option (RMsg → Bool)} {st st' : TState} {o o' : OrderView} {a : Args} {m : RMsg} {b : Bool}
    (h : fabricate sc st o a = (st', .ok m)) (hp : processExecReport o m = .ok (o', b)) :
    o'.orderId = m.str? 37 ∧ o'.orderId.isSome = true := by
  obtain ⟨_, _, _, rfl, _⟩ := fabricate_ok h
  obtain ⟨o2, h2, he⟩ := processExecReport_buildReport o a (orderIdOf st o).2 (st.execCtr + 1)
  rw [he] at hp
  have : o'.orderId = some (orderIdOf st o).2.render := by
    split at hp
    · cases hp
    · split at hp
      · cases hp
      · rw [applyStatus_orderId hp, h2]
  exact ⟨by rw [this, fabricated_str37], by rw [this]; rfl⟩

/-- `fix_cxlrep_reject_msg`: the tags are exactly OrderID, ClOrdID, OrigClOrdID, OrdStatus,
CxlRejResponseTo; ClOrdID / OrigClOrdID are the request's; CxlRejResponseTo says which request. -/
theorem cxlrej_inv {sc : Option (RMsg → Bool)} {req : AsyncFix.Session.Msg} {os : String} {m : RMsg}
    (h : cxlReject sc req os = .ok m) :
    m.mtype = "9" ∧ m.tagList = [37, 11, 41, 39, 434] ∧
    m.str? 11 = req.get? 11 ∧ m.str? 41 = req.get? 41 ∧ m.str? 39 = some os ∧
    (req.mtype = "F" ∨ req.mtype = "G") ∧
    m.str? 434 = some (if req.mtype = "F" then "1" else "2") ∧
    dictStruct m.render = true := by
  unfold cxlReject at h
  cases h11 : req.get? 11 with
  | none => simp [h11] at h
  | some c =>
    cases h41 : req.get? 41 with
    | none => simp [h11, h41] at h
    | some g =>
      simp only [h11, h41] at h
      split at h
      · cases h
      · rename_i hty
        obtain ⟨rfl, _⟩ := schemaGate_ok h
        have hk : req.mtype = "F" ∨ req.mtype = "G" := by
          simp [mCancelReq, mReplaceReq] at hty
          by_cases h1 : req.mtype = "F"
          · exact Or.inl h1
          · exact Or.inr (hty h1)
        refine ⟨rfl, rfl, rfl, rfl, rfl, hk, ?_, ?_⟩
        · simp [RMsg.str?, RMsg.get?, RMsg.lookup, Val.render, mCancelReq]
        · rw [dictStruct_render]; exact struct9

/-- a fabricated cancel reject is processed by EVERY order object (whatever its state) without raising,
for every `FOrdStatus` member as reported status (C16's trichotomy for kind 9, non-raising mode) -/
theorem cxlrej_processable {sc : Option (RMsg → Bool)} {req : AsyncFix.Session.Msg} {os : String} {m : RMsg}
    (o : OrderView) (hs : os ∈ stVals) (h : cxlReject sc req os = .ok m) :
    ∃ o' b, processCxlRej o m = .ok (o', b) := by
  obtain ⟨hty, _, _, _, h39, _, _, _⟩ := cxlrej_inv h
  have h39' : getS m 39 = .ok os := by
    simp only [RMsg.str?, Option.map_eq_some_iff] at h39
    obtain ⟨v, hv, hr⟩ := h39
    simp [getS, hv, hr]
  have hr := changeStatus_soft o.status "9" "0" os k9_mem
  unfold processCxlRej
  simp only [hty, h39', not_raised_of_soft hr, bne_self_eq_false, Bool.false_eq_true, if_false, bind, Except.bind]
  exact applyStatus_ok _ _ _ hs hr

/-!
`dictCheck` (Model/TesterDict.lean) is `FIXSchema.validate` restricted to the helper's messages over
the tables GENERATED from tests/FIX44.xml; it splits into the structural part (`dictStruct`: known
type, required members present, no foreign tag) and the lexical part (`dictValues`).  The structural
part is proved for everything the helper fabricates, for all arguments; the lexical part is a
hypothesis (datatype checks belong to property C19) and is compared with the real schema at run time. -/

theorem fabricated_dict_struct {sc : Option (RMsg → Bool)} {st st' : TState} {o : OrderView} {a : Args} {m : RMsg}
    (h : fabricate sc st o a = (st', .ok m)) : dictStruct m.render = true := by
  obtain ⟨_, _, _, _, _, _, _, _, _, _, hm, ht, _⟩ := fabricated_report_inv h
  rw [dictStruct_render, hm, ht]
  exact struct8 (truthy a.origClordId) a.lastQty.isSome

/-- `fabricated_valid`: for ANY notion of validity `Allowed` that accepts a message whenever its type is
known, its required members are present, all its tags are members, and its values are well-formed –
with the member list the helper sets being exactly `documentedTags` – every fabricated report whose
values are well-formed is `Allowed`.  Instantiated with `dictCheck` it says the report validates. -/
theorem fabricated_valid (Allowed : AsyncFix.Session.Msg → Prop)
    (hA : ∀ m, dictStruct m = true → dictValues m = true → Allowed m)
    {sc : Option (RMsg → Bool)} {st st' : TState} {o : OrderView} {a : Args} {m : RMsg}
    (h : fabricate sc st o a = (st', .ok m)) (hv : dictValues m.render = true) : Allowed m.render :=
  hA _ (fabricated_dict_struct h) hv

theorem fabricated_dictCheck {sc : Option (RMsg → Bool)} {st st' : TState} {o : OrderView} {a : Args} {m : RMsg}
    (h : fabricate sc st o a = (st', .ok m)) (hv : dictValues m.render = true) : dictCheck m.render = true := by
  rw [dictCheck_eq, fabricated_dict_struct h, hv]; rfl

/-- with a schema attached, whatever the helper returns passed that schema (validation is the last step
and no path bypasses it) -/
theorem fabricated_passed_schema {ok : RMsg → Bool} {st st' : TState} {o : OrderView} {a : Args} {m : RMsg}
    (h : fabricate (some ok) st o a = (st', .ok m)) : ok m = true :=
  (fabricate_ok h).2.2.2.2 ok rfl

/-- session message factories: structurally valid for all arguments (no extra tags for Logon) -/
theorem session_msgs_struct (t seq new b e : String) (g : Bool) :
    dictStruct (msgLogon []) = true ∧ dictStruct msgLogout = true ∧
    dictStruct (msgHeartbeat none) = true ∧ dictStruct (msgHeartbeat (some t)) = true ∧
    dictStruct (msgTestRequest t) = true ∧ dictStruct (msgSequenceReset seq new g) = true ∧
    dictStruct (msgResendRequest b e) = true := by
  simp only [dictStruct_eq]
  exact ⟨structLogon, structLogout, structHb0, structHb1, structTestReq, structSeqReset, structResend⟩

/-- the default Logon, Logout and the interval Heartbeat validate completely -/
theorem session_msgs_default_valid :
    dictCheck (msgLogon []) = true ∧ dictCheck msgLogout = true ∧ dictCheck (msgHeartbeat none) = true := by
  decide +kernel

theorem reqFinish_ok {sc : Option (RMsg → Bool)} {st st' : TState} {o1 o' : OrderView} {m m' : RMsg} {nc : String}
    (h : reqFinish sc st o1 m nc = (st', o', .ok m')) : m' = m ∧ o' = o1 ∧ nc ∈ st'.registered := by
  unfold reqFinish at h
  cases sc with
  | none =>
    simp only [Prod.mk.injEq, Except.ok.injEq] at h
    obtain ⟨rfl, rfl, rfl⟩ := h
    exact ⟨rfl, rfl, by simp⟩
  | some ok =>
    simp only at h
    split at h
    · simp only [Prod.mk.injEq, Except.ok.injEq] at h
      obtain ⟨rfl, rfl, rfl⟩ := h
      exact ⟨rfl, rfl, by simp⟩
    · simp at h

/-- cancel / replace requests the helper hands out are structurally valid and registered under the
order's NEW ClOrdID, which the order carries afterwards -/
theorem requests_struct {sc : Option (RMsg → Bool)} {st st' : TState} {o o' : OrderView} {m : RMsg}
    (nc tm : String) (px q : Option Num) :
    (cxlRequest sc st o nc tm = (st', o', .ok m) → dictStruct m.render = true ∧ nc ∈ st'.registered ∧ o'.clordId = nc) ∧
    (repRequest sc st o px q nc tm = (st', o', .ok m) → dictStruct m.render = true ∧ nc ∈ st'.registered ∧ o'.clordId = nc) := by
  constructor
  · intro h
    unfold cxlRequest at h
    split at h
    · cases h
    · split at h
      · cases h
      · obtain ⟨rfl, rfl, hr⟩ := reqFinish_ok h
        exact ⟨by rw [dictStruct_render]; exact structCxlReq, hr, rfl⟩
  · intro h
    unfold repRequest at h
    split at h
    · cases h
    · split at h
      · cases h
      · split at h
        · cases h
        · obtain ⟨rfl, rfl, hr⟩ := reqFinish_ok h
          exact ⟨by rw [dictStruct_render]; exact structRepReq, hr, rfl⟩

end AsyncFix.Props.C20
