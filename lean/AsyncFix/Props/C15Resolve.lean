/-
C15, last sentence: "The outcome does not depend on the order in which components are declared
in the XML."  Theorems about the model of `FIXSchema._parse`'s deferred resolution loop
(Model/SchemaResolve.lean: `resolve` = the `while all_components:` sweeps, `expandBody` =
`_parse_msg_set`, incl. the `RuntimeError` for unresolvable references and the
`AssertionError`s of `SchemaSet.add` / `_parse_component`).

No acyclicity hypothesis is needed: success of ONE order is the hypothesis (it implies that the
references are acyclic and resolvable, that names are distinct and that no expansion adds a
field twice); conversely failure of one order is failure of every order.
-/
import AsyncFix.Lemmas.SchemaResolveB
namespace AsyncFix.Props.C15
open AsyncFix.Model.SchemaResolve

/-- If the declarations resolve in one order, they resolve in every order, to the same set of
    components with the same members (only the insertion order of `_components` may differ). -/
theorem resolve_perm {ds ds' : List CDecl} {E : Env} (hp : ds'.Perm ds) (h : resolve ds = .ok E) :
    ∃ E', resolve ds' = .ok E' ∧ ∀ n, E'.get n = E.get n := by
  -- `Ref` does not see the order of the declarations, makes them resolve, and determines the result
  have R := (resolve_ref h).perm hp
  obtain ⟨E', hE'⟩ := R.resolves
  exact ⟨E', hE', R.get_unique (resolve_ref hE')⟩

/-- … and if they fail (RuntimeError or AssertionError) in one order, they fail in every order. -/
theorem resolve_fail_perm {ds ds' : List CDecl} (hp : ds'.Perm ds)
    (h : ∀ E, resolve ds ≠ .ok E) : ∀ E', resolve ds' ≠ .ok E' := by
  intro E' h'
  obtain ⟨E, hE, _⟩ := resolve_perm hp.symm h'
  exact h E hE

/-- What a successful resolution computes: every declared component is present and its members
    are the complete (undeferred, assertion-free) expansion of its declaration in the final
    environment itself – the denotation of the declarations, which mentions no order. -/
theorem resolve_fixpoint {ds : List CDecl} {E : Env} (h : resolve ds = .ok E) {n : String}
    {body : List Decl} (hm : (n, body) ∈ ds) :
    ∃ ms, E.get n = some ms ∧ expandBody E body [] false = .done ms false :=
  (resolve_ref h).full hm

/-- message bodies (`_parse_message`) expand identically after resolution in either order.  `_parse_header` runs before
    the components are resolved (schema.py `_parse`), so a header that refers to a component is outside this model. -/
theorem expandTop_perm {ds ds' : List CDecl} {E E' : Env} (hp : ds'.Perm ds)
    (h : resolve ds = .ok E) (h' : resolve ds' = .ok E') (body : List Decl) :
    expandTop E' body = expandTop E body := by
  obtain ⟨E'', hE'', hag⟩ := resolve_perm hp h
  rw [h'] at hE''
  cases hE''
  unfold expandTop
  rw [expand_congr (env := E') (env2 := E) (fun c _ => hag c)]

-- non-vacuity: `A` refers to `B` and (inside a group) to `C`, both declared later; `C` refers to `B`

def demo : List CDecl :=
  [("A", [.field "a" true, .comp "B", .group "NoG" false [.field "g" true, .comp "C"]]),
   ("C", [.comp "B", .field "c" false]),
   ("B", [.field "b" true])]

def demoEnv : Env :=
  [("B", [.field "b" true]),
   ("C", [.field "b" true, .field "c" false]),
   ("A", [.field "a" true, .field "b" true,
          .group "NoG" false [.field "g" true, .field "b" true, .field "c" false]])]

example : ∃ E, resolve demo = .ok E ∧ ∀ n, E.get n = demoEnv.get n := by
  have h : resolve demo.reverse = .ok demoEnv := by
    simp [resolve, resolveLoop, sweep, expandBody, demo, demoEnv, Env.get, addMem, mergeAll, RMem.name]
  exact resolve_perm (List.reverse_perm _).symm h

end AsyncFix.Props.C15
