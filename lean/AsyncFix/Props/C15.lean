/-
C15 — schema validation accepts exactly the messages the FIX dictionary allows.

`validate` (Model/Schema.lean) mirrors `FIXSchema.validate` / `_validate_header` /
`SchemaGroup.validate_group` of asyncfix/protocol/schema.py; `Allowed`
(Model/SchemaSpec.lean) is the specification, written independently of it.  Everything is for
ALL dictionaries `sch` with `schemaWF sch` (evaluated by the driver on tests/FIX44.xml and
tests/TT-FIX44.xml every run), ALL value verdicts `vv` (C19's subject) and ALL messages `m`
(any number of nodes, any nesting depth): structural induction over the message tree.
The `reject_*` theorems are the property's single violations, each a way of not being `Allowed`;
`not_nodeOk_*` and `not_itemOk_*` supply the hypothesis of `reject_bad_node` and of
`reject_bad_item`, which reaches the items of groups at every nesting depth through `ItemIn`.
Order-independence of `<components>` is in Props/C15Resolve.lean.
-/
import AsyncFix.Lemmas.SchemaMain
namespace AsyncFix.Props.C15
open AsyncFix.Model.Schema

variable {vv : Tag → String → Bool} {sch : Schema} {m : Msg}

theorem validate_iff_allowed (hwf : schemaWF sch = true) :
    validate vv sch m = .ok ↔ Allowed vv sch m :=
  validate_iff_of_WF (schemaWF_WF hwf) m

/-- every rejection is `msgError`, the library's `FIXMessageError`, with no hypothesis on the dictionary.  The model has
    no other leaf; that the code raises nothing else is what the harness compares (Model/Schema.lean, `Kind`). -/
theorem validate_error_kind {k : Kind} (h : validate vv sch m = .raised k) : k = .msgError :=
  validate_kind vv sch m k h

theorem validate_ok_or_msgError : validate vv sch m = .ok ∨ validate vv sch m = .raised .msgError := by
  cases h : validate vv sch m with
  | ok => exact Or.inl rfl
  | raised k => rw [validate_kind vv sch m k h]; exact Or.inr rfl

theorem reject_of_not_allowed (hwf : schemaWF sch = true) (h : ¬ Allowed vv sch m) :
    validate vv sch m = .raised .msgError := by
  rcases validate_ok_or_msgError (vv := vv) (sch := sch) (m := m) with h' | h'
  · exact absurd ((validate_iff_allowed hwf).mp h') h
  · exact h'

theorem reject_unknown_msgtype (hwf : schemaWF sch = true)
    (h : ∀ ms, (m.msgType, ms) ∉ sch.messages) : validate vv sch m = .raised .msgError :=
  reject_of_not_allowed hwf (fun ⟨ms, hms, _⟩ => h ms hms)

/-- the message's member list is unique, so faults can be stated relative to it -/
theorem allowed_members (hwf : schemaWF sch = true) {ms : List Member}
    (hms : (m.msgType, ms) ∈ sch.messages) (h : Allowed vv sch m) :
    (∀ mem, mem ∈ ms → mem.req = true → mem.tag ∈ nodeTags m.tags) ∧
    ("8" ∈ nodeTags m.tags → ∀ mem, mem ∈ sch.header → mem.req = true → mem.tag ∈ nodeTags m.tags) ∧
    (∀ n, n ∈ m.tags → n.tag ≠ "10" →
      sch.declares n.tag ∧ ∃ mem, mem ∈ sch.header ++ sch.trailer ++ ms ∧ NodeOk vv mem n) :=
  (allowed_iff (schemaWF_WF hwf) hms).mp h

/-- missing required field or group -/
theorem reject_missing_required (hwf : schemaWF sch = true) {ms : List Member}
    (hms : (m.msgType, ms) ∈ sch.messages) {mem : Member} (hmem : mem ∈ ms) (hreq : mem.req = true)
    (habs : mem.tag ∉ nodeTags m.tags) : validate vv sch m = .raised .msgError :=
  reject_of_not_allowed hwf fun h => habs ((allowed_members hwf hms h).1 mem hmem hreq)

/-- a message that carries BeginString but lacks a required header member -/
theorem reject_missing_header_member (hwf : schemaWF sch = true) {ms : List Member}
    (hms : (m.msgType, ms) ∈ sch.messages) (h8 : "8" ∈ nodeTags m.tags) {mem : Member}
    (hmem : mem ∈ sch.header) (hreq : mem.req = true) (habs : mem.tag ∉ nodeTags m.tags) :
    validate vv sch m = .raised .msgError :=
  reject_of_not_allowed hwf fun h => habs ((allowed_members hwf hms h).2.1 h8 mem hmem hreq)

theorem reject_unknown_tag (hwf : schemaWF sch = true) {n : Node} (hn : n ∈ m.tags)
    (h10 : n.tag ≠ "10") (hun : ¬ sch.declares n.tag) : validate vv sch m = .raised .msgError :=
  reject_of_not_allowed hwf fun ⟨_, _, _, _, h⟩ => hun (h n hn h10).1

/-- tag not allowed in this message (neither header, trailer nor message member) -/
theorem reject_not_allowed_tag (hwf : schemaWF sch = true) {ms : List Member}
    (hms : (m.msgType, ms) ∈ sch.messages) {n : Node} (hn : n ∈ m.tags) (h10 : n.tag ≠ "10")
    (hno : n.tag ∉ memberTags (sch.header ++ sch.trailer ++ ms)) :
    validate vv sch m = .raised .msgError :=
  reject_of_not_allowed hwf fun h => by
    obtain ⟨_, mem, hmem, hok⟩ := (allowed_members hwf hms h).2.2 n hn h10
    exact hno (hok.tag_eq ▸ List.mem_map.mpr ⟨mem, hmem, rfl⟩)

/-- a node that is not an acceptable instance of the member with its tag: covers an invalid or
    empty value, a non-string value, a plain field given as a group and a group given as a
    plain value – for message, header and trailer members alike -/
theorem reject_bad_node (hwf : schemaWF sch = true) {ms : List Member}
    (hms : (m.msgType, ms) ∈ sch.messages) {n : Node} (hn : n ∈ m.tags) (h10 : n.tag ≠ "10")
    {mem : Member} (hmem : mem ∈ sch.header ++ sch.trailer ++ ms) (ht : mem.tag = n.tag)
    (hbad : ¬ NodeOk vv mem n) : validate vv sch m = .raised .msgError :=
  reject_of_not_allowed hwf fun h =>
    hbad ((nodeOk_of_mem ((schemaWF_WF hwf).members _ hms) hmem ht).mp
      ((allowed_members hwf hms h).2.2 n hn h10).2)

theorem not_nodeOk_invalid_value {t t' : Tag} {r : Bool} {s : String} (h : vv t s = false) :
    ¬ NodeOk vv (.field t r) (.plain t' s) := by
  intro hok; cases hok with | field _ h2 => simp [h] at h2

theorem not_nodeOk_empty_value {t t' : Tag} {r : Bool} : ¬ NodeOk vv (.field t r) (.plain t' "") := by
  intro hok; cases hok with | field h1 _ => exact h1 rfl

theorem not_nodeOk_class_value {mem : Member} {t : Tag} {k : ClsKind} : ¬ NodeOk vv mem (.cls t k) := by
  intro hok; cases hok

theorem not_nodeOk_plain_as_group {t t' : Tag} {r : Bool} {items : List (List Node)} :
    ¬ NodeOk vv (.field t r) (.group t' items) := by
  intro hok; cases hok

theorem not_nodeOk_group_as_plain {t t' : Tag} {r : Bool} {gm : List Member} {s : String} :
    ¬ NodeOk vv (.group t r gm) (.plain t' s) := by
  intro hok; cases hok

/-- the filter drops CheckSum (10): `validate` skips that node whatever it holds, so nothing is said of its items -/
theorem validate_ok_items (hwf : schemaWF sch = true) {ms : List Member}
    (hms : (m.msgType, ms) ∈ sch.messages) (hok : validate vv sch m = .ok)
    {gm : List Member} {it : List Node}
    (hin : ItemIn (sch.header ++ sch.trailer ++ ms) (m.tags.filter (fun n => n.tag ≠ "10")) gm it) :
    ItemOk vv gm it := by
  have h := (allowed_members hwf hms ((validate_iff_allowed hwf).mp hok)).2.2
  refine itemOk_of_itemIn hin ((schemaWF_WF hwf).members _ hms) ?_
  intro n hn
  obtain ⟨hn1, hn2⟩ := List.mem_filter.mp hn
  exact (h n hn1 (by simpa using hn2)).2

/-- a faulty item anywhere in the message makes the whole message rejected -/
theorem reject_bad_item (hwf : schemaWF sch = true) {ms : List Member}
    (hms : (m.msgType, ms) ∈ sch.messages) {gm : List Member} {it : List Node}
    (hin : ItemIn (sch.header ++ sch.trailer ++ ms) (m.tags.filter (fun n => n.tag ≠ "10")) gm it)
    (hbad : ¬ ItemOk vv gm it) : validate vv sch m = .raised .msgError :=
  reject_of_not_allowed hwf fun h =>
    hbad (validate_ok_items hwf hms ((validate_iff_allowed hwf).mpr h) hin)

/-- foreign member (known or unknown to the dictionary) in a group item -/
theorem not_itemOk_foreign {gm : List Member} {it : List Node} {n : Node} (hn : n ∈ it)
    (hf : n.tag ∉ memberTags gm) : ¬ ItemOk vv gm it := by
  intro h; cases h with | mk h1 _ _ _ _ => exact hf (h1 n hn)

/-- members out of dictionary order: some node precedes a node of a strictly earlier member -/
theorem not_itemOk_order {gm : List Member} {pre mid post : List Node} {a b : Node}
    (hlt : idxOf gm b.tag < idxOf gm a.tag) : ¬ ItemOk vv gm (pre ++ a :: mid ++ b :: post) := by
  intro h
  cases h with
  | mk _ _ h3 _ _ =>
    have h3' : (pre ++ (a :: (mid ++ b :: post))).Pairwise
        (fun a b => idxOf gm a.tag ≤ idxOf gm b.tag) := by simpa using h3
    have := (List.pairwise_cons.mp (List.pairwise_append.mp h3').2.1).1 b (by simp)
    omega

theorem not_itemOk_first_missing {m0 : Member} {rest : List Member} {it : List Node}
    (habs : m0.tag ∉ nodeTags it) : ¬ ItemOk vv (m0 :: rest) it := by
  intro h
  cases h with
  | mk _ _ _ h4 _ =>
    obtain ⟨m0', rest', e, hmem⟩ := h4
    cases e; exact habs hmem

theorem not_itemOk_no_members {it : List Node} : ¬ ItemOk vv [] it := by
  intro h; cases h with | mk _ _ _ h4 _ => obtain ⟨_, _, e, _⟩ := h4; cases e

/-- a required member (field or nested group) is missing from the item -/
theorem not_itemOk_required_missing {gm : List Member} {it : List Node} {mem : Member}
    (hmem : mem ∈ gm) (hreq : mem.req = true) (habs : mem.tag ∉ nodeTags it) : ¬ ItemOk vv gm it := by
  intro h; cases h with | mk _ _ _ _ h5 => exact habs (h5 mem hmem hreq)

/-- a node of the item that is not an acceptable instance of its member (invalid / empty /
    non-string value, plain ↔ group confusion, or a faulty nested item) -/
theorem not_itemOk_bad_node {gm : List Member} {it : List Node} {n : Node} {mem : Member}
    (hn : n ∈ it) (hmem : mem ∈ gm) (ht : mem.tag = n.tag) (hbad : ¬ NodeOk vv mem n) :
    ¬ ItemOk vv gm it := by
  intro h; cases h with | mk _ h2 _ _ _ => exact hbad (h2 n hn mem hmem ht)

-- non-vacuity: a small dictionary with a doubly nested group
def toy : Schema :=
  { fields := [⟨"8", "BeginString", "STRING", false⟩, ⟨"35", "MsgType", "STRING", true⟩,
               ⟨"10", "CheckSum", "STRING", false⟩, ⟨"93", "SignatureLength", "LENGTH", false⟩,
               ⟨"11", "ClOrdID", "STRING", false⟩, ⟨"55", "Symbol", "STRING", false⟩,
               ⟨"453", "NoPartyIDs", "NUMINGROUP", false⟩, ⟨"448", "PartyID", "STRING", false⟩,
               ⟨"452", "PartyRole", "INT", true⟩, ⟨"802", "NoPartySubIDs", "NUMINGROUP", false⟩,
               ⟨"523", "PartySubID", "STRING", false⟩, ⟨"803", "PartySubIDType", "INT", false⟩,
               ⟨"58", "Text", "STRING", false⟩]
    header := [.field "8" true, .field "35" true]
    trailer := [.field "93" false, .field "10" true]
    messages := [("D", [.field "11" true, .field "55" false,
                        .group "453" true [.field "448" false, .field "452" true,
                                           .group "802" false [.field "523" false, .field "803" true]]]),
                 ("0", [.field "58" false])] }

/-- every non-empty value is valid except the literal `"bad"` -/
def vvToy : Tag → String → Bool := fun _ s => s != "bad"

def good : Msg :=
  ⟨"D", [.plain "8" "FIX.4.4", .plain "35" "D", .plain "11" "c1",
         .group "453" [[.plain "448" "p", .plain "452" "1",
                        .group "802" [[.plain "523" "s", .plain "803" "4"], [.plain "523" "t", .plain "803" "5"]]],
                       [.plain "448" "q", .plain "452" "3"]],
         .plain "93" "3", .plain "10" "123"]⟩

theorem toy_wf : schemaWF toy = true := by decide +kernel
theorem good_ok : validate vvToy toy good = .ok := by decide +kernel

example : schemaWF toy = true := toy_wf
example : validate vvToy toy good = .ok := good_ok
example : Allowed vvToy toy good := (validate_iff_allowed toy_wf).mp good_ok

/-- depth-2 fault: the item of the nested group 802 has its members out of dictionary order -/
def badDeep : Msg :=
  ⟨"D", [.plain "11" "c1",
         .group "453" [[.plain "452" "1", .group "802" [[.plain "803" "4", .plain "523" "s"]]]]]⟩

theorem badDeep_rejected : validate vvToy toy badDeep = .raised .msgError := by decide +kernel

example : validate vvToy toy badDeep = .raised .msgError := badDeep_rejected
example : ¬ Allowed vvToy toy badDeep := fun h =>
  absurd ((validate_iff_allowed toy_wf).mpr h) (by rw [badDeep_rejected]; nofun)

end AsyncFix.Props.C15
