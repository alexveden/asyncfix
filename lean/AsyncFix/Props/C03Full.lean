/-
C03 without the "each valid frame decodes on its own" hypothesis.

Props/C03.lean states the chunk-independence theorems under
`hv : ∀ f ∈ frames, WFFrame bs f ∧ ∃ m, decode bs tbl f = .msg m f.length f`.
The second conjunct is a theorem (`wfframe_decodes`, Lemmas/CodecWFDecodes.lean: every structurally
valid frame decodes to a message that consumes exactly the frame, for every group table and every
`okFields` field list), so here the theorems are restated with the structural hypothesis
`hv : ∀ f ∈ frames, WFFrame bs f` ONLY: the stream is `g0 f1 g1 … fn gn` with `WFFrame` frames and
marker-free blocks between them; nothing else is assumed.
-/
import AsyncFix.Props.C03
import AsyncFix.Lemmas.CodecWFDecodes
namespace AsyncFix.Props.C03
open AsyncFix.Model.Codec

/-- the hypothesis of Props/C03.lean from the structural one -/
theorem hv_of_wf {bs : Bytes} {tbl : Tbl} {frames : List Bytes} (hb : okBegin bs = true)
    (hv : ∀ f ∈ frames, WFFrame bs f) :
    ∀ f ∈ frames, WFFrame bs f ∧ ∃ m, decode bs tbl f = .msg m f.length f :=
  fun f hf => ⟨hv f hf, wfframe_decodes bs tbl f hb (hv f hf)⟩

/-- **C03, full.**  Whatever the reads are, the reader hands over exactly the valid frames that
were sent, in order, each with the message the decoder produces for that frame alone. -/
theorem reader_chunk_independent_full (bs : Bytes) (tbl : Tbl) (frames : List Bytes) (gs : List Bytes)
    (chunks : List Bytes)
    (hb : okBegin bs = true)
    (hv : ∀ f ∈ frames, WFFrame bs f)
    (hg : ∀ g ∈ gs, NoMarker g) (hlen : gs.length = frames.length + 1)
    (hc : chunks.flatten = interleave gs frames) :
    (feedAll bs tbl [] chunks []).2 = frames.map (fun f => (msgOf bs tbl f, f)) :=
  reader_chunk_independent bs tbl frames gs chunks hb (hv_of_wf hb hv) hg hlen hc

/-- … and each delivered pair is a genuine decode result of its frame (not the `default` of `msgOf`). -/
theorem reader_delivers_decoded_full (bs : Bytes) (tbl : Tbl) (frames : List Bytes) (gs : List Bytes)
    (chunks : List Bytes)
    (hb : okBegin bs = true)
    (hv : ∀ f ∈ frames, WFFrame bs f)
    (hg : ∀ g ∈ gs, NoMarker g) (hlen : gs.length = frames.length + 1)
    (hc : chunks.flatten = interleave gs frames) :
    ((feedAll bs tbl [] chunks []).2.map (·.2) = frames) ∧
    ∀ p ∈ (feedAll bs tbl [] chunks []).2, decode bs tbl p.2 = .msg p.1 p.2.length p.2 := by
  rw [reader_chunk_independent_full bs tbl frames gs chunks hb hv hg hlen hc]
  refine ⟨by rw [List.map_map]; exact List.map_id' _, ?_⟩
  intro p hp
  obtain ⟨f, hf, rfl⟩ := List.mem_map.mp hp
  obtain ⟨m, hm⟩ := wfframe_decodes bs tbl f hb (hv f hf)
  simp only [msgOf_eq hm, hm]

/-- After all reads the buffer holds a (possibly empty) proper prefix of the marker that is a
suffix of the last junk block. -/
theorem reader_residual_buffer_full (bs : Bytes) (tbl : Tbl) (frames : List Bytes) (gs : List Bytes)
    (chunks : List Bytes)
    (hb : okBegin bs = true)
    (hv : ∀ f ∈ frames, WFFrame bs f)
    (hg : ∀ g ∈ gs, NoMarker g) (hlen : gs.length = frames.length + 1)
    (hc : chunks.flatten = interleave gs frames) :
    ∃ k, k < 6 ∧ (feedAll bs tbl [] chunks []).1 = marker.take k ∧
      (feedAll bs tbl [] chunks []).1 <:+ lastG gs :=
  reader_residual_buffer bs tbl frames gs chunks hb (hv_of_wf hb hv) hg hlen hc

/-- Two ways of cutting the same stream give the same deliveries. -/
theorem reader_chunkings_agree_full (bs : Bytes) (tbl : Tbl) (frames : List Bytes) (gs : List Bytes)
    (chunks₁ chunks₂ : List Bytes)
    (hb : okBegin bs = true)
    (hv : ∀ f ∈ frames, WFFrame bs f)
    (hg : ∀ g ∈ gs, NoMarker g) (hlen : gs.length = frames.length + 1)
    (hc₁ : chunks₁.flatten = interleave gs frames) (hc₂ : chunks₂.flatten = interleave gs frames) :
    (feedAll bs tbl [] chunks₁ []).2 = (feedAll bs tbl [] chunks₂ []).2 :=
  reader_chunkings_agree bs tbl frames gs chunks₁ chunks₂ hb (hv_of_wf hb hv) hg hlen hc₁ hc₂

/-- The degenerate chunking: one byte per read. -/
theorem reader_one_byte_reads_full (bs : Bytes) (tbl : Tbl) (frames : List Bytes) (gs : List Bytes)
    (hb : okBegin bs = true)
    (hv : ∀ f ∈ frames, WFFrame bs f)
    (hg : ∀ g ∈ gs, NoMarker g) (hlen : gs.length = frames.length + 1) :
    (feedAll bs tbl [] ((interleave gs frames).map fun b => [b]) []).2 =
      frames.map (fun f => (msgOf bs tbl f, f)) :=
  reader_one_byte_reads bs tbl frames gs hb (hv_of_wf hb hv) hg hlen

/-- The reader neither raises nor stalls on such a stream, for any buffer content that is a prefix
of it (in particular after every read). -/
theorem reader_no_raise_no_stall_full (bs : Bytes) (tbl : Tbl) (frames : List Bytes) (gs : List Bytes)
    (X R : Bytes)
    (hb : okBegin bs = true)
    (hv : ∀ f ∈ frames, WFFrame bs f)
    (hg : ∀ g ∈ gs, NoMarker g) (hlen : gs.length = frames.length + 1)
    (hs : X ++ R = interleave gs frames) :
    (readLoop bs tbl X []).raised = none ∧ (readLoop bs tbl X []).stalled = false :=
  reader_no_raise_no_stall bs tbl frames gs X R hb (hv_of_wf hb hv) hg hlen hs

/-! ### non-vacuity

The stream of Props/C03.lean (two frames, junk blocks ending in partial markers, reads ending
inside the marker / `9=` / `10=`, an empty read) satisfies the hypotheses – without evaluating
`decode` on the frames – for the generated table and, equally, for a table under which the body
fields of the frames are NOT a well-formed group structure (34 a group with member 58: the second
frame's `34=2|55=A` opens a group whose count says 2 and that has no item). -/

def exTblOdd : Tbl := [([51, 52], [[53, 56]])]

example (tbl : Tbl) :
    okBegin protoBegin = true ∧
    (∀ f ∈ [exF1, exF2], WFFrame protoBegin f) ∧
    (∀ g ∈ exGs, NoMarker g) ∧ exGs.length = [exF1, exF2].length + 1 ∧
    exChunks.flatten = interleave exGs [exF1, exF2] ∧ exChunks.length = 7 ∧ [] ∈ exChunks ∧
    (feedAll protoBegin tbl [] exChunks []).2 =
      [(msgOf protoBegin tbl exF1, exF1), (msgOf protoBegin tbl exF2, exF2)] := by
  exact ⟨okBegin_proto, exFrames_wf, exGs_noMarker, rfl, exChunks_flatten, rfl, by decide +kernel,
    reader_chunk_independent_full protoBegin tbl [exF1, exF2] exGs exChunks okBegin_proto exFrames_wf
      exGs_noMarker rfl exChunks_flatten⟩

/-- the instance with the odd table: both frames are delivered as messages -/
example : ∃ m1 m2, (feedAll protoBegin exTblOdd [] exChunks []).2 = [(m1, exF1), (m2, exF2)] ∧
    decode protoBegin exTblOdd exF1 = .msg m1 exF1.length exF1 ∧
    decode protoBegin exTblOdd exF2 = .msg m2 exF2.length exF2 := by
  obtain ⟨m1, hm1⟩ := wfframe_decodes protoBegin exTblOdd exF1 okBegin_proto (exFrames_wf _ (by simp))
  obtain ⟨m2, hm2⟩ := wfframe_decodes protoBegin exTblOdd exF2 okBegin_proto (exFrames_wf _ (by simp))
  refine ⟨m1, m2, ?_, hm1, hm2⟩
  rw [reader_chunk_independent_full protoBegin exTblOdd [exF1, exF2] exGs exChunks okBegin_proto exFrames_wf
    exGs_noMarker rfl exChunks_flatten]
  simp only [List.map_cons, List.map_nil, msgOf_eq hm1, msgOf_eq hm2]

/-- **Cut-off stream, full.**  `reader_truncated_stream` with the structural hypothesis only. -/
theorem reader_truncated_stream_full (bs : Bytes) (tbl : Tbl) (frames : List Bytes) (gs : List Bytes)
    (chunks : List Bytes) (R : Bytes)
    (hb : okBegin bs = true)
    (hv : ∀ f ∈ frames, WFFrame bs f)
    (hg : ∀ g ∈ gs, NoMarker g) (hlen : gs.length = frames.length + 1)
    (hc : chunks.flatten ++ R = interleave gs frames) :
    ∃ j, j ≤ frames.length ∧
      (feedAll bs tbl [] chunks []).2 = (frames.take j).map (fun f => (msgOf bs tbl f, f)) ∧
      R.length ≤ (interleave (gs.drop j) (frames.drop j)).length ∧
      (j < frames.length → (interleave (gs.drop (j + 1)) (frames.drop (j + 1))).length < R.length) :=
  reader_truncated_stream bs tbl frames gs chunks R hb (hv_of_wf hb hv) hg hlen hc

end AsyncFix.Props.C03
