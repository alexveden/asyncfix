/-
C13: every state-changing call refines its abstract counterpart:
`abs (method j args).1 = (abs j).method args` under `JInv j`.

`abs` looks rows up with `find?`; what each of the five writing statements does to these lookups is
stated once (`abs_insSession`, `abs_insMsg`, `abs_updCounter`, `abs_updBoth`, `abs_delFrom`), the
methods are compositions of them.
-/
import AsyncFix.Lemmas.JournalInv
namespace AsyncFix.Model.Journal

/-- in a list without two rows of the same key, a member is what `find?` by its key returns -/
theorem find_of_mem_unique {α} {R : α → α → Prop} {p : α → Bool} {l : List α} {a : α}
    (hp : l.Pairwise R) (hR : ∀ x y, p x = true → p y = true → R x y → False)
    (ha : a ∈ l) (hpa : p a = true) : l.find? p = some a := by
  induction l with
  | nil => cases ha
  | cons x xs ih =>
    rw [List.pairwise_cons] at hp
    rcases List.mem_cons.mp ha with rfl | h
    · simp [hpa]
    · by_cases hx : p x = true
      · exact absurd (hp.1 a h) (fun hr => hR x a hx hpa hr)
      · simp only [List.find?_cons, hx]
        exact ih hp.2 h

theorem find?_snoc_pos {α} {p : α → Bool} {l : List α} {a : α} (hl : l.find? p = none) (ha : p a = true) :
    (l ++ [a]).find? p = some a := by
  simp [List.find?_append, hl, ha]

theorem find?_snoc_neg {α} {p : α → Bool} {l : List α} {a : α} (ha : p a = false) :
    (l ++ [a]).find? p = l.find? p := by
  simp [List.find?_append, ha]

theorem find?_map_of_comp {α} {p : α → Bool} {f : α → α} (l : List α) (hf : ∀ a, p (f a) = p a) :
    (l.map f).find? p = (l.find? p).map f := by
  rw [List.find?_map]
  congr 2
  funext a
  exact hf a

theorem store_of_mem {j : Journal} (hinv : JInv j) {r : MsgRow} (hr : r ∈ j.msgs) :
    (abs j).store r.sid r.dir r.seq = some r.msg := by
  simp only [abs]
  rw [find_of_mem_unique hinv.keyUnique _ hr ((isKey_iff ..).mpr ⟨rfl, rfl, rfl⟩)]
  · rfl
  · intro x y hx hy hR
    rw [isKey_iff] at hx hy
    exact hR ⟨hx.1.trans hy.1.symm, hx.2.1.trans hy.2.1.symm, hx.2.2.trans hy.2.2.symm⟩

theorem mem_of_store {j : Journal} {key : Int} {dir : Dir} {n : Int} {m : Bytes}
    (h : (abs j).store key dir n = some m) :
    ∃ r ∈ j.msgs, r.seq = n ∧ r.sid = key ∧ r.dir = dir ∧ r.msg = m := by
  simp only [abs, Option.map_eq_some_iff] at h
  obtain ⟨r, hr, rfl⟩ := h
  have := List.find?_some hr
  rw [isKey_iff] at this
  exact ⟨r, List.mem_of_find?_eq_some hr, this.1, this.2.1, this.2.2, rfl⟩

theorem store_none_iff {j : Journal} {key : Int} {dir : Dir} {n : Int} :
    (abs j).store key dir n = none ↔ j.msgs.any (·.isKey n key dir) = false := by
  simp only [abs, Option.map_eq_none_iff, List.find?_eq_none, List.any_eq_false]

theorem sess_of_mem {j : Journal} (hinv : JInv j) {r : SessRow} (hr : r ∈ j.sessions) :
    j.sessions.find? (·.isPair r.target r.sender) = some r ∧ j.sessions.find? (·.sid == r.sid) = some r := by
  constructor
  · apply find_of_mem_unique hinv.pairUnique _ hr ((isPair_iff ..).mpr ⟨rfl, rfl⟩)
    intro x y hx hy hR
    rw [isPair_iff] at hx hy
    exact hR ⟨hx.1.trans hy.1.symm, hx.2.trans hy.2.symm⟩
  · apply find_of_mem_unique hinv.sidAsc _ hr (by simp)
    intro x y hx hy hR
    simp only [beq_iff_eq] at hx hy
    omega

theorem createOrLoad_existing {j : Journal} (hinv : JInv j) {r : SessRow} (hr : r ∈ j.sessions) :
    createOrLoad j r.target r.sender = (j, .handle (handleOf r)) :=
  createOrLoad_found (sess_of_mem hinv hr).1

theorem counters_fresh {j : Journal} (hinv : JInv j) : (abs j).counters (abs j).nextId = none := by
  simp only [abs, Option.map_eq_none_iff, List.find?_eq_none]
  intro r hr
  have := hinv.sidLt r hr
  simp only [beq_iff_eq]; omega

theorem abs_insSession {j : Journal} {t s : String} (hinv : JInv j)
    (hno : j.sessions.find? (·.isPair t s) = none) :
    abs { j with sessions := j.sessions ++ [⟨j.nextSid, t, s, 0, 0⟩], nextSid := j.nextSid + 1 } =
      { abs j with
        ident := fun t' s' => if t' = t ∧ s' = s then some j.nextSid else (abs j).ident t' s'
        counters := fun id => if id = j.nextSid then some (0, 0) else (abs j).counters id
        nextId := j.nextSid + 1 } := by
  refine JSpec.ext ?_ ?_ rfl rfl
  · funext t' s'
    show ((j.sessions ++ [_]).find? _).map _ = if t' = t ∧ s' = s then _ else _
    by_cases hts : t' = t ∧ s' = s
    · rw [if_pos hts, hts.1, hts.2, find?_snoc_pos hno ((isPair_iff ..).mpr ⟨rfl, rfl⟩)]; rfl
    · rw [if_neg hts, find?_snoc_neg]; · rfl
      exact Bool.eq_false_iff.mpr fun h => hts ⟨((isPair_iff ..).mp h).1.symm, ((isPair_iff ..).mp h).2.symm⟩
  · funext id
    show ((j.sessions ++ [_]).find? _).map _ = if id = j.nextSid then _ else _
    by_cases hid : id = j.nextSid
    · have hfresh := counters_fresh hinv
      simp only [abs, Option.map_eq_none_iff] at hfresh
      rw [if_pos hid, hid, find?_snoc_pos hfresh (by simp)]; rfl
    · rw [if_neg hid, find?_snoc_neg]; · rfl
      exact beq_eq_false_iff_ne.mpr fun h => hid h.symm

theorem abs_insMsg {j : Journal} {seq key : Int} {dir : Dir} (msg : Bytes)
    (hno : j.msgs.any (·.isKey seq key dir) = false) :
    abs { j with msgs := j.msgs ++ [⟨maxRowid j.msgs + 1, seq, key, dir, msg⟩] } =
      { abs j with
        store := fun k d m => if k = key ∧ d = dir ∧ m = seq then some msg else (abs j).store k d m } := by
  refine JSpec.ext rfl rfl ?_ rfl
  funext k d m
  show ((j.msgs ++ [_]).find? _).map _ = if k = key ∧ d = dir ∧ m = seq then _ else _
  by_cases hkm : k = key ∧ d = dir ∧ m = seq
  · obtain ⟨rfl, rfl, rfl⟩ := hkm
    rw [if_pos ⟨rfl, rfl, rfl⟩, find?_snoc_pos (List.find?_eq_none.mpr (List.any_eq_false.mp hno))
      ((isKey_iff ..).mpr ⟨rfl, rfl, rfl⟩)]; rfl
  · rw [if_neg hkm, find?_snoc_neg]; · rfl
    exact Bool.eq_false_iff.mpr fun h =>
      hkm ⟨((isKey_iff ..).mp h).2.1.symm, ((isKey_iff ..).mp h).2.2.symm, ((isKey_iff ..).mp h).1.symm⟩

/-- an UPDATE that gives the counter columns of session `key` the values `c` and keeps ids and CompIDs -/
theorem abs_updSessions (j : Journal) (key : Int) (g : SessRow → SessRow) (c : Int × Int → Int × Int)
    (hg : ∀ r, (g r).sid = r.sid ∧ (g r).target = r.target ∧ (g r).sender = r.sender ∧
      ((g r).outSeq, (g r).inSeq) = c (r.outSeq, r.inSeq)) :
    abs { j with sessions := j.sessions.map fun r => if (r.sid : Int) = key then g r else r } =
      { abs j with counters := fun id =>
          if (id : Int) = key then ((abs j).counters id).map c else (abs j).counters id } := by
  have hf : ∀ r : SessRow, (if (r.sid : Int) = key then g r else r).sid = r.sid ∧
      (if (r.sid : Int) = key then g r else r).target = r.target ∧
      (if (r.sid : Int) = key then g r else r).sender = r.sender := by
    intro r; split
    · exact ⟨(hg r).1, (hg r).2.1, (hg r).2.2.1⟩
    · exact ⟨rfl, rfl, rfl⟩
  refine JSpec.ext ?_ ?_ rfl rfl
  · funext t s
    simp only [abs]
    rw [find?_map_of_comp _ (by intro r; simp only [SessRow.isPair, (hf r).2.1, (hf r).2.2]), Option.map_map]
    congr 1
    funext r
    exact (hf r).1
  · funext id
    simp only [abs]
    rw [find?_map_of_comp _ (by intro r; simp only [(hf r).1])]
    cases hfd : j.sessions.find? (·.sid == id) with
    | none => simp
    | some r =>
      have hsid : r.sid = id := by simpa using List.find?_some hfd
      subst hsid
      by_cases hk : (r.sid : Int) = key <;> simp [hk, (hg r).2.2.2]

theorem abs_updCounter (j : Journal) (dir : Dir) (n key : Int) :
    abs (updCounter j dir n key) =
      { abs j with counters := fun id =>
          if (id : Int) = key then ((abs j).counters id).map (setCounter dir n) else (abs j).counters id } :=
  abs_updSessions j key _ _ (by intro r; cases dir <;> simp [setCounter])

theorem abs_updBoth (j : Journal) (i o key : Int) :
    abs (updBoth j i o key) =
      { abs j with counters := fun id =>
          if (id : Int) = key then ((abs j).counters id).map (fun _ => (o, i)) else (abs j).counters id } :=
  abs_updSessions j key _ _ (by intro r; simp)

theorem abs_delFrom (j : Journal) (key seq : Int) (dir : Dir) :
    abs (delFrom j key seq dir) =
      { abs j with
        store := fun k d m => if k = key ∧ d = dir ∧ seq ≤ m then none else (abs j).store k d m } := by
  refine JSpec.ext rfl rfl ?_ rfl
  funext k d m
  simp only [abs, delFrom]
  rw [List.find?_filter]
  by_cases hc : k = key ∧ d = dir ∧ seq ≤ m
  · -- a row with this key is one of the deleted ones
    rw [if_pos hc, Option.map_eq_none_iff, List.find?_eq_none]
    intro a _ ha
    obtain ⟨hkeep, hkey⟩ := of_decide_eq_true ha
    obtain ⟨rfl, rfl, rfl⟩ := (isKey_iff ..).mp hkey
    simp [hc.1, hc.2.1, hc.2.2] at hkeep
  · -- a row with this key is kept
    rw [if_neg hc]
    congr 2
    funext a
    by_cases hk : a.isKey m k d = true
    · obtain ⟨rfl, rfl, rfl⟩ := (isKey_iff ..).mp hk
      have hkeep : (a.sid == key && decide (seq ≤ a.seq) && a.dir == dir) = false :=
        Bool.eq_false_iff.mpr fun h => by
          simp only [Bool.and_eq_true, beq_iff_eq, decide_eq_true_eq] at h
          exact hc ⟨h.1.1, h.2, h.1.2⟩
      simp [hkeep, hk]
    · simp [hk]

theorem createOrLoad_refines {j : Journal} (hinv : JInv j) (t s : String) :
    (abs (createOrLoad j t s).1, (createOrLoad j t s).2) = (abs j).createOrLoad t s := by
  cases hf : j.sessions.find? (·.isPair t s) with
  | none =>
    have hid : (abs j).ident t s = none := by simp [abs, hf]
    rw [createOrLoad_new hf, abs_insSession hinv hf]
    simp only [JSpec.createOrLoad, hid]
    rfl
  | some r =>
    obtain ⟨ht, hs⟩ := (isPair_iff r t s).mp (List.find?_some (p := fun x : SessRow => x.isPair t s) hf)
    have hid : (abs j).ident t s = some r.sid := by simp [abs, hf]
    have hc : (abs j).counters r.sid = some (r.outSeq, r.inSeq) := by
      simp only [abs, (sess_of_mem hinv (List.mem_of_find?_eq_some hf)).2, Option.map_some]
    rw [createOrLoad_found hf]
    simp only [JSpec.createOrLoad, hid, hc, handleOf, ht, hs]

theorem persist_refines {j : Journal} (_hinv : JInv j) (msg : Bytes) (h : Handle) (dir : Dir) :
    (abs (persist j msg h dir).1, (persist j msg h dir).2) = (abs j).persist msg h dir := by
  cases hn : findSeqNo msg with
  | none => simp only [persist_noSeq hn, JSpec.persist, hn]
  | some n =>
    simp only [persist_eq hn, JSpec.persist, hn]
    split
    · rfl
    · cases hany : j.msgs.any (·.isKey n h.key dir) with
      | true =>
        obtain ⟨m, hs⟩ := Option.ne_none_iff_exists'.mp (fun hs => by rw [store_none_iff, hany] at hs; cases hs)
        simp only [hs, if_true]
      | false =>
        simp only [store_none_iff.mpr hany, Bool.false_eq_true, if_false]
        rw [abs_updCounter, abs_insMsg msg hany]

theorem setNext_refines (j : Journal) (key o i : Int) :
    abs (delFrom (delFrom (updBoth j (i - 1) (o - 1) key) key i .inbound) key o .outbound) =
      (abs j).setNext key o i := by
  rw [abs_delFrom, abs_delFrom, abs_updBoth]
  refine JSpec.ext rfl rfl ?_ rfl
  funext k d m
  cases d <;> simp only [JSpec.setNext, Dir.pick, reduceCtorEq, false_and, and_false, if_false, true_and] <;> rfl

theorem setSeqNum_refines {j : Journal} (h : Handle) (out inn : Option Int) :
    abs (setSeqNum j h out inn).1 = (abs j).setSeqNum h out inn := by
  rcases setSeqNum_cases j h out inn with ⟨h1, he⟩ | ⟨h1, h2, he⟩ | ⟨h1, h2, h3, he⟩ |
    ⟨h1, h2, f1, f2, f3, f4, f5, he⟩ <;> rw [he, JSpec.setSeqNum]
  · simp [h1]
  · simp [h1, h2]
  · simp [h1, h2, h3]
  · simp only [h1, h2, f1, f2, f3, f4, f5, Bool.or_self, Bool.and_self, Bool.not_true, Bool.false_eq_true, if_false]
    exact setNext_refines j h.key (effOut h out) (effIn h inn)

/-- a call leaves the abstract journal alone (every reading call, every call that raises, a load) or
does one of three writes: a new session, a stored message with its counter, a renumbering -/
theorem JSpec.applyOp_cases (S : JSpec) (op : Op) :
    S.applyOp op = S ∨
    (∃ t s, op = .createOrLoad t s ∧ S.applyOp op =
      { S with
        ident := fun t' s' => if t' = t ∧ s' = s then some S.nextId else S.ident t' s'
        counters := fun id => if id = S.nextId then some (0, 0) else S.counters id
        nextId := S.nextId + 1 }) ∨
    (∃ msg h dir n, op = .persist msg h dir ∧ S.store h.key dir n = none ∧ S.applyOp op =
      { S with
        store := fun k d m => if k = h.key ∧ d = dir ∧ m = n then some msg else S.store k d m
        counters := fun id =>
          if (id : Int) = h.key then (S.counters id).map (setCounter dir n) else S.counters id }) ∨
    (∃ h out inn, op = .setSeqNum h out inn ∧
      S.applyOp op = S.setNext h.key (effOut h out) (effIn h inn)) := by
  cases op with
  | createOrLoad t s =>
    cases hid : S.ident t s with
    | none => exact .inr (.inl ⟨t, s, rfl, by simp only [JSpec.applyOp, JSpec.createOrLoad, hid]⟩)
    | some id => exact .inl (by simp only [JSpec.applyOp, JSpec.createOrLoad, hid]; split <;> rfl)
  | persist msg h dir =>
    cases hn : findSeqNo msg with
    | none => exact .inl (by simp only [JSpec.applyOp, JSpec.persist, hn])
    | some n =>
      cases hst : S.store h.key dir n with
      | some _ => exact .inl (by simp only [JSpec.applyOp, JSpec.persist, hn, hst]; split <;> rfl)
      | none =>
        cases hf : !(fits n && fits h.key) with
        | true => exact .inl (by simp only [JSpec.applyOp, JSpec.persist, hn, hf, if_true])
        | false => exact .inr (.inr (.inl ⟨msg, h, dir, n, rfl, hst, by
            simp only [JSpec.applyOp, JSpec.persist, hn, hf, hst, Bool.false_eq_true, if_false]⟩))
  | setSeqNum h out inn =>
    by_cases hsame : S.setSeqNum h out inn = S
    · exact .inl hsame
    · refine .inr (.inr (.inr ⟨h, out, inn, rfl, ?_⟩))
      unfold JSpec.setSeqNum at hsame
      simp only [JSpec.applyOp, JSpec.setSeqNum]
      split at hsame
      · exact absurd rfl hsame
      · split at hsame
        · exact absurd rfl hsame
        · rename_i h1 h2; rw [if_neg h1, if_neg h2]
  | sessions => exact .inl rfl
  | recover => exact .inl rfl
  | recoverMsg => exact .inl rfl
  | getAll => exact .inl rfl

theorem applyOp_refines {j : Journal} (hinv : JInv j) (op : Op) :
    abs (applyOp j op).1 = (abs j).applyOp op := by
  cases op with
  | createOrLoad t s => exact congrArg Prod.fst (createOrLoad_refines hinv t s)
  | persist msg h dir => exact congrArg Prod.fst (persist_refines hinv msg h dir)
  | setSeqNum h out inn => exact setSeqNum_refines h out inn
  | sessions => rfl
  | recover => rfl
  | recoverMsg => rfl
  | getAll => rfl

theorem applyOps_refines {j : Journal} (hinv : JInv j) (ops : List Op) :
    abs (applyOps j ops) = (abs j).applyOps ops := by
  induction ops generalizing j with
  | nil => rfl
  | cons op ops ih =>
    show abs (applyOps (applyOp j op).1 ops) = ((abs j).applyOp op).applyOps ops
    rw [ih (applyOp_inv op hinv), applyOp_refines hinv op]

end AsyncFix.Model.Journal
