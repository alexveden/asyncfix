import AsyncFix.Lemmas.LinkSyncA
import AsyncFix.Lemmas.LinkSafe

/-!
Link family, coverage invariant: `SyncInv'` (= `SyncInv` + "the Logon in flight is not numbered below what the
acceptor expects") holds initially and is preserved by every step of the abstract model, given `SafeInv` of the
pre-state; it implies `SyncInv`; on a quiescent state the counters agree (`sync_counters`).

`SyncInv'` is read as four phases (`SyncInv'.phases`; built by `SyncInv'.of_down`, `.of_logon`, `.of_reply`, `.of_up`): both
down | Logon in flight | Logon reply in flight (`P2`) | both logged on (`P3`, symmetric in the two sides).  Transitions: `step_p1` (the acceptor
takes the Logon), `step_p2` (the initiator takes the reply), `recv3` (a delivery while both are logged on),
`push3` / `push_p2` (an application send).
-/
namespace AsyncFix.Link

open AsyncFix.Session

/-- `SyncInv` plus: while the initiator's Logon is in flight (phase 1) its number `I.o - 1` is not below
what the acceptor expects.  (Without it the acceptor could answer the Logon with "MsgSeqNum too low".) -/
def SyncInv' (l : ALink) : Prop :=
  SyncInv l ∧ (l.i.st = .sent → l.a.st = .conn → l.a.e < l.i.o)

instance (l : ALink) : Decidable (SyncInv' l) := by unfold SyncInv'; infer_instance

theorem syncInv'_congr {l l' : ALink} (hi : l'.i = l.i) (ha : l'.a = l.a) (hA : l'.toA = l.toA)
    (hI : l'.toI = l.toI) (h : SyncInv' l) : SyncInv' l' := by
  unfold SyncInv' SyncInv Phase at *
  rw [hi, ha, hA, hI]
  exact h

/-- both logged on: `Q` = frames in flight `X → Y`, `Q'` = frames in flight `Y → X` -/
structure P3 (X Y : AConn) (Q Q' : List AFrame) : Prop where
  estX : est X.st
  estY : est Y.st
  cleanQ : ∀ f ∈ Q, clean f
  cleanQ' : ∀ f ∈ Q', clean f
  fwd : DirSync X Y Q Q'
  bwd : DirSync Y X Q' Q
  armedX : X.st = .awaiting → 0 < X.w
  armedY : Y.st = .awaiting → 0 < Y.w

theorem P3.symm {X Y : AConn} {Q Q' : List AFrame} (h : P3 X Y Q Q') : P3 Y X Q' Q :=
  ⟨h.estY, h.estX, h.cleanQ', h.cleanQ, h.bwd, h.fwd, h.armedY, h.armedX⟩

/-- `Y` takes the head of the queue `X → Y` -/
theorem recv3 {X Y : AConn} {f : AFrame} {rest Q' : List AFrame} (h : P3 X Y (f :: rest) Q') (he1 : 1 ≤ X.e)
    (hk : keysOK Y.o Y.out) (hmax : Y.o ≤ sysMaxsize + 1) :
    P3 X (arecv Y f).c rest (Q' ++ (arecv Y f).wr) ∧ (arecv Y f).c.ini = Y.ini ∧ (arecv Y f).c.o = Y.o ∧
      (arecv Y f).wr = (served Y f).2 := by
  obtain ⟨hX, hY, hQ, hQ', d1, d2, wX, wY⟩ := h
  obtain ⟨hh1, hh2, hh3⟩ := dirsync_head d1 hY
  obtain ⟨hc, hwr⟩ := arecv_est Y f hY hh1 (hQ f (by simp)) hh2 hh3
  obtain ⟨t1, s2, s3⟩ := dirsync_serve d2 hX he1 hk hmax
  have hq : requests (Q' ++ (served Y f).2) = requests Q' := by
    rw [requests_append, requests_data s2, List.append_nil]
  obtain ⟨r1, r2, r3, r4, r5⟩ := dirsync_recv d1 hY s3 hq wY (arecv Y f).c hc
  refine ⟨?_, r5, r4, hwr⟩
  rw [hwr]
  refine ⟨hX, r2, fun g hg => hQ g (by simp [hg]), ?_, r1, t1 _ r4, wX, r3⟩
  intro g hg
  rcases List.mem_append.1 hg with hg | hg
  · exact hQ' g hg
  · exact (s2 g hg).clean

/-- `X` sends a fresh application frame -/
theorem push3 {X Y : AConn} {Q Q' : List AFrame} (h : P3 X Y Q Q') (p : Payload) (pd : Bool) :
    P3 (X.push (.app p pd)).1 Y (Q ++ [(X.push (.app p pd)).2]) Q' := by
  obtain ⟨hX, hY, hQ, hQ', d1, d2, wX, wY⟩ := h
  refine ⟨hX, hY, ?_, hQ', ?_, ?_, wX, wY⟩
  · intro g hg
    rcases List.mem_append.1 hg with hg | hg
    · exact hQ g hg
    · simp only [List.mem_singleton] at hg
      subst hg
      simp [clean, AConn.push]
  · exact dirsync_push_fwd d1 rfl rfl
  · exact dirsync_push_bwd d2 rfl rfl rfl rfl

/-- Logon reply in flight: the initiator still waits, the acceptor is logged on and its reply heads `toI` -/
structure P2 (i a : AConn) (toI : List AFrame) : Prop where
  sent : i.st = .sent
  estA : est a.st
  iniI : i.ini = true
  iniA : a.ini = false
  reply : ∃ f rest, toI = f :: rest ∧ f.kind = .logon ∧ i.e ≤ f.seq ∧ (∀ g ∈ rest, clean g) ∧ chain f.seq toI a.o
  fwd : DirSync i a [] toI
  armedA : a.st = .awaiting → 0 < a.w

theorem arecv_conn_logon_eq (a : AConn) (n : Int) (ha : a.st = .conn) (he : n = a.e) :
    arecv a ⟨n, .logon⟩ =
      { c := { a with ini := false, o := a.o + 1, out := a.out ++ [(a.o, none)], st := .active, e := a.e + 1 },
        wr := [⟨a.o, .logon⟩] } := by
  simp [arecv, ha, he, AConn.push, AKind.entry]

theorem arecv_conn_logon_gt (a : AConn) (n : Int) (ha : a.st = .conn) (hgt : a.e < n) :
    arecv a ⟨n, .logon⟩ =
      { c := { a with
                ini := false, o := a.o + 1 + 1, out := a.out ++ [(a.o, none)] ++ [(a.o + 1, none)],
                st := .awaiting, w := n },
        wr := [⟨a.o, .logon⟩, ⟨a.o + 1, .resend a.e⟩] } := by
  have h1 : ¬ n < a.e := by omega
  have h2 : ¬ n = a.e := by omega
  simp [arecv, ha, h1, h2, AConn.push, AConn.askResend, AKind.entry]

theorem arecv_sent_logon_eq (i : AConn) (n : Int) (h1 : i.st = .sent) (h3 : i.ini = true) (he : n = i.e) :
    arecv i ⟨n, .logon⟩ = { c := { i with st := .active, e := i.e + 1 } } := by
  simp [arecv, h1, h3, he]

theorem arecv_sent_logon_gt (i : AConn) (n : Int) (h1 : i.st = .sent) (h3 : i.ini = true) (hgt : i.e < n) :
    arecv i ⟨n, .logon⟩ =
      { c := { i with st := .awaiting, w := n, o := i.o + 1, out := i.out ++ [(i.o, none)] },
        wr := [⟨i.o, .resend i.e⟩] } := by
  have h4 : ¬ n < i.e := by omega
  have h2 : ¬ n = i.e := by omega
  simp [arecv, h1, h3, h4, h2, AConn.push, AConn.askResend, AKind.entry]

/-- the acceptor (`conn`) takes the initiator's Logon, numbered `I.o - 1 ≥ A.e` -/
theorem step_p1 {i a : AConn} (hi : i.st = .sent) (ha : a.st = .conn) (hini : i.ini = true) (hlt : a.e < i.o)
    (he1 : 1 ≤ a.e) (hs2 : i.e ≤ a.o) :
    P2 i (arecv a ⟨i.o - 1, .logon⟩).c (arecv a ⟨i.o - 1, .logon⟩).wr ∧
      (arecv a ⟨i.o - 1, .logon⟩).c.o ≤ a.o + 2 := by
  by_cases he : i.o - 1 = a.e
  · rw [arecv_conn_logon_eq a _ ha he]
    refine ⟨⟨hi, Or.inl rfl, hini, rfl, ⟨_, _, rfl, rfl, hs2, by simp, ⟨rfl, ?_, rfl⟩⟩, ?_, by simp⟩,
      by show a.o + 1 ≤ a.o + 2; omega⟩
    · show a.o < a.o + 1
      omega
    · exact .of_active rfl (show a.e + 1 = i.o by omega) rfl
  · rw [arecv_conn_logon_gt a _ ha (by omega)]
    refine ⟨⟨hi, Or.inr rfl, hini, rfl, ⟨_, _, rfl, rfl, hs2, by simp [clean], ⟨rfl, ?_, rfl, ?_, rfl⟩⟩, ?_, ?_⟩,
      by show a.o + 1 + 1 ≤ a.o + 2; omega⟩
    · show a.o < a.o + 1
      omega
    · show a.o + 1 < a.o + 1 + 1
      omega
    · exact .of_asking rfl (show a.e ≤ i.o - 1 by omega) (show i.o - 1 < i.o by omega) rfl rfl
    · intro _
      show 0 < i.o - 1
      omega

/-- the acceptor sends a fresh application frame behind its Logon reply -/
theorem push_p2 {i a : AConn} {toI : List AFrame} (h : P2 i a toI) (p : Payload) (pd : Bool) :
    P2 i (a.push (.app p pd)).1 (toI ++ [(a.push (.app p pd)).2]) := by
  obtain ⟨f, rest, rfl, hk, hle, hcl, hch⟩ := h.reply
  refine ⟨h.sent, h.estA, h.iniI, h.iniA, ⟨f, rest ++ [(a.push (.app p pd)).2], rfl, hk, hle, ?_, ?_⟩, ?_, h.armedA⟩
  · intro g hg
    rcases List.mem_append.1 hg with hg | hg
    · exact hcl g hg
    · simp only [List.mem_singleton] at hg
      subst hg
      simp [clean, AConn.push]
  · exact chain_snoc (Q := f :: rest) ⟨a.o, .app p pd⟩ hch rfl (by show a.o < a.o + 1; omega)
  · exact dirsync_push_bwd (Q := f :: rest) h.fwd rfl rfl rfl rfl

/-- the initiator (`sent`) takes the Logon reply -/
theorem step_p2 {i a : AConn} {f : AFrame} {rest : List AFrame} (h : P2 i a (f :: rest)) (he1 : 1 ≤ i.e) :
    P3 (arecv i f).c a (arecv i f).wr rest ∧ (arecv i f).c.ini = true ∧ (arecv i f).c.o ≤ i.o + 1 := by
  obtain ⟨f', rest', heq, hk, hle, hcl, hch⟩ := h.reply
  obtain ⟨rfl, rfl⟩ := List.cons.inj heq
  obtain ⟨n, k⟩ := f
  simp only at hk hle
  subst hk
  obtain ⟨_, _, hch⟩ := hch
  simp only [AFrame.next] at hch
  have hr : requests (⟨n, .logon⟩ :: rest) = requests rest := by simp [requests_cons, resendB]
  have hfwd : DirSync i a [] rest := h.fwd.congr rfl rfl rfl rfl hr.symm
  by_cases he : n = i.e
  · rw [arecv_sent_logon_eq i n h.sent h.iniI he]
    refine ⟨⟨Or.inl rfl, h.estA, by simp, hcl, ?_, ?_, by simp, h.armedA⟩, h.iniI, by show i.o ≤ i.o + 1; omega⟩
    · exact hfwd.congr rfl rfl rfl rfl rfl
    · exact .of_active rfl (show chain (i.e + 1) rest a.o by rw [← he]; exact hch) rfl
  · have hgt : i.e < n := by omega
    have hno := chain_le hch
    rw [arecv_sent_logon_gt i n h.sent h.iniI hgt]
    have hq : resendB ⟨i.o, .resend i.e⟩ = some i.e := rfl
    refine ⟨⟨Or.inr rfl, h.estA, ?_, hcl, ?_, ?_, ?_, h.armedA⟩, h.iniI, Int.le_refl _⟩
    · intro g hg
      simp only [List.mem_singleton] at hg
      subst hg
      simp [clean]
    · have := dirsync_push_fwd (X' := { i with st := .awaiting, w := n, o := i.o + 1, out := i.out ++ [(i.o, none)] }) (k := .resend i.e) hfwd rfl rfl
      simpa using this
    · exact .of_asking rfl hle (show n < a.o by omega) (dropWhile_chain_above hch (show i.e < n + 1 by omega)) rfl
    · intro _
      show 0 < n
      omega

theorem SyncInv'.of_down {l : ALink} (hi : l.i.st = .disc) (ha : l.a.st = .disc) (hA : l.toA = []) (hI : l.toI = []) :
    SyncInv' l := by
  refine ⟨⟨Or.inl ⟨hi, ha, hA, hI⟩, by simp [hA, hI], by simp [hi], by simp [ha]⟩, by simp [hi]⟩

theorem SyncInv'.of_logon {l : ALink} (hi : l.i.st = .sent) (ha : l.a.st = .conn) (hini : l.i.ini = true) (hI : l.toI = [])
    (hA : l.toA = [⟨l.i.o - 1, .logon⟩]) (hlt : l.a.e < l.i.o) : SyncInv' l := by
  refine ⟨⟨Or.inr (Or.inl ⟨hi, ha, hini, hI, hA⟩), by simp [hA, hI, isLogout], by simp [hi], by simp [ha]⟩,
    fun _ _ => hlt⟩

theorem SyncInv'.of_reply {l : ALink} (h : P2 l.i l.a l.toI) (hA : l.toA = []) : SyncInv' l := by
  obtain ⟨f, rest, heq, hk, hle, hcl, hch⟩ := h.reply
  refine ⟨⟨Or.inr (Or.inr (Or.inl ⟨h.sent, h.estA, h.iniI, h.iniA, hA, ?_, ?_, ?_⟩)), ?_, by simp [h.sent], h.armedA⟩, ?_⟩
  · rw [heq]
    exact ⟨hk, hle, all_not_logon.2 fun g hg => (hcl g hg).1⟩
  · rw [heq] at hch ⊢
    exact hch
  · rw [hA]; exact h.fwd
  · rw [hA, heq, List.nil_append, all_not_logout]
    intro g hg
    rcases List.mem_cons.1 hg with rfl | hg
    · simp [hk]
    · exact (hcl g hg).2
  · intro _ hc
    rcases h.estA with h | h <;> simp [h] at hc

theorem SyncInv'.of_up {l : ALink} (h : P3 l.i l.a l.toA l.toI) (hi : l.i.ini = true) (ha : l.a.ini = false) :
    SyncInv' l := by
  refine ⟨⟨Or.inr (Or.inr (Or.inr ⟨h.estX, h.estY, hi, ha, ?_, h.fwd, h.bwd⟩)), ?_, h.armedX, h.armedY⟩, ?_⟩
  · rw [all_not_logon]
    intro g hg
    rcases List.mem_append.1 hg with hg | hg
    · exact (h.cleanQ g hg).1
    · exact (h.cleanQ' g hg).1
  · rw [all_not_logout]
    intro g hg
    rcases List.mem_append.1 hg with hg | hg
    · exact (h.cleanQ g hg).2
    · exact (h.cleanQ' g hg).2
  · intro hc
    rcases h.estX with h | h <;> simp [h] at hc

theorem SyncInv'.phases {l : ALink} (h : SyncInv' l) :
    (l.i.st = .disc ∧ l.a.st = .disc ∧ l.toA = [] ∧ l.toI = []) ∨
    (l.i.st = .sent ∧ l.a.st = .conn ∧ l.i.ini = true ∧ l.toI = [] ∧ l.toA = [⟨l.i.o - 1, .logon⟩] ∧
      l.a.e < l.i.o) ∨
    (P2 l.i l.a l.toI ∧ l.toA = []) ∨
    (P3 l.i l.a l.toA l.toI ∧ l.i.ini = true ∧ l.a.ini = false) := by
  obtain ⟨⟨hp, hlo, wI, wA⟩, hlt⟩ := h
  rw [all_not_logout] at hlo
  rcases hp with p0 | ⟨h1, h2, h3, h4, h5⟩ | ⟨h1, h2, h3, h4, h5, h6, h7, h8⟩ | ⟨h1, h2, h3, h4, h5, h6, h7⟩
  · exact Or.inl p0
  · exact Or.inr (Or.inl ⟨h1, h2, h3, h4, h5, hlt h1 h2⟩)
  · refine Or.inr (Or.inr (Or.inl ⟨⟨h1, h2, h3, h4, ?_, h5 ▸ h8, wA⟩, h5⟩))
    cases hI : l.toI with
    | nil => simp [hI] at h6
    | cons f rest =>
      rw [hI] at h6 h7
      obtain ⟨g1, g2, g3⟩ := h6
      rw [all_not_logon] at g3
      refine ⟨f, rest, rfl, g1, g2, fun g hg => ⟨g3 g hg, hlo g ?_⟩, h7⟩
      simp [hI, hg]
  · rw [all_not_logon] at h5
    refine Or.inr (Or.inr (Or.inr ⟨⟨h1, h2, ?_, ?_, h6, h7, wI, wA⟩, h3, h4⟩))
    · exact fun g hg => ⟨h5 g (by simp [hg]), hlo g (by simp [hg])⟩
    · exact fun g hg => ⟨h5 g (by simp [hg]), hlo g (by simp [hg])⟩

theorem syncInv'_init :
    SyncInv' { i := ⟨.disc, true, 1, 1, 0, []⟩, a := ⟨.disc, false, 1, 1, 0, []⟩ } :=
  SyncInv'.of_down rfl rfl rfl rfl

theorem step_break (l : ALink) : SyncInv' (astep l .breakConn) :=
  SyncInv'.of_down (eof_st _) (eof_st _) rfl rfl

theorem step_reconnect (l : ALink) (hs : SafeInv l) (h : SyncInv' l) : SyncInv' (astep l .reconnect) := by
  by_cases hd : l.i.st = .disc ∧ l.a.st = .disc
  · rw [astep_reconnect hd.1 hd.2]
    refine SyncInv'.of_logon rfl rfl rfl rfl ?_ ?_
    · show [(⟨l.i.o, .logon⟩ : AFrame)] = [⟨l.i.o + 1 - 1, .logon⟩]
      rw [Int.add_sub_cancel]
    · show l.a.e < l.i.o + 1
      have := hs.1.s2
      omega
  · rw [astep_reconnect_no hd]; exact h

theorem step_appSend (l : ALink) (s : Side) (p : Payload) (ok : Bool) (h : SyncInv' l) :
    SyncInv' (astep l (.appSend s p ok)) := by
  by_cases hc : ((l.conn s).canSend && ok) = true
  · have hcs : (l.conn s).canSend = true := (Bool.and_eq_true .. ▸ hc).1
    rw [astep_appSend_ok p hc]
    cases s with
    | I =>
      simp only [ALink.conn] at hcs
      rcases h.phases with ⟨h1, _⟩ | ⟨h1, _, h3, _⟩ | ⟨h2, _⟩ | ⟨h3, hi, ha⟩
      · simp [AConn.canSend, h1] at hcs
      · simp [AConn.canSend, h1, h3] at hcs
      · simp [AConn.canSend, h2.sent, h2.iniI] at hcs
      · exact SyncInv'.of_up (push3 h3 p false) hi ha
    | A =>
      simp only [ALink.conn] at hcs
      rcases h.phases with ⟨_, h1, _⟩ | ⟨_, h1, _⟩ | ⟨h2, hA⟩ | ⟨h3, hi, ha⟩
      · simp [AConn.canSend, h1] at hcs
      · simp [AConn.canSend, h1] at hcs
      · exact SyncInv'.of_reply (push_p2 h2 p false) hA
      · exact SyncInv'.of_up (push3 h3.symm p false).symm hi ha
  · rw [astep_appSend_no p hc]; exact h

/-- Logon in flight → Logon reply in flight: the acceptor takes the Logon and allocates at most two numbers -/
theorem deliver_p1 {l : ALink} (hi : l.i.st = .sent) (ha : l.a.st = .conn) (hini : l.i.ini = true) (hI : l.toI = [])
    (hA : l.toA = [⟨l.i.o - 1, .logon⟩]) (hlt : l.a.e < l.i.o) (hs : SafeInv l) :
    P2 (astep l (.deliverNext .A)).i (astep l (.deliverNext .A)).a (astep l (.deliverNext .A)).toI ∧
    (astep l (.deliverNext .A)).toA = [] ∧ (astep l (.deliverNext .A)).i = l.i ∧
    (astep l (.deliverNext .A)).a.o ≤ l.a.o + 2 := by
  rw [astep_deliver (s := .A) hA (by simp [ALink.conn, ha])]
  obtain ⟨p2, ho⟩ := step_p1 hi ha hini hlt hs.1.e1 hs.2.s2
  refine ⟨?_, ?_, rfl, ho⟩
  · show P2 l.i _ (l.toI ++ _)
    rw [hI]; exact p2
  · show l.toA.tail = []
    rw [hA]; rfl

/-- Logon reply in flight → both logged on: the initiator takes the reply and allocates at most one number -/
theorem deliver_p2 {l : ALink} {f : AFrame} {rest : List AFrame} (h : P2 l.i l.a l.toI) (hA : l.toA = [])
    (hq : l.toI = f :: rest) (he1 : 1 ≤ l.i.e) :
    P3 (astep l (.deliverNext .I)).i (astep l (.deliverNext .I)).a (astep l (.deliverNext .I)).toA
      (astep l (.deliverNext .I)).toI ∧
    (astep l (.deliverNext .I)).i.ini = true ∧ (astep l (.deliverNext .I)).a = l.a ∧
    (astep l (.deliverNext .I)).i.o ≤ l.i.o + 1 := by
  rw [astep_deliver (s := .I) hq (by simp [ALink.conn, h.1])]
  rw [hq] at h
  obtain ⟨p3, hini, ho⟩ := step_p2 h he1
  refine ⟨?_, hini, rfl, ho⟩
  show P3 _ l.a (l.toA ++ _) l.toI.tail
  rw [hA, hq]; exact p3

theorem step_deliver (l : ALink) (s : Side) (hs : SafeInv l) (h : SyncInv' l) (hb : Bounded l) :
    SyncInv' (astep l (.deliverNext s)) := by
  cases hq : l.queueTo s with
  | nil => rw [astep_deliver_nil hq]; exact h
  | cons f rest =>
    rcases h.phases with ⟨_, _, hA, hI⟩ | ⟨h1, h2, h3, hI, hA, hlt⟩ | ⟨h2, hA⟩ | ⟨h3, hi, ha⟩
    · cases s <;> simp [ALink.queueTo, hA, hI] at hq
    · cases s with
      | I => simp [ALink.queueTo, hI] at hq
      | A =>
        obtain ⟨p2, hA', _, _⟩ := deliver_p1 h1 h2 h3 hI hA hlt hs
        exact SyncInv'.of_reply p2 hA'
    · cases s with
      | A => simp [ALink.queueTo, hA] at hq
      | I =>
        obtain ⟨p3, hini, ea, _⟩ := deliver_p2 h2 hA hq hs.2.e1
        exact SyncInv'.of_up p3 hini (by rw [ea]; exact h2.iniA)
    · cases s with
      | A =>
        have hq' : l.toA = f :: rest := hq
        rw [astep_deliver hq h3.estY.ne_disc]
        rw [hq'] at h3
        obtain ⟨r1, r2, _⟩ := recv3 h3 hs.2.e1 hs.2.keys hb.2
        refine SyncInv'.of_up ?_ hi (r2.trans ha)
        show P3 l.i _ l.toA.tail (l.toI ++ _)
        rw [hq']; exact r1
      | I =>
        have hq' : l.toI = f :: rest := hq
        rw [astep_deliver hq h3.estX.ne_disc]
        have h3' := h3.symm
        rw [hq'] at h3'
        obtain ⟨r1, r2, _⟩ := recv3 h3' hs.1.e1 hs.1.keys hb.1
        refine SyncInv'.of_up ?_ (r2.trans hi) ha
        show P3 _ l.a (l.toA ++ _) l.toI.tail
        rw [hq']; exact r1.symm

/-- `SyncInv'` is inductive relative to `SafeInv` (of the pre-state) -/
theorem syncInv'_step (l : ALink) (ev : AEv) (hs : SafeInv l) (h : SyncInv' l) (hb : Bounded l) :
    SyncInv' (astep l ev) := by
  cases ev with
  | appSend s p ok => exact step_appSend l s p ok h
  | deliverNext s => exact step_deliver l s hs h hb
  | breakConn => exact step_break l
  | reconnect => exact step_reconnect l hs h

/-- G1 with empty queues: the property's conclusion on the counters -/
theorem sync_counters (l : ALink) (h : SyncInv l) (hq : l.quiescent = true) :
    l.a.e = l.i.o ∧ l.i.e = l.a.o := by
  simp only [ALink.quiescent, Bool.and_eq_true, decide_eq_true_eq, List.isEmpty_iff] at hq
  obtain ⟨⟨⟨hi, ha⟩, hA⟩, hI⟩ := hq
  rcases h.1 with ⟨h1, _⟩ | ⟨h1, _⟩ | ⟨h1, _⟩ | ⟨_, _, _, _, _, d1, d2⟩
  · simp [hi] at h1
  · simp [hi] at h1
  · simp [hi] at h1
  · have c1 := (d1.1 ha).1
    have c2 := (d2.1 hi).1
    rw [hA] at c1
    rw [hI] at c2
    exact ⟨c1, c2⟩

theorem syncInv_init : SyncInv { i := ⟨.disc, true, 1, 1, 0, []⟩, a := ⟨.disc, false, 1, 1, 0, []⟩ } :=
  syncInv'_init.1

/-- `SyncInv` as stated in `Model/LinkInv.lean` is NOT inductive, even relative to `SafeInv` of both states and
`Bounded`: phase (1) allows `A.e = I.o` (the Logon in flight is numbered `I.o - 1 < A.e`), and then the acceptor
answers the Logon with a Logout ("MsgSeqNum too low").  `SyncInv'` excludes the state by `A.e < I.o`. -/
theorem syncInv_not_inductive :
    ∃ (l : ALink) (ev : AEv), SafeInv l ∧ SyncInv l ∧ SafeInv (astep l ev) ∧ Bounded (astep l ev) ∧
      ¬ SyncInv (astep l ev) :=
  ⟨{ i := ⟨.sent, true, 1, 2, 0, [(1, none)]⟩, a := ⟨.conn, false, 2, 1, 0, []⟩, toA := [⟨1, .logon⟩],
     wireI := [⟨1, .logon⟩] }, .deliverNext .A, by decide⟩

end AsyncFix.Link
