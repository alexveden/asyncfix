import AsyncFix.Lemmas.SessionWatchdogInbound

/-!
C12, inbound frames numbered TOO HIGH (a sequence gap) on a logged-on connection.  They are not accepted (no
`_finalize_message`, no receive-time stamp) but they are dispatched: a Heartbeat still answers the outstanding
TestRequest, a TestRequest is still answered; outside RESENDREQ_AWAITING they make the connection ask for a
resend.
-/
namespace AsyncFix.Session.Watchdog

open AsyncFix.Generated AsyncFix.Generated.ConnEnum

/-- integrity-valid frame of a routine type carrying a number ABOVE the expected one -/
structure GapFrame (c : Conn) (m : Msg) : Prop where
  begin : m.get? tBeginString = some Proto.beginString
  sender : m.get? tSenderCompID = some c.sess.target
  target : m.get? tTargetCompID = some c.sess.sender
  seq : ∃ n, (m.get? tMsgSeqNum).bind pyInt = some n ∧ c.sess.nextIn < n
  pos : 0 < c.sess.nextIn
  routine : Routine m
  rightId : m.mtype = mHeartbeat → ∀ tid v, c.testReqId = some tid → m.get? tTestReqID = some v →
    (pyInt v).getD 0 = tid

theorem GapFrame.seqv {c : Conn} {m : Msg} (h : GapFrame c m) :
    ∃ v n, m.get? tMsgSeqNum = some v ∧ pyInt v = some n ∧ c.sess.nextIn < n := by
  obtain ⟨n, hn, hlt⟩ := h.seq
  obtain ⟨v, hv, hp⟩ := bind_pyInt hn
  exact ⟨v, n, hv, hp, hlt⟩

theorem GapFrame.addressed {c : Conn} {m : Msg} {v : String} {n : Int} (h : GapFrame c m)
    (hv : m.get? tMsgSeqNum = some v) (hn : pyInt v = some n) : Addressed c m n :=
  ⟨h.begin, h.sender, h.target, v, hv, hn⟩

/-- the ResendRequest `_check_seqnum_gaps` sends -/
def resendReqMsg (c : Conn) : Msg := Msg.mk' mResendRequest [(tBeginSeqNo, pyStr c.sess.nextIn), (tEndSeqNo, "0")]

/-- How `_check_seqnum_gaps` can end for a number above the expectation (`Session.checkSeqnumGaps_high`): a resend
was awaited already, or the ResendRequest has been sent and is awaited now, or the send raised.  In every case
the connection is still logged on, `lastTime` and the outstanding id are untouched, nothing is torn down. -/
theorem gap_check (env : Env) (h : Int) (c : Conn) (n : Int) (ho : On h c) (hlt : c.sess.nextIn < n)
    (hpos : 0 < c.sess.nextIn) :
    ∃ rg c2 e2, checkSeqnumGaps env n c = ⟨rg, c2, e2⟩ ∧ rg ≠ .ok true ∧
      On h c2 ∧ c2.lastTime = c.lastTime ∧ c2.testReqId = c.testReqId ∧
      (c2.state = c.state ∨ c2.state = st_RESENDREQ_AWAITING) ∧ NoDisc e2 ∧
      Writes (·.mtype = mResendRequest) e2 := by
  have hck : checkSeqnumGaps env n c =
      if c.state = st_RESENDREQ_AWAITING then ⟨.ok false, c, []⟩
      else (sendMsg env (resendReqMsg c) >>= fun _ => stateSet st_RESENDREQ_AWAITING >>= fun _ => pure false)
        { c with maxResend := n } := checkSeqnumGaps_high env c n hlt
  by_cases hw : c.state = st_RESENDREQ_AWAITING
  · rw [if_pos hw] at hck
    exact ⟨_, c, [], hck, (fun e => nomatch e), ho, rfl, rfl, Or.inl rfl, NoDisc.nil, Writes.nil⟩
  · rw [if_neg hw] at hck
    obtain ⟨k, nd, w⟩ := sendMsg_on_quiet env { c with maxResend := n } (resendReqMsg c) ho.state ho.sock
      (resendRequestMsg_plain _) rfl
    have w' : Writes (·.mtype = mResendRequest) (sendMsg env (resendReqMsg c) { c with maxResend := n }).eff :=
      w.mono fun f hf => by rw [hf]; rfl
    rcases hx : sendMsg env (resendReqMsg c) { c with maxResend := n } with ⟨ex | _, c1, e1⟩
    · rw [hx] at k nd w'
      rw [M.bind_err hx] at hck
      exact ⟨_, c1, e1, hck, (fun e => nomatch e),
        ⟨by rw [k.state]; exact ho.state, by rw [k.sock]; exact ho.sock, by rw [k.hb]; exact ho.hb,
          fun hq => absurd (hq.symm.trans k.state).symm hw⟩,
        k.lastTime, k.testReqId, Or.inl k.state, nd, w'⟩
    · rw [hx] at k nd w'
      rw [M.bind_pre hx] at hck
      refine ⟨.ok false, { c1 with state := st_RESENDREQ_AWAITING, wasActive := c1.wasActive || false },
        e1 ++ [.onState st_RESENDREQ_AWAITING], hck.trans ?_, (fun e => nomatch e),
        ⟨by show 8 ≤ st_RESENDREQ_AWAITING; decide, k.sock.trans ho.sock, k.hb.trans ho.hb, fun _ => ?_⟩,
        k.lastTime, k.testReqId, Or.inr rfl, nd.append (NoDisc.cons rfl NoDisc.nil),
        w'.append (Writes.of_nil rfl)⟩
      · simp [stateSet_bind, setState, st_RESENDREQ_AWAITING, st_ACTIVE]
      · show 0 < c1.maxResend
        rw [k.maxResend]
        show 0 < n
        omega

/-- a too-high routine frame whose gap check went through (resend awaited already, or the ResendRequest was
sent), leaving `c2`: the frame is dispatched on `c2` and not finalised (`Session.recv_above`) -/
theorem recv_gap_via (sr : Msg → Bool) (env : Env) (h : Int) {c c2 : Conn} {m : Msg} {v : String} {n : Int}
    {e2 : List Effect} (hg : GapFrame c m) (hv : m.get? tMsgSeqNum = some v) (hn : pyInt v = some n)
    (hlt : c.sess.nextIn < n) (h8 : 8 ≤ c.state) (ho2 : On h c2) (ht2 : c2.testReqId = c.testReqId)
    (hck : checkSeqnumGaps env n c = ⟨.ok false, c2, e2⟩) :
    ∃ c3 e3, recv sr env c m = (c3, e2 ++ e3) ∧ Dispatched h c2 m c3 e3 := by
  obtain ⟨c3, e3, hd, d⟩ :=
    dispatch_tolerable env sr h c2 m false n ho2 (Or.inl hg.routine) (by rw [ht2]; exact hg.rightId)
  obtain ⟨r, e0, hx, rfl⟩ := of_swallow hd
  refine ⟨c3, _, ?_, d⟩
  rw [recv_above (on_gt7 h8) (hg.addressed hv hn) hlt hg.routine.headable.1 hg.routine.headable.2.1
    hg.routine.headable.2.2 hck (fun e => nomatch e), hx]

/-- a too-high routine frame on a logged-on connection, all in all: still logged on – the state may become
RESENDREQ_AWAITING –, `lastTime` untouched (the frame is NOT accepted), the outstanding id cleared at most (by
an echo), nothing torn down; frames written: a ResendRequest and / or the Heartbeat answering a
TestRequest. -/
theorem recv_gap_on (sr : Msg → Bool) (env : Env) (h : Int) (c : Conn) (m : Msg) (ho : On h c)
    (hg : GapFrame c m) :
    On h (recv sr env c m).1 ∧ (recv sr env c m).1.lastTime = c.lastTime ∧
    ((recv sr env c m).1.testReqId = c.testReqId ∨ (recv sr env c m).1.testReqId = none) ∧
    NoDisc (recv sr env c m).2 ∧
    (∀ f ∈ writes (recv sr env c m).2, f.mtype = mHeartbeat ∨ f.mtype = mResendRequest) ∧
    ((recv sr env c m).1.state = c.state ∨ (recv sr env c m).1.state = st_RESENDREQ_AWAITING) := by
  obtain ⟨v, n, hv, hn, hlt⟩ := hg.seqv
  obtain ⟨rg, c2, e2, hck, hf, ho2, hl2, ht2, hs2, hn2, hw2⟩ := gap_check env h c n ho hlt hg.pos
  cases rg with
  | error ex =>
    -- the ResendRequest could not be sent: logged, the frame is dropped
    rw [recv_above (on_gt7 ho.state) (hg.addressed hv hn) hlt hg.routine.headable.1 hg.routine.headable.2.1
      hg.routine.headable.2.2 hck hf]
    exact ⟨ho2, hl2, Or.inl ht2, hn2.append (NoDisc.cons rfl NoDisc.nil),
      (hw2.mono fun _ => Or.inr).append (Writes.of_nil rfl), hs2⟩
  | ok b =>
    cases b with
    | true => exact absurd rfl hf
    | false =>
      obtain ⟨c3, e3, hrecv, d⟩ := recv_gap_via sr env h hg hv hn hlt ho.state ho2 ht2 hck
      rw [hrecv]
      refine ⟨d.on, d.lastTime.trans hl2, ?_, hn2.append d.noDisc,
        (hw2.mono fun _ => Or.inr).append (d.writes.mono fun _ => Or.inl), ?_⟩
      · rw [d.testReqId, ht2]; split
        · exact Or.inr rfl
        · exact Or.inl rfl
      · rw [d.sameState hg.routine]; exact hs2

end AsyncFix.Session.Watchdog
