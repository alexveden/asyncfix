import AsyncFix.Lemmas.SessionInMsg
import AsyncFix.Lemmas.SessionResendRel

/-!
C04: RESENDREQ_AWAITING – no inbound frame makes the receiver write another ResendRequest while it lasts, and
what state it can end in.  Three relations: `KeepState` (what `send_msg` and the replay loop do: state and
watermark kept) implies both `AW` (started awaiting: still awaiting or disconnected; `keep_aw`) and `StayAw`
(started awaiting: still awaiting, watermark kept; `keep_stay`).  They depend on the start state and on the type
of the message sent, so they are walked (`rel_tac`), not read off a footprint.
-/
namespace AsyncFix.Session
open AsyncFix.Generated AsyncFix.Generated.ConnEnum

def noRR (e : List Effect) : Prop := ∀ f, Effect.write f ∈ e → f.mtype ≠ mResendRequest

theorem noRR_nil : noRR [] := by simp [noRR]
theorem noRR_append {a b : List Effect} (ha : noRR a) (hb : noRR b) : noRR (a ++ b) := by
  intro f hf
  rcases List.mem_append.1 hf with h | h
  · exact ha f h
  · exact hb f h

theorem noRR_caught {α} (r : Except Exc α) : noRR (caught r) := by
  cases r <;> simp [caught, noRR]

/-- `send_msg` and everything built from it inside `_process_resend`: state and watermark stay (unless
the state was NETWORK_CONN_ESTABLISHED), no ResendRequest is written -/
def KeepState : StepRel where
  R c c' e := noRR e ∧
    (c.state ≠ st_NETWORK_CONN_ESTABLISHED → c'.state = c.state ∧ c'.maxResend = c.maxResend)
  refl c := ⟨noRR_nil, fun _ => ⟨rfl, rfl⟩⟩
  trans := by
    intro a b c e1 e2 h1 h2
    refine ⟨noRR_append h1.1 h2.1, fun ha => ?_⟩
    obtain ⟨hb, hm⟩ := h1.2 ha
    obtain ⟨hc, hm2⟩ := h2.2 (hb ▸ ha)
    exact ⟨hc.trans hb, hm2.trans hm⟩

/-- past the state checks `send_msg` touches the outbound counter and the journal only, and the frame it
writes has the type of the message -/
theorem sendCore_keep (env : Env) (m : Msg) (hm : m.mtype ≠ mResendRequest) : M.Rel KeepState.R (sendCore env m) := by
  unfold sendCore encodeSeq
  rel_tac [M.Rel.modify, M.Rel.emit]
  all_goals simp [KeepState, noRR]
  exact hm

/-- the state checks change the connection in one case only: the first send on a fresh transport -/
theorem sendMsg_keep (env : Env) (m : Msg) (hm : m.mtype ≠ mResendRequest) : M.Rel KeepState.R (sendMsg env m) := by
  refine .bind ⟨fun c => ?_⟩ fun _ => sendCore_keep env m hm
  rw [sendGate_apply]
  repeat' split
  all_goals first
    | exact KeepState.refl c
    | exact ⟨by simp [noRR], fun h => absurd ‹c.state = st_NETWORK_CONN_ESTABLISHED› h⟩

/-- a computation started in RESENDREQ_AWAITING stays there (watermark kept or cleared: `disconnect` clears it
before anything else) or ends disconnected; started disconnected it stays disconnected; it never writes a
ResendRequest -/
def AW : StepRel where
  R c c' e := noRR e ∧
    (c.state = st_RESENDREQ_AWAITING →
      (c'.state = st_RESENDREQ_AWAITING ∧ (c'.maxResend = c.maxResend ∨ c'.maxResend = 0)) ∨
      c'.state ≤ st_DISCONNECTED_BROKEN_CONN) ∧
    (c.state ≤ st_DISCONNECTED_BROKEN_CONN → c'.state ≤ st_DISCONNECTED_BROKEN_CONN)
  refl c := ⟨noRR_nil, fun h => Or.inl ⟨h, Or.inl rfl⟩, fun h => h⟩
  trans := by
    intro a b c e1 e2 h1 h2
    refine ⟨noRR_append h1.1 h2.1, fun ha => ?_, fun ha => h2.2.2 (h1.2.2 ha)⟩
    rcases h1.2.1 ha with ⟨hb, hm⟩ | hb
    · rcases h2.2.1 hb with ⟨hc, hm2⟩ | hc
      · refine Or.inl ⟨hc, ?_⟩
        rcases hm2 with h | h
        · rcases hm with h' | h'
          · exact Or.inl (h.trans h')
          · exact Or.inr (h.trans h')
        · exact Or.inr h
      · exact Or.inr hc
    · exact Or.inr (h2.2.2 hb)

theorem AW.same {c c' : Conn} {e : List Effect} (hs : c'.state = c.state)
    (hm : c'.maxResend = c.maxResend ∨ c'.maxResend = 0) (he : noRR e) : AW.R c c' e :=
  ⟨he, fun h => Or.inl ⟨hs ▸ h, hm⟩, fun h => hs ▸ h⟩

theorem keep_aw {α} {x : M α} (h : M.Rel KeepState.R x) : M.Rel AW.R x :=
  h.mono fun c c' e h => by
    refine ⟨h.1, fun h12 => ?_, fun h3 => ?_⟩
    · obtain ⟨hs, hm⟩ := h.2 (by rw [h12]; decide)
      exact Or.inl ⟨hs ▸ h12, Or.inl hm⟩
    · obtain ⟨hs, -⟩ := h.2 fun h6 => absurd (h6 ▸ h3) (by decide)
      exact hs ▸ h3

/-- by the handler equations: from a connected state `disconnect` ends with its tail, in the disconnected state
`d`, whatever the Logout did before -/
theorem disconnect_aw (env : Env) (d : Nat) (l : Option String) : M.Rel AW.R (disconnect env d l) := by
  constructor
  intro c
  by_cases h : c.state ≤ st_DISCONNECTED_BROKEN_CONN
  · rw [disconnect_of_disc env d l c h]; exact AW.refl c
  have h := Nat.lt_of_not_le h
  by_cases hd : d ≤ st_DISCONNECTED_BROKEN_CONN
  case neg => rw [disconnect_bad_target env d l c h hd]; exact AW.refl c
  have tail : ∀ (c1 : Conn) (e1 : List Effect), noRR e1 → AW.R c (discTail c1 d).1 (e1 ++ (discTail c1 d).2) :=
    fun c1 e1 h1 => ⟨noRR_append h1 (by cases c1.sock <;> simp [discTail, noRR]), fun _ => Or.inr hd, fun _ => hd⟩
  cases l with
  | none => rw [disconnect_none env h hd]; exact tail _ [] noRR_nil
  | some text =>
    have hk := (sendMsg_keep env (logoutMsg text) (by rw [logoutMsg_mtype]; decide)).out (discReset c)
    rcases hs : sendMsg env (logoutMsg text) (discReset c) with ⟨r, c1, e1⟩
    rw [hs] at hk
    rw [disconnect_logout env h hd hs]
    exact tail c1 (e1 ++ caught r) (noRR_append hk.1 (noRR_caught r))

/-- a journal row as the encoder wrote it: the message type is the value of its MsgType(35) field
(true of every frame `buildFrame` makes; rows only enter the journal through `send_msg`) -/
def rowWf (r : Msg) : Prop := r.get? tMsgType = some r.mtype

theorem replay_ne {row rp : Msg} {ty : String} (hwf : rowWf row)
    (hty : row.get tMsgType = .ok ty) (hc : ConnEnum.noReplay.contains ty = false)
    (hrp : prepareReplay row = .ok rp) : rp.mtype ≠ mResendRequest := by
  rw [prepareReplay_mtype hrp]
  unfold rowWf at hwf
  unfold Msg.get at hty
  rw [hwf] at hty
  cases hty
  intro h
  rw [h] at hc
  revert hc
  decide

theorem gapFillMsg_ne (a b : Int) : (gapFillMsg a b).mtype ≠ mResendRequest := by
  show mSequenceReset ≠ mResendRequest; decide

theorem setSeqNum_out_keep (o : Option Int) : M.Rel KeepState.R (setSeqNum o none) := by
  unfold setSeqNum
  cases o <;> dsimp only <;> rel_tac [M.Rel.modify]
  all_goals simp [KeepState, noRR_nil]

theorem persistOutboundRow_keep (n : Int) (row : Msg) : M.Rel KeepState.R (persistOutboundRow n row) := by
  unfold persistOutboundRow
  rel_tac [M.Rel.modify]
  all_goals simp [KeepState, noRR_nil]

theorem resendLoop_keep (env : Env) (sr : Msg → Bool) (endNo : Int) (rows : List Msg)
    (hwf : ∀ r ∈ rows, rowWf r) (gfb gfe : Int) : M.Rel KeepState.R (resendLoop env sr endNo rows gfb gfe) :=
  resendLoop_rel env sr endNo persistOutboundRow_keep (fun _ _ => sendMsg_keep env _ (gapFillMsg_ne _ _)) rows
    (fun row hr _ _ hty hc hrp => sendMsg_keep env _ (replay_ne (hwf row hr) hty hc hrp)) gfb gfe

/-- every outbound journal row is as the encoder wrote it -/
def journalWf (c : Conn) : Prop := ∀ p ∈ c.journal.out, rowWf p.2

theorem recoverOut_wf {c : Conn} (h : journalWf c) (b e : Int) : ∀ r ∈ c.journal.recoverOut b e, rowWf r := by
  intro r hr
  simp only [Journal.recoverOut, Rows.range, List.mem_map, List.mem_filter] at hr
  obtain ⟨p, ⟨hp, -⟩, rfl⟩ := hr
  exact h p hp

/-- started in RESENDREQ_AWAITING the computation ends there with the watermark kept, and writes no
ResendRequest -/
def StayAw : StepRel where
  R c c' e := c.state = st_RESENDREQ_AWAITING →
    noRR e ∧ c'.state = st_RESENDREQ_AWAITING ∧ c'.maxResend = c.maxResend
  refl c := fun h => ⟨noRR_nil, h, rfl⟩
  trans := by
    intro a b c e1 e2 h1 h2 ha
    obtain ⟨n1, s1, m1⟩ := h1 ha
    obtain ⟨n2, s2, m2⟩ := h2 s1
    exact ⟨noRR_append n1 n2, s2, m2.trans m1⟩

theorem keep_stay {α} {x : M α} (h : M.Rel KeepState.R x) : M.Rel StayAw.R x :=
  h.mono fun c _ _ h h12 => by
    obtain ⟨hs, hm⟩ := h.2 (by rw [h12]; decide)
    exact ⟨h.1, hs ▸ h12, hm⟩

/-- `if self._state != RESENDREQ_AWAITING: self._state_set(s)` -/
theorem unlessAwaiting_stay (s : Nat) :
    M.Rel StayAw.R (M.get >>= fun c => if c.state != st_RESENDREQ_AWAITING then stateSet s else pure ()) :=
  M.Rel.get_bind fun c h12 => by simp [h12, noRR_nil]

/-- by structure: every step keeps state and watermark, and the last one is guarded -/
theorem resendReplay_stay (env : Env) (sr : Msg → Bool) (rows : List Msg) (hwf : ∀ r ∈ rows, rowWf r)
    (cur b e : Int) : M.Rel StayAw.R (resendReplay env sr rows cur b e) := by
  unfold resendReplay
  refine .bind (keep_stay (setSeqNum_out_keep _)) fun _ =>
    .bind (keep_stay (resendLoop_keep env sr _ _ hwf _ _)) fun p => ?_
  obtain ⟨gfb, gfe⟩ := p
  -- the text after the optional trailing gap fill, once for both branches
  have tail : ∀ _ : Unit, M.Rel StayAw.R (do
      setSeqNum (some cur) none
      let c2 ← M.get
      if c2.state != st_RESENDREQ_AWAITING then stateSet st_ACTIVE else pure ()) :=
    fun _ => .bind (keep_stay (setSeqNum_out_keep _)) fun _ => unlessAwaiting_stay _
  refine .bind (.assert _) fun _ => ?_
  dsimp only
  split
  · exact .bind (keep_stay (sendMsg_keep env _ (gapFillMsg_ne _ _))) tail
  · exact tail ()

/-- on a connection that awaits a resend the guard of the ignored request is off -/
theorem resendServe_stay (env : Env) (sr : Msg → Bool) (c : Conn) (h12 : c.state = st_RESENDREQ_AWAITING)
    (hwf : journalWf c) (b e0 : Int) : M.Rel StayAw.R (resendServe env sr c b e0) := by
  unfold resendServe
  split
  · rw [h12]; exact .pure ()
  · exact resendReplay_stay env sr _ (recoverOut_wf hwf _ _) _ _ _

/-- `_process_resend` started in RESENDREQ_AWAITING: the guard in front is off too -/
theorem processResend_aw12 (env : Env) (sr : Msg → Bool) (m : Msg) (c : Conn)
    (h12 : c.state = st_RESENDREQ_AWAITING) (hwf : journalWf c) :
    Holds (processResend env sr m) c (fun _ c' e =>
      noRR e ∧ c'.state = st_RESENDREQ_AWAITING ∧ c'.maxResend = c.maxResend) := by
  rw [processResend_eq]
  unfold resendBody
  wp_simp
  simp only [h12, bne_self_eq_false, Bool.false_eq_true, false_implies, true_and, noRR_nil, and_self, implies_true,
    and_true]
  intros
  exact Holds.of_rel (resendServe_stay env sr c h12 hwf _ _) fun _ _ _ h => h h12

theorem processTestRequest_aw (env : Env) (m : Msg) : M.Rel AW.R (processTestRequest env m) := by
  unfold processTestRequest
  rel_tac [keep_aw (sendMsg_keep _ _ (by rw [mtype_mk']; decide))]

theorem processHeartbeat_aw (env : Env) (m : Msg) : M.Rel AW.R (processHeartbeat env m) := by
  unfold processHeartbeat
  rel_tac [disconnect_aw _ _ _, M.Rel.modify]
  exact AW.same rfl (Or.inl rfl) noRR_nil

theorem processDispatch_aw12 (env : Env) (sr : Msg → Bool) (m : Msg) (valid : Bool) (n : Int) (c : Conn)
    (h12 : c.state = st_RESENDREQ_AWAITING) (hwf : m.mtype = mResendRequest → journalWf c) :
    Holds (processDispatch env sr m valid n) c (fun _ c' e => AW.R c c' e) := by
  by_cases h2 : m.mtype = mResendRequest
  · rw [processDispatch_resend env sr h2]
    exact (processResend_aw12 env sr m c h12 (hwf h2)).mono fun _ c' e h =>
      AW.same (h.2.1.trans h12.symm) (Or.inl h.2.2) h.1
  by_cases h4 : m.mtype = mSequenceReset ∨ m.mtype = mLogon
  · rw [processDispatch_quiet env sr h4]; exact (M.Rel.pure ()).holds c
  by_cases h1 : m.mtype = mTestRequest
  · rw [processDispatch_testRequest env sr h1]; exact (processTestRequest_aw env m).holds c
  by_cases h0 : m.mtype = mHeartbeat
  · rw [processDispatch_heartbeat env sr h0]; exact (processHeartbeat_aw env m).holds c
  refine Holds.intro ?_
  rw [processDispatch_app env sr h2 (fun h => h4 (Or.inl h)) (fun h => h4 (Or.inr h)) h1 h0]
  exact AW.same rfl (Or.inl rfl) (by split <;> simp [noRR])

/-- `processHead` started in RESENDREQ_AWAITING on anything but a Logon: no ResendRequest; when the
dispatch is reached the state is still RESENDREQ_AWAITING, and – unless the frame is a SequenceReset –
nothing at all has happened yet -/
@[irreducible] def HeadAw (c : Conn) (m : Msg) : Post (Option (Bool × Int)) := fun r c1 e =>
  AW.R c c1 e ∧
  (∀ p, r = .ok (some p) → c1.state = st_RESENDREQ_AWAITING ∧ (m.mtype ≠ mSequenceReset → c1 = c))

/-- the sequence check does nothing on a closed connection and nothing while awaiting a resend -/
theorem headTail_silent (env : Env) (m : Msg) (c : Conn)
    (h : c.state ≤ st_DISCONNECTED_BROKEN_CONN ∨ c.state = st_RESENDREQ_AWAITING) :
    Holds (headTail env m) c (fun r c' e =>
      c' = c ∧ e = [] ∧ ∀ p, r = .ok (some p) → c.state = st_RESENDREQ_AWAITING) := by
  unfold headTail
  wp_simp
  refine ⟨fun _ => by simp, fun h3 => ⟨fun v _ => ⟨fun n _ => ?_, fun _ => by simp⟩, fun _ => by simp⟩⟩
  have h12 := h.resolve_left h3
  refine (checkSeqnumGaps_spec env n c).mono fun r c' e hs => ?_
  obtain ⟨rfl, rfl⟩ := hs.2 (Or.inr h12)
  cases r <;> simp [h12]

/-- nor does the gap check after a declined SequenceReset -/
theorem headSkip_silent (env : Env) (m : Msg) (c : Conn) (h12 : c.state = st_RESENDREQ_AWAITING) :
    Holds (headSkip env m) c (fun r c' e => c' = c ∧ e = [] ∧ ∀ p, r ≠ .ok (some p)) := by
  unfold headSkip
  wp_simp
  refine ⟨fun v _ => ⟨fun n _ => ?_, fun _ => by simp⟩, fun _ => by simp⟩
  refine (checkSeqnumGaps_spec env n c).mono fun r c' e hs => ?_
  obtain ⟨rfl, rfl⟩ := hs.2 (Or.inr h12)
  cases r <;> simp

/-- by class of message: the head of a plain frame is `headTail`, a Logout is evaluated, only a SequenceReset
composes two specifications -/
theorem processHead_aw12 (env : Env) (m : Msg) (c : Conn)
    (h12 : c.state = st_RESENDREQ_AWAITING) (hA : m.mtype ≠ mLogon) :
    Holds (processHead env m) c (HeadAw c m) := by
  have h8 : st_LOGON_INITIAL_RECV ≤ c.state := by rw [h12]; decide
  -- the sequence check from a connection that still awaits and that a SequenceReset at most has touched
  have tail : ∀ c1 : Conn, c1.state = st_RESENDREQ_AWAITING → c1.maxResend = c.maxResend →
      (m.mtype ≠ mSequenceReset → c1 = c) → Holds (headTail env m) c1 (HeadAw c m) := by
    intro c1 hs hm hc
    refine (headTail_silent env m c1 (Or.inr hs)).mono ?_
    rintro r c2 e2 ⟨rfl, rfl, -⟩
    unfold HeadAw
    exact ⟨AW.same (hs.trans h12.symm) (Or.inl hm) noRR_nil, fun _ _ => ⟨hs, hc⟩⟩
  refine Holds.of_eq (processHead_established env m c h8) ?_
  by_cases h4 : m.mtype = mSequenceReset
  · rw [headRest_seqreset h4]
    wp_simp
    refine Holds.of_spec (processSeqreset_spec m c) ?_ ?_
    · rintro ok c1 e1 ⟨rfl, hs, hm, -⟩
      cases ok
      · simp only [Bool.false_eq_true, false_implies, not_false_eq_true, true_implies, true_and, List.nil_append]
        refine (headSkip_silent env m c1 (hs.trans h12)).mono ?_
        rintro r c2 e2 ⟨rfl, rfl, hr⟩
        unfold HeadAw
        exact ⟨AW.same hs (Or.inl hm) noRR_nil, fun p hp => absurd hp (hr p)⟩
      · simp only [true_implies, not_true_eq_false, false_implies, and_true, List.nil_append]
        exact tail c1 (hs.trans h12) hm fun h => absurd h4 h
    · rintro ex c1 e1 ⟨rfl, hs, hm, -⟩
      unfold HeadAw
      exact ⟨AW.same hs (Or.inl hm) noRR_nil, fun p hp => nomatch hp⟩
  by_cases h5 : m.mtype = mLogout
  · -- evaluated: the connection is dropped, nothing is handed on
    have h3 : st_DISCONNECTED_BROKEN_CONN < c.state := by rw [h12]; decide
    refine Holds.intro ?_
    rw [← processHead_established env m c h8,
      processHead_logout (by rw [h12]; decide) h5 (processLogout_apply env h5 h3) (by rw [discTail_state]; split <;> decide)]
    unfold HeadAw
    refine ⟨⟨?_, fun _ => Or.inr (by rw [discTail_state]; split <;> decide), fun h => absurd h (Nat.not_le.mpr h3)⟩,
      fun p hp => nomatch hp⟩
    intro f hf
    cases hsock : c.sock <;> simp [discTail, discReset, hsock] at hf
  · rw [headRest_plain hA h4 h5]
    exact tail c h12 rfl fun _ => rfl

def AwaitOk (c c' : Conn) (e : List Effect) : Prop :=
  noRR e ∧
  (c'.state = st_RESENDREQ_AWAITING ∨ c'.state ≤ st_DISCONNECTED_BROKEN_CONN ∨
    (c'.state = st_ACTIVE ∧ c'.maxResend = 0 ∧ 0 < c.maxResend ∧ c.maxResend ≤ c'.sess.nextIn - 1))

theorem awaitOk_of_aw {c c' : Conn} {e : List Effect} (h12 : c.state = st_RESENDREQ_AWAITING)
    (h : AW.R c c' e) : AwaitOk c c' e := by
  refine ⟨h.1, ?_⟩
  rcases h.2.1 h12 with ⟨h, -⟩ | h
  · exact Or.inl h
  · exact Or.inr (Or.inl h)

theorem processMessage_aw12 (env : Env) (sr : Msg → Bool) (m : Msg) (c : Conn)
    (h12 : c.state = st_RESENDREQ_AWAITING) (hA : m.mtype ≠ mLogon)
    (hwf : m.mtype = mResendRequest → journalWf c) :
    Holds (processMessage env sr m) c (fun _ c' e => AwaitOk c c' e) := by
  refine processMessage_stages (fun _ => ⟨fun _ => awaitOk_of_aw h12 (AW.refl c), fun lo =>
    Holds.of_rel (disconnect_aw _ _ lo) fun _ _ _ => awaitOk_of_aw h12⟩) (processHead_aw12 env m c h12 hA) ?_ ?_
  · intro r c1 e1 hh _
    unfold HeadAw at hh
    exact awaitOk_of_aw h12 (AW.trans hh.1 (AW.same rfl (Or.inl rfl) (noRR_caught r)))
  · intro valid n c1 e1 hh
    unfold HeadAw at hh
    obtain ⟨haw1, hsome⟩ := hh
    obtain ⟨h1s, h1c⟩ := hsome _ rfl
    have hwf1 : m.mtype = mResendRequest → journalWf c1 := fun h2 => by
      rw [h1c (by rw [h2]; decide)]
      exact hwf h2
    refine (processDispatch_aw12 env sr m valid n c1 h1s hwf1).mono fun r2 c2 e2 haw2 => ?_
    have haw := AW.trans haw1 (AW.trans haw2 (AW.same rfl (Or.inl rfl) (noRR_caught r2)))
    split
    · refine (finalizeMessage_spec env m c2).mono ?_
      rintro r3 c3 e3 ⟨-, hnw, hk, hact, hsame⟩
      refine ⟨noRR_append haw.1 fun f hf => absurd hf (hnw f), ?_⟩
      by_cases h : c2.state = st_RESENDREQ_AWAITING ∧
          ∃ k, acceptedNum c2 m = some k ∧ 0 < k ∧ c2.maxResend ≤ k ∧ 0 < c2.maxResend
      · obtain ⟨hs3, hm3⟩ := hact h
        obtain ⟨hs2, k, hk', -, hle, hpos⟩ := h
        simp only [hk'] at hk
        rcases haw.2.1 h12 with ⟨-, hm | hm⟩ | h
        · exact Or.inr (Or.inr ⟨hs3, hm3, hm ▸ hpos, by rw [hk, Int.add_sub_cancel]; exact hm ▸ hle⟩)
        · omega
        · exact absurd (hs2 ▸ h) (by decide)
      · obtain ⟨hs, -⟩ := hsame h
        exact (haw.2.1 h12).elim (fun h => Or.inl (hs.trans h.1)) fun h => Or.inr (Or.inl (hs ▸ h))
    · exact awaitOk_of_aw h12 haw

end AsyncFix.Session
