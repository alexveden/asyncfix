import AsyncFix.Lemmas.SessionResendFrame

/-!
The replay / gap-fill loop of `_process_resend` in closed form.

On rows that carry their numbers and their header (`C06.RowOK`) the loop cannot fail, so its outcome is a function
of the rows: `sentRows` is what it writes and journals, `loopVars` its two variables afterwards.  `resendLoop_run`
is the induction over the monadic loop on the rows up to EndSeqNo (all it needs to keep is that every journal row
lies below `gap_fill_begin`); what a family wants to know of the reply it proves of `sentRows`, by induction over a
list (`mem_sentRows`, `copy_mem_sentRows`, `sentRows_keys`, `loopVars_le`).  The rows after EndSeqNo go back into
the journal unsent (`resendLoop_tail`).
-/
namespace AsyncFix.Session
open Msg AsyncFix.Generated AsyncFix.Generated.ConnEnum
open C06 (RowOK withOut withOut_out withOut_sess withOut_withOut)

/-- the loop passes over the row: session-level type, or `should_replay` declines -/
def skips (sr : Msg → Bool) (row : Msg) : Bool := ConnEnum.noReplay.contains row.mtype || !sr row

/-- the GapFill `[a, k)` under its number, if there is a gap -/
def gapRow (s : Session) (stamp : String) (a k : Int) : Rows :=
  if a < k then [(a, buildFrame s stamp (gapFillMsg a k) a)] else []

/-- the frames the loop writes for the rows `rs`, each journaled under its own number, from
`gap_fill_begin = gfb` -/
def sentRows (s : Session) (stamp : String) (sr : Msg → Bool) : Rows → Int → Rows
  | [], _ => []
  | (k, row) :: rest, gfb =>
    if skips sr row then sentRows s stamp sr rest gfb
    else gapRow s stamp gfb k ++ (k, buildFrame s stamp (replayMsg row) k) :: sentRows s stamp sr rest (k + 1)

/-- `(gap_fill_begin, gap_fill_end)` after the rows `rs` -/
def loopVars (sr : Msg → Bool) : Rows → Int → Int → Int × Int
  | [], gfb, gfe => (gfb, gfe)
  | (k, row) :: rest, gfb, gfe =>
    if skips sr row then loopVars sr rest gfb (k + 1) else loopVars sr rest (k + 1) gfe

section
variable {s : Session} {stamp : String} {sr : Msg → Bool} {k : Int} {row : Msg} {rest : Rows}

theorem sentRows_skip (h : skips sr row = true) (gfb : Int) :
    sentRows s stamp sr ((k, row) :: rest) gfb = sentRows s stamp sr rest gfb := by
  rw [sentRows, if_pos h]

theorem sentRows_replay (h : skips sr row = false) (gfb : Int) :
    sentRows s stamp sr ((k, row) :: rest) gfb =
      gapRow s stamp gfb k ++ [(k, buildFrame s stamp (replayMsg row) k)] ++ sentRows s stamp sr rest (k + 1) := by
  rw [sentRows, if_neg (by rw [h]; decide), List.append_assoc]; rfl

theorem loopVars_skip (h : skips sr row = true) (gfb gfe : Int) :
    loopVars sr ((k, row) :: rest) gfb gfe = loopVars sr rest gfb (k + 1) := by
  rw [loopVars, if_pos h]

theorem loopVars_replay (h : skips sr row = false) (gfb gfe : Int) :
    loopVars sr ((k, row) :: rest) gfb gfe = loopVars sr rest (k + 1) gfe := by
  rw [loopVars, if_neg (by rw [h]; decide)]

theorem mem_gapRow {a : Int} {p : Int × Msg} (h : p ∈ gapRow s stamp a k) :
    a < k ∧ p = (a, buildFrame s stamp (gapFillMsg a k) a) := by
  unfold gapRow at h
  split at h
  · exact ⟨‹_›, List.mem_singleton.mp h⟩
  · cases h

theorem allLt_gapRow {a : Int} {out : Rows} (hak : a ≤ k) (hlt : Rows.AllLt a out) :
    Rows.AllLt k (out ++ gapRow s stamp a k) := by
  unfold gapRow
  split
  · exact Rows.allLt_append_singleton (Rows.allLt_mono hak hlt) ‹_›
  · rw [List.append_nil]; exact Rows.allLt_mono hak hlt

theorem sorted_gapRow (a : Int) : Rows.Sorted (gapRow s stamp a k) := by
  unfold gapRow
  split
  · exact List.pairwise_singleton _ _
  · exact List.Pairwise.nil

end

/-- `if a < k: send_msg(GapFill a → k)` with the journal `l1 ++ l2`, `l1` below `a`, `l2` from `k` on (the rows
after EndSeqNo that were put back; none inside the loop) -/
theorem gapFill_run (env : Env) (c : Conn) (a k : Int) (l1 l2 : Rows)
    (hctx : LoopCtx env c) (hout : c.journal.out = l1 ++ l2)
    (hlt : Rows.AllLt a l1) (hge : ∀ p ∈ l2, k ≤ p.1) :
    ∃ os : Int,
      (if a < k then sendMsg env (gapFillMsg a k) else pure ()) c =
        ⟨.ok (), withOut c (l1 ++ gapRow c.sess env.stamp a k ++ l2) os,
          (gapRow c.sess env.stamp a k).map fun p => Effect.write p.2⟩ := by
  unfold gapRow
  by_cases h : a < k
  · refine ⟨a, ?_⟩
    rw [if_pos h, if_pos h]
    exact sendMsg_own env hctx.h6 hctx.h7 hctx.sock (Or.inl rfl)
      (show mSequenceReset ≠ mTestRequest by decide) rfl (pyInt_pyStr a)
      (C06.rowOK_gapFrame hctx.lsender hctx.ltarget hctx.lstamp a k).latin
      (hout ▸ Rows.insert_mid a _ l1 l2 hlt fun p hp => Int.lt_of_lt_of_le h (hge p hp))
  · refine ⟨c.journal.outSeq, ?_⟩
    rw [if_neg h, if_neg h, List.append_nil, ← hout]
    rfl

theorem resendLoop_cons (env : Env) (sr : Msg → Bool) (e : Int) {k : Int} {row : Msg} (hrow : RowOK k row)
    (rest : List Msg) (gfb gfe : Int) (c : Conn) :
    resendLoop env sr e (row :: rest) gfb gfe c =
      (if k > e then do
        persistOutboundRow k row
        resendLoop env sr e rest gfb gfe
      else if skips sr row then
        resendLoop env sr e rest gfb (k + 1)
      else do
        if gfb < k then sendMsg env (gapFillMsg gfb k) else pure ()
        let rp ← M.liftE (prepareReplay row)
        sendMsg env rp
        resendLoop env sr e rest (k + 1) gfe) c := by
  obtain ⟨v, hv, hk⟩ := hrow.seq
  have h34 : M.liftE (row.get tMsgSeqNum) c = ⟨.ok v, c, []⟩ := by rw [M.liftE_apply, get_of_get? hv]
  have h35 : M.liftE (row.get tMsgType) c = ⟨.ok row.mtype, c, []⟩ := by
    rw [M.liftE_apply, get_of_get? hrow.tag35]
  rw [resendLoop, M.bind_step h34, M.bind_step (M.int_apply_of hk c)]
  by_cases hke : k > e
  · rw [if_pos hke, if_pos hke]
  · rw [if_neg hke, if_neg hke, M.bind_step h35]; rfl

/-- a row after EndSeqNo goes back into the journal -/
theorem resendLoop_cons_tail (env : Env) (sr : Msg → Bool) {e k : Int} {row : Msg} (hrow : RowOK k row)
    (hk : e < k) (rest : List Msg) (gfb gfe : Int) {c : Conn} (hlt : Rows.AllLt k c.journal.out) :
    resendLoop env sr e (row :: rest) gfb gfe c =
      resendLoop env sr e rest gfb gfe (withOut c (c.journal.out ++ [(k, row)]) k) := by
  have hpers : persistOutboundRow k row c = ⟨.ok (), withOut c (c.journal.out ++ [(k, row)]) k, []⟩ := by
    simp [persistOutboundRow, M.bind_apply, Journal.persist, Rows.insert_append k row _ hlt, withOut]
  rw [resendLoop_cons env sr e hrow, if_pos hk, M.bind_step hpers]

theorem resendLoop_cons_skip (env : Env) (sr : Msg → Bool) {e k : Int} {row : Msg} (hrow : RowOK k row)
    (hk : k ≤ e) (hsk : skips sr row = true) (rest : List Msg) (gfb gfe : Int) (c : Conn) :
    resendLoop env sr e (row :: rest) gfb gfe c = resendLoop env sr e rest gfb (k + 1) c := by
  rw [resendLoop_cons env sr e hrow, if_neg (by omega), if_pos hsk]

/-- a replayed row: optional gap fill up to its number, then the copy under its own number; the rest of the
loop runs on the journal extended by what was written (`pre` is a variable given by `hpre`, so that the
right side mentions what was written twice without repeating the term). -/
theorem resendLoop_cons_replay (env : Env) (sr : Msg → Bool) {e k : Int} {row : Msg}
    (hrow : RowOK k row) (hk : k ≤ e) (hsk : skips sr row = false)
    (rest : List Msg) {gfb : Int} (gfe : Int) {c : Conn} (hctx : LoopCtx env c) (hgk : gfb ≤ k)
    (hlt : Rows.AllLt gfb c.journal.out) (pre : Rows)
    (hpre : pre = gapRow c.sess env.stamp gfb k ++ [(k, buildFrame c.sess env.stamp (replayMsg row) k)]) :
    resendLoop env sr e (row :: rest) gfb gfe c =
      Out.pre (pre.map fun p => Effect.write p.2)
        (resendLoop env sr e rest (k + 1) gfe (withOut c (c.journal.out ++ pre) k)) := by
  subst hpre
  have hnr : ConnEnum.noReplay.contains row.mtype = false := by
    unfold skips at hsk; exact (Bool.or_eq_false_iff.mp hsk).1
  obtain ⟨v, hv, hvk⟩ := hrow.seq
  obtain ⟨os1, e1⟩ :=
    gapFill_run env c gfb k c.journal.out [] hctx (List.append_nil _).symm hlt nofun
  rw [List.append_nil] at e1
  have hctx1 := hctx.withOut (c.journal.out ++ gapRow c.sess env.stamp gfb k) os1
  have hnot1 : row.mtype ≠ mTestRequest := by
    intro h; rw [h] at hnr; exact absurd hnr (by decide)
  have e2 := sendMsg_own env (m := replayMsg row) hctx1.h6 hctx1.h7 hctx1.sock
    (Or.inr (by rw [possDup_replayMsg]; rfl)) (by rw [mtype_replayMsg]; exact hnot1)
    (by rw [seq_replayMsg]; exact hv) hvk
    (C06.rowOK_replayFrame hctx.lsender hctx.ltarget hctx.lstamp hrow).latin
    (Rows.insert_append k _ _ (allLt_gapRow hgk hlt))
  rw [withOut_out, withOut_sess, withOut_withOut] at e2
  rw [resendLoop_cons env sr e hrow, if_neg (by omega), if_neg (by rw [hsk]; decide)]
  refine (congrFun (M.ite_seq _ _ _) c).trans ?_
  rw [M.bind_ok e1, M.bind_step (show M.liftE (prepareReplay row) _ = ⟨.ok (replayMsg row), _, []⟩ by
    rw [M.liftE_apply, prepareReplay_ok hrow.header]), M.bind_ok e2]
  simp only [Out.pre, List.map_append, List.map_cons, List.map_nil, List.append_assoc]

theorem resendLoop_tail (env : Env) (sr : Msg → Bool) (e : Int) :
    ∀ (rs2 : Rows) (gfb gfe : Int) (c : Conn),
      Rows.Sorted (c.journal.out ++ rs2) → (∀ p ∈ rs2, e < p.1 ∧ RowOK p.1 p.2) →
      ∃ os : Int,
        resendLoop env sr e (rs2.map (·.2)) gfb gfe c =
          ⟨.ok (gfb, gfe), withOut c (c.journal.out ++ rs2) os, []⟩ := by
  intro rs2
  induction rs2 with
  | nil => exact fun gfb gfe c _ _ => ⟨c.journal.outSeq, by rw [List.append_nil]; rfl⟩
  | cons p rest ih =>
    intro gfb gfe c hs hrows
    obtain ⟨hk, hrow⟩ := hrows p (by simp)
    have hlt : Rows.AllLt p.1 c.journal.out := fun q hq => Rows.sorted_append_lt hs q hq p (by simp)
    obtain ⟨os, e2⟩ := ih gfb gfe (withOut c (c.journal.out ++ [p]) p.1)
      (by simpa [List.append_assoc] using hs) (fun q hq => hrows q (by simp [hq]))
    refine ⟨os, ?_⟩
    rw [List.map_cons, resendLoop_cons_tail env sr hrow hk _ _ _ hlt, e2]
    simp only [withOut_withOut, withOut_out, List.append_assoc, List.cons_append, List.nil_append]

/-- **The loop, in closed form**, over rows `rs` up to EndSeqNo that carry their numbers, followed by
anything (`tl`: the rows after EndSeqNo) -/
theorem resendLoop_run (env : Env) (sr : Msg → Bool) (e : Int) (tl : List Msg) :
    ∀ (rs : Rows) (gfb gfe : Int) (c : Conn), LoopCtx env c → Rows.AllLt gfb c.journal.out →
      Rows.Sorted rs → (∀ p ∈ rs, gfb ≤ p.1 ∧ p.1 ≤ e ∧ RowOK p.1 p.2) →
      ∃ os : Int,
        resendLoop env sr e (rs.map (·.2) ++ tl) gfb gfe c =
          Out.pre ((sentRows c.sess env.stamp sr rs gfb).map fun p => Effect.write p.2)
            (resendLoop env sr e tl (loopVars sr rs gfb gfe).1 (loopVars sr rs gfb gfe).2
              (withOut c (c.journal.out ++ sentRows c.sess env.stamp sr rs gfb) os)) := by
  intro rs
  induction rs with
  | nil =>
    intro gfb gfe c _ _ _ _
    refine ⟨c.journal.outSeq, ?_⟩
    rw [sentRows, List.append_nil]
    rfl
  | cons p rest ih =>
    intro gfb gfe c hctx hlt hs hrows
    obtain ⟨k, row⟩ := p
    obtain ⟨hk1, hke, hrow⟩ := hrows (k, row) List.mem_cons_self
    have hs' := List.pairwise_cons.mp hs
    rw [List.map_cons, List.cons_append]
    cases hsk : skips sr row with
    | true =>
      rw [resendLoop_cons_skip env sr hrow hke hsk, sentRows_skip hsk, loopVars_skip hsk]
      exact ih gfb (k + 1) c hctx hlt hs'.2 fun q hq => hrows q (List.mem_cons_of_mem _ hq)
    | false =>
      rw [resendLoop_cons_replay env sr hrow hke hsk _ gfe hctx hk1 hlt _ rfl, sentRows_replay hsk,
        loopVars_replay hsk]
      obtain ⟨os, h⟩ := ih (k + 1) gfe
        (withOut c (c.journal.out ++ (gapRow c.sess env.stamp gfb k ++
          [(k, buildFrame c.sess env.stamp (replayMsg row) k)])) k) (hctx.withOut _ _)
        (by rw [withOut_out, ← List.append_assoc]; exact Rows.allLt_push (allLt_gapRow hk1 hlt)) hs'.2
        fun q hq => ⟨by have := hs'.1 q hq; simp only at this; omega, (hrows q (List.mem_cons_of_mem _ hq)).2⟩
      rw [withOut_sess, withOut_out, withOut_withOut, List.append_assoc] at h
      exact ⟨os, by rw [h, Out.pre_pre, ← List.map_append]⟩

theorem loopVars_le (sr : Msg → Bool) {m : Int} :
    ∀ (rs : Rows) (gfb gfe : Int), gfb ≤ m → (∀ p ∈ rs, p.1 < m) →
      (loopVars sr rs gfb gfe).1 ≤ m ∧ (gfe ≤ m → (loopVars sr rs gfb gfe).2 ≤ m) := by
  intro rs
  induction rs with
  | nil => exact fun _ _ hb _ => ⟨hb, id⟩
  | cons p rest ih =>
    intro gfb gfe hb hrs
    obtain ⟨k, row⟩ := p
    have hk : k < m := hrs (k, row) List.mem_cons_self
    have hrest := fun q hq => hrs q (List.mem_cons_of_mem _ hq)
    cases hsk : skips sr row with
    | true =>
      rw [loopVars_skip hsk]
      exact ⟨(ih _ _ hb hrest).1, fun _ => (ih _ _ hb hrest).2 (by omega)⟩
    | false => rw [loopVars_replay hsk]; exact ih _ _ (by omega) hrest

theorem mem_sentRows {s : Session} {stamp : String} {sr : Msg → Bool} :
    ∀ {rs : Rows} {gfb : Int} {p : Int × Msg}, p ∈ sentRows s stamp sr rs gfb →
      (∃ z, p = (p.1, buildFrame s stamp (gapFillMsg p.1 z) p.1)) ∨
      ∃ row, (p.1, row) ∈ rs ∧ skips sr row = false ∧ p = (p.1, buildFrame s stamp (replayMsg row) p.1) := by
  intro rs
  induction rs with
  | nil => intro _ _ h; cases h
  | cons q rest ih =>
    intro gfb p h
    obtain ⟨k, row⟩ := q
    cases hsk : skips sr row with
    | true =>
      rw [sentRows_skip hsk] at h
      exact (ih h).imp id fun ⟨r, h1, h2⟩ => ⟨r, List.mem_cons_of_mem _ h1, h2⟩
    | false =>
      rw [sentRows_replay hsk] at h
      rcases List.mem_append.mp h with h | h
      · rcases List.mem_append.mp h with h | h
        · obtain ⟨_, rfl⟩ := mem_gapRow h; exact Or.inl ⟨k, rfl⟩
        · obtain rfl := List.mem_singleton.mp h
          exact Or.inr ⟨row, List.mem_cons_self, hsk, rfl⟩
      · exact (ih h).imp id fun ⟨r, h1, h2⟩ => ⟨r, List.mem_cons_of_mem _ h1, h2⟩

theorem copy_mem_sentRows {s : Session} {stamp : String} {sr : Msg → Bool} {k : Int} {row : Msg}
    (hsk : skips sr row = false) :
    ∀ {rs : Rows} (gfb : Int), (k, row) ∈ rs →
      (k, buildFrame s stamp (replayMsg row) k) ∈ sentRows s stamp sr rs gfb := by
  intro rs
  induction rs with
  | nil => intro _ h; cases h
  | cons q rest ih =>
    intro gfb h
    obtain ⟨k', row'⟩ := q
    cases hsk' : skips sr row' with
    | true =>
      rw [sentRows_skip hsk']
      rcases List.mem_cons.mp h with h | h
      · cases h; rw [hsk] at hsk'; cases hsk'
      · exact ih _ h
    | false =>
      rw [sentRows_replay hsk']
      rcases List.mem_cons.mp h with h | h
      · cases h; exact List.mem_append_left _ (List.mem_append_right _ (List.mem_singleton.mpr rfl))
      · exact List.mem_append_right _ (ih _ h)

theorem sentRows_keys (s : Session) (stamp : String) (sr : Msg → Bool) :
    ∀ (rs : Rows) (gfb gfe : Int), Rows.Sorted rs → (∀ p ∈ rs, gfb ≤ p.1) →
      gfb ≤ (loopVars sr rs gfb gfe).1 ∧ Rows.Sorted (sentRows s stamp sr rs gfb) ∧
      ∀ p ∈ sentRows s stamp sr rs gfb, gfb ≤ p.1 ∧ p.1 < (loopVars sr rs gfb gfe).1 := by
  intro rs
  induction rs with
  | nil => exact fun gfb gfe _ _ => ⟨Int.le_refl _, List.Pairwise.nil, nofun⟩
  | cons q rest ih =>
    intro gfb gfe hs hge
    obtain ⟨k, row⟩ := q
    have hk : gfb ≤ k := hge (k, row) List.mem_cons_self
    have hs' := List.pairwise_cons.mp hs
    cases hsk : skips sr row with
    | true =>
      rw [sentRows_skip hsk, loopVars_skip hsk]
      exact ih gfb (k + 1) hs'.2 fun p hp => hge p (List.mem_cons_of_mem _ hp)
    | false =>
      rw [sentRows_replay hsk, loopVars_replay hsk]
      obtain ⟨h1, h2, h3⟩ := ih (k + 1) gfe hs'.2 fun p hp => hs'.1 p hp
      have hpre : ∀ p ∈ gapRow s stamp gfb k ++ [(k, buildFrame s stamp (replayMsg row) k)],
          gfb ≤ p.1 ∧ p.1 < k + 1 := by
        intro p hp
        rcases List.mem_append.mp hp with hp | hp
        · obtain ⟨h, rfl⟩ := mem_gapRow hp; exact ⟨Int.le_refl _, by simp only; omega⟩
        · obtain rfl := List.mem_singleton.mp hp; exact ⟨hk, by simp only; omega⟩
      refine ⟨by omega, Rows.sorted_append ?_ h2 fun p hp q hq => by
        have := (hpre p hp).2; have := (h3 q hq).1; omega, ?_⟩
      · refine Rows.sorted_append (sorted_gapRow gfb) (List.pairwise_singleton _ _) ?_
        · intro p hp q hq
          obtain ⟨h, rfl⟩ := mem_gapRow hp
          obtain rfl := List.mem_singleton.mp hq
          exact h
      · intro p hp
        rcases List.mem_append.mp hp with hp | hp
        · have := hpre p hp; omega
        · have := h3 p hp; omega

end AsyncFix.Session
