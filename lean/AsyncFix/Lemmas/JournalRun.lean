/-
C08: what one `execute()` / `commit()` does to the three things that matter for durability
(`committed`, `working`, `inTx`) – independent of the statement cache and the stale error code,
which only decide the *kind* of exception when binding overflows – and `RunSpec`, the claim about a
method program run for any number of calls, with its rules: one per shape a method (or the rest of
one) can have.
-/
import AsyncFix.Lemmas.JournalSpec
namespace AsyncFix.Model.Journal

def Stmt.bindOk (s : Stmt) : Bool := s.params.all fits

theorem findIdx_none_iff (s : Stmt) : s.params.findIdx? (fun n => !fits n) = none ↔ s.bindOk = true := by
  simp [Stmt.bindOk, List.findIdx?_eq_none_iff]

/-- a statement that reads, or creates a table IF NOT EXISTS, leaves the rows alone -/
def Stmt.readOnly : Stmt → Bool
  | .createMsgTable | .createSessTable | .selectSession .. | .selectSessions | .selectRange .. | .selectAll .. => true
  | _ => false

theorem run_readOnly {s : Stmt} (h : s.readOnly = true) (j : Journal) : (s.run j).1 = j := by
  cases s <;> simp [Stmt.readOnly] at h <;> simp [Stmt.run]
  all_goals (split <;> rfl)

theorem exec_inTx (c : Conn) (s : Stmt) : (c.exec s).1.inTx = (c.inTx || s.isDML) := by
  unfold Conn.exec
  split <;> rfl

theorem exec_bound (c : Conn) (s : Stmt) (hb : s.bindOk = true) :
    (c.exec s).2 = (s.run c.working).2 ∧ (c.exec s).1.working = (s.run c.working).1 ∧
    (c.exec s).1.committed = if (c.inTx || s.isDML) = true then c.committed else (s.run c.working).1 := by
  have hf := (findIdx_none_iff s).mpr hb
  unfold Conn.exec
  simp only [hf, and_self]

theorem exec_unbound (c : Conn) (s : Stmt) (hb : s.bindOk = false) :
    ((c.exec s).2 = .overflow ∨ (c.exec s).2 = .integrity) ∧ (c.exec s).1.working = c.working ∧
    (c.exec s).1.committed = c.committed := by
  cases hf : s.params.findIdx? (fun n => !fits n) with
  | none => rw [findIdx_none_iff, hb] at hf; cases hf
  | some i =>
    unfold Conn.exec
    simp only [hf, and_self, and_true]
    split <;> simp

theorem commit_spec (c : Conn) :
    c.commit.working = c.working ∧ c.commit.committed = (if c.inTx = true then c.working else c.committed) ∧
    c.commit.inTx = false := by
  unfold Conn.commit
  cases h : c.inTx <;> simp [h]

theorem rollback_spec (c : Conn) (hin : c.inTx = true) :
    c.rollback.working = c.committed ∧ c.rollback.committed = c.committed ∧ c.rollback.inTx = false := by
  unfold Conn.rollback
  simp [hin]

theorem Conn.Clean.working_eq {c : Conn} (h : c.Clean) : c.working = c.committed := h

theorem Conn.Clean.committed_eq {c : Conn} (h : c.Clean) : c.committed = c.working := Eq.symm h

theorem Conn.Clean.of_eq {c c' : Conn} (hcl : c.Clean) (hw : c'.working = c.working)
    (hc : c'.committed = c.committed) : c'.Clean :=
  hw.trans (hcl.working_eq.trans hc.symm)

theorem exec_readOnly_clean (c : Conn) (s : Stmt) (hro : s.readOnly = true) (hcl : c.Clean) :
    (c.exec s).1.working = c.working ∧ (c.exec s).1.committed = c.committed := by
  by_cases hb : s.bindOk = true
  · obtain ⟨-, hw, hc⟩ := exec_bound c s hb
    rw [run_readOnly hro] at hw hc
    refine ⟨hw, hc.trans ?_⟩
    split
    · rfl
    · exact hcl.working_eq
  · exact (exec_unbound c s (by simpa using hb)).2

/-- all integers the call binds fit 64 bits (then the kind of exception does not depend on the
connection's stale error code) -/
def Op.ParamsFit : Op → Bool
  | .persist msg h _ => (match findSeqNo msg with | some n => fits n && fits h.key | none => true)
  | .setSeqNum h out inn =>
    out.any (· ≤ 0) || inn.any (· ≤ 0) ||
      (fits (effIn h inn - 1) && fits (effOut h out - 1) && fits h.key && fits (effIn h inn) && fits (effOut h out))
  | .recover h _ lo hi => fits h.key && fits lo.param && fits hi.param
  | .recoverMsg h _ b => fits h.key && fits b.param
  | .getAll keys _ => ((normKeys keys).getD []).all fits
  | _ => true

/-- what is claimed about running a program for `n` calls from `c`: `base` = what the file held
when the method was entered, `j'`/`res` = what the pure method computes -/
structure RunSpec (p : Prog Res) (c : Conn) (base j' : Journal) (res : Res) (fit : Bool) (n : Nat) : Prop where
  committed : (p.run n c).1.committed = base ∨ (p.run n c).1.committed = j'
  working : ∀ a, (p.run n c).2.2 = some a → (p.run n c).1.working = j'
  result : ∀ a, (p.run n c).2.2 = some a → fit = true → a = res
  clean : ∀ a, (p.run n c).2.2 = some a → (p.run n c).1.Clean

section rules
variable {a res : Res} {c : Conn} {base j' : Journal} {fit : Bool} {s : Stmt} {k : SRes → Prog Res}

theorem runSpec_died {p : Prog Res} {n : Nat} (hn : (p.run n c).2.2 = none)
    (hc : (p.run n c).1.committed = base ∨ (p.run n c).1.committed = j') : RunSpec p c base j' res fit n := by
  constructor
  · exact hc
  all_goals intro _ h; rw [hn] at h; cases h

/-- `RunSpec` reads its program only through `Prog.run`; a call with fuel left runs as the rest of the program does on
the connection after the call (by `rfl`), which is how the rules below pass from one to the other -/
theorem RunSpec.of_run_eq {p p' : Prog Res} {c' : Conn} {n n' : Nat} (s : RunSpec p c base j' res fit n)
    (h : p'.run n' c' = p.run n c) : RunSpec p' c' base j' res fit n' :=
  ⟨h ▸ s.committed, h ▸ s.working, h ▸ s.result, h ▸ s.clean⟩

theorem runSpec_ret (n : Nat) (hc : c.committed = base ∨ c.committed = j') (hw : c.working = j')
    (hcl : c.Clean) (hres : fit = true → a = res) : RunSpec (.ret a) c base j' res fit n :=
  ⟨hc, fun _ _ => hw, fun _ hb hfit => Option.some.inj hb ▸ hres hfit, fun _ _ => hcl⟩

theorem runSpec_commit_ret (n : Nat) (hin : c.inTx = true) (hc : c.committed = base) (hw : c.working = j')
    (hres : fit = true → a = res) : RunSpec (.commit (.ret a)) c base j' res fit n := by
  obtain ⟨hw', hc', -⟩ := commit_spec c
  rw [hin, if_pos rfl] at hc'
  cases n with
  | zero => exact runSpec_died rfl (.inl hc)
  | succ n =>
    exact (runSpec_ret (base := base) n (.inr (hc'.trans hw)) (hw'.trans hw) (hw'.trans hc'.symm) hres).of_run_eq rfl

theorem runSpec_rollback_ret (n : Nat) (hin : c.inTx = true) (hc : c.committed = base)
    (hres : fit = true → a = res) : RunSpec (.rollback (.ret a)) c base base res fit n := by
  obtain ⟨hw', hc', -⟩ := rollback_spec c hin
  cases n with
  | zero => exact runSpec_died rfl (.inl hc)
  | succ n =>
    exact (runSpec_ret n (.inl (hc'.trans hc)) (hw'.trans hc) (hw'.trans hc'.symm) hres).of_run_eq rfl

theorem runSpec_exec (n : Nat) (hbase : c.committed = base)
    (hk : ∀ m, RunSpec (k (c.exec s).2) (c.exec s).1 base j' res fit m) :
    RunSpec (.exec s k) c base j' res fit n := by
  cases n with
  | zero => exact runSpec_died rfl (.inl hbase)
  | succ n => exact (hk n).of_run_eq rfl

theorem runSpec_select (n : Nat) {f : SRes → Res} (hro : s.readOnly = true) (hcl : c.Clean)
    (hc : c.committed = base) (hw : c.working = j')
    (hres : fit = true → s.bindOk = true ∧ f (s.run c.working).2 = res) :
    RunSpec (.exec s fun r => .ret (f r)) c base j' res fit n := by
  obtain ⟨hw', hc'⟩ := exec_readOnly_clean c s hro hcl
  refine runSpec_exec n hc fun m =>
    runSpec_ret m (.inl (hc'.trans hc)) (hw'.trans hw) (hcl.of_eq hw' hc') fun hfit => ?_
  rw [(exec_bound c s (hres hfit).1).1]
  exact (hres hfit).2

/-- an INSERT / UPDATE / DELETE that opens the transaction or runs inside it publishes nothing; the
rest of the method runs inside the transaction: on the statement's outcome when the parameters
bind, and with the rows as they were on OverflowError (or the stale IntegrityError) when not -/
theorem runSpec_dml (n : Nat) (htx : c.inTx = true ∨ s.isDML = true) (hc : c.committed = base)
    (hk : ∀ c' r, c'.inTx = true → c'.committed = base →
      (s.bindOk = true ∧ r = (s.run c.working).2 ∧ c'.working = (s.run c.working).1 ∨
        s.bindOk = false ∧ (r = .overflow ∨ r = .integrity) ∧ c'.working = c.working) →
      ∀ m, RunSpec (k r) c' base j' res fit m) :
    RunSpec (.exec s k) c base j' res fit n := by
  have htx' : (c.inTx || s.isDML) = true := by rcases htx with h | h <;> simp [h]
  have hin := (exec_inTx c s).trans htx'
  by_cases hb : s.bindOk = true
  · obtain ⟨hr, hw, hc'⟩ := exec_bound c s hb
    exact runSpec_exec n hc (hk _ _ hin ((hc'.trans (if_pos htx')).trans hc) (.inl ⟨hb, hr, hw⟩))
  · have hb' : s.bindOk = false := by simpa using hb
    obtain ⟨hr, hw, hc'⟩ := exec_unbound c s hb'
    exact runSpec_exec n hc (hk _ _ hin (hc'.trans hc) (.inr ⟨hb', hr, hw⟩))

end rules

end AsyncFix.Model.Journal
