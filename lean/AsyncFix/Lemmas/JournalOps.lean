/-
C08: `RunSpec` for `Journaler.__init__` and for every public method: the program over
execute()/commit()/rollback() is walked statement by statement beside the pure method.
-/
import AsyncFix.Lemmas.JournalRun
import AsyncFix.Lemmas.JournalInv
namespace AsyncFix.Model.Journal

theorem fits_dirVal (d : Dir) : fits d.val = true := by cases d <;> decide

theorem fits_zero : fits 0 = true := by decide

theorem bindOk_insertSession (t s : String) : (Stmt.insertSession t s).bindOk = true := by
  simp [Stmt.bindOk, Stmt.params, fits_zero]

theorem bindOk_insertMsg (seq key : Int) (dir : Dir) (msg : Bytes) :
    (Stmt.insertMsg seq key dir msg).bindOk = (fits seq && fits key) := by
  simp [Stmt.bindOk, Stmt.params, fits_dirVal, fits_zero]

theorem bindOk_updateCounter (dir : Dir) (seq key : Int) :
    (Stmt.updateCounter dir seq key).bindOk = (fits seq && fits key) := by
  simp [Stmt.bindOk, Stmt.params]

theorem bindOk_updateBoth (i o key : Int) :
    (Stmt.updateBoth i o key).bindOk = (fits i && fits o && fits key) := by
  simp [Stmt.bindOk, Stmt.params, Bool.and_assoc]

theorem bindOk_deleteFrom (key seq : Int) (dir : Dir) :
    (Stmt.deleteFrom key seq dir).bindOk = (fits key && fits seq) := by
  simp [Stmt.bindOk, Stmt.params, fits_dirVal]

theorem bindOk_selectRange (key : Int) (dir : Dir) (lo hi : Bound) :
    (Stmt.selectRange key dir lo hi).bindOk = (fits key && fits lo.param && fits hi.param) := by
  simp [Stmt.bindOk, Stmt.params, fits_dirVal, Bool.and_assoc]

theorem bindOk_selectAll (keys : Option (List Int)) (dir : Option Dir) :
    (Stmt.selectAll keys dir).bindOk = (keys.getD []).all fits := by
  cases dir <;> simp [Stmt.bindOk, Stmt.params, fits_dirVal]

/-- `Journaler.__init__`: two CREATE TABLE IF NOT EXISTS -/
theorem open_runSpec (c : Conn) (hcl : c.Clean) (n : Nat) :
    RunSpec openP c c.committed c.working .none true n := by
  obtain ⟨hw1, hc1⟩ := exec_readOnly_clean c .createMsgTable rfl hcl
  have hcl1 := hcl.of_eq hw1 hc1
  obtain ⟨hw2, hc2⟩ := exec_readOnly_clean _ .createSessTable rfl hcl1
  exact runSpec_exec n rfl fun _ => runSpec_exec _ hc1 fun m =>
    runSpec_ret m (.inl (hc2.trans hc1)) (hw2.trans hw1) (hcl1.of_eq hw2 hc2) fun _ => rfl

theorem createOrLoad_runSpec (c : Conn) (hcl : c.Clean) (t s : String) (n : Nat) :
    RunSpec (createOrLoadP t s) c c.committed (createOrLoad c.working t s).1 (createOrLoad c.working t s).2
      true n := by
  unfold createOrLoadP createOrLoad
  refine runSpec_dml n (.inr rfl) rfl ?_
  rintro c1 r htx1 hc1 (⟨-, rfl, hw1⟩ | ⟨hb, -, -⟩) m
  · simp only [Stmt.run] at hw1 ⊢
    cases hi : insSession c.working t s with
    | some p =>
      simp only [hi] at hw1 ⊢
      exact runSpec_commit_ret m htx1 hc1 hw1 fun _ => rfl
    | none =>
      -- IntegrityError: nothing is pending, the SELECT of the load path follows
      simp only [hi] at hw1 ⊢
      cases hsel : selSession c.working t s <;>
        exact runSpec_select m (s := .selectSession t s) rfl (hcl.of_eq hw1 hc1) hc1 hw1
          fun _ => ⟨rfl, by rw [Stmt.run, hw1, hsel]; rfl⟩
  · rw [bindOk_insertSession] at hb; cases hb

theorem persist_runSpec (c : Conn) (hcl : c.Clean) (msg : Bytes) (h : Handle) (dir : Dir) (n : Nat) :
    RunSpec (persistP msg h dir) c c.committed (persist c.working msg h dir).1 (persist c.working msg h dir).2
      (Op.persist msg h dir).ParamsFit n := by
  unfold persistP Op.ParamsFit
  cases hn : findSeqNo msg with
  | none => rw [persist_noSeq hn]; exact runSpec_ret n (.inl rfl) rfl hcl fun _ => rfl
  | some q =>
    rw [persist_eq hn]
    refine runSpec_dml n (.inr rfl) rfl ?_
    rintro c1 r htx1 hc1 (⟨hb, rfl, hw1⟩ | ⟨hb, hr, hw1⟩) m <;> rw [bindOk_insertMsg] at hb <;>
      simp only [hn, hb, Bool.not_true, Bool.not_false, Bool.false_eq_true, if_false, if_true]
    · simp only [Stmt.run, insMsg] at hw1 ⊢
      by_cases hany : c.working.msgs.any (·.isKey q h.key dir) = true
      · -- IntegrityError → DuplicateSeqNoError without rollback: the transaction stays open, empty
        simp only [hany, if_true] at hw1 ⊢
        exact runSpec_ret m (.inl hc1) hw1 (hcl.of_eq hw1 hc1) fun _ => rfl
      · simp only [hany] at hw1 ⊢
        refine runSpec_dml m (.inl htx1) hc1 ?_
        rintro c2 r htx2 hc2 (⟨-, rfl, hw2⟩ | ⟨hb2, -, -⟩) m2
        · exact runSpec_commit_ret m2 htx2 hc2 (by rw [hw2, hw1]; rfl) fun _ => rfl
        · rw [bindOk_updateCounter, hb] at hb2; cases hb2
    · rw [hcl.working_eq]
      rcases hr with rfl | rfl
      · -- OverflowError: `except Exception` rolls back (the transaction the implicit BEGIN opened)
        exact runSpec_rollback_ret m htx1 hc1 nofun
      · -- reported as IntegrityError through a stale error code: DuplicateSeqNoError, no rollback
        exact runSpec_ret m (.inl hc1) (hw1.trans hcl.working_eq) (hcl.of_eq hw1 hc1) nofun

theorem setSeqNum_runSpec (c : Conn) (hcl : c.Clean) (h : Handle) (out inn : Option Int) (n : Nat) :
    RunSpec (setSeqNumP h out inn) c c.committed (setSeqNum c.working h out inn).1
      (setSeqNum c.working h out inn).2 (Op.setSeqNum h out inn).ParamsFit n := by
  unfold setSeqNumP setSeqNum Op.ParamsFit
  by_cases h1 : out.any (· ≤ 0) = true
  · simp only [h1, if_true]
    exact runSpec_ret n (.inl rfl) rfl hcl fun _ => rfl
  by_cases h2 : inn.any (· ≤ 0) = true
  · simp only [h1, h2, if_true]
    exact runSpec_ret n (.inl rfl) rfl hcl fun _ => rfl
  simp only [h1, h2, if_false, Bool.false_eq_true, Bool.or_self, Bool.false_or]
  generalize ({ h with nextOut := effOut h out, nextIn := effIn h inn } : Handle) = H2
  -- a statement whose parameters do not bind: rollback; the pure method then changes nothing either
  have hfail : ∀ {c' : Conn} (r : SRes) (m : Nat), c'.inTx = true → c'.committed = c.committed →
      RunSpec (.rollback (.ret (.set H2 (some (excOf r))))) c' c.committed c.working
        (.set H2 (some .overflow)) false m := fun r m htx hc => by
    rw [hcl.working_eq]; exact runSpec_rollback_ret m htx hc nofun
  refine runSpec_dml n (.inr rfl) rfl ?_
  rintro c1 r htx1 hc1 (⟨hb1, rfl, hw1⟩ | ⟨hb1, hr, -⟩) m1 <;> rw [bindOk_updateBoth] at hb1 <;>
    simp only [hb1, Bool.true_and, Bool.false_and, Bool.not_false, if_true]
  · have hkey : fits h.key = true := by simp only [Bool.and_eq_true] at hb1; exact hb1.2
    refine runSpec_dml m1 (.inl htx1) hc1 ?_
    rintro c2 r htx2 hc2 (⟨hb2, rfl, hw2⟩ | ⟨hb2, hr, -⟩) m2 <;>
      rw [bindOk_deleteFrom, hkey, Bool.true_and] at hb2 <;>
      simp only [hb2, Bool.true_and, Bool.false_and, Bool.not_false, if_true]
    · refine runSpec_dml m2 (.inl htx2) hc2 ?_
      rintro c3 r htx3 hc3 (⟨hb3, rfl, hw3⟩ | ⟨hb3, hr, -⟩) m3 <;>
        rw [bindOk_deleteFrom, hkey, Bool.true_and] at hb3 <;>
        simp only [hb3, Bool.not_true, Bool.not_false, Bool.false_eq_true, if_false, if_true]
      · exact runSpec_commit_ret m3 htx3 hc3 (by rw [hw3, hw2, hw1]; rfl) fun _ => rfl
      · rcases hr with rfl | rfl <;> exact hfail _ m3 htx3 hc3
    · rcases hr with rfl | rfl <;> exact hfail _ m2 htx2 hc2
  · rcases hr with rfl | rfl <;> exact hfail _ m1 htx1 hc1

theorem op_runSpec (c : Conn) (hcl : c.Clean) (op : Op) (n : Nat) :
    RunSpec op.prog c c.committed (applyOp c.working op).1 (applyOp c.working op).2 op.ParamsFit n := by
  cases op with
  | createOrLoad t s => exact createOrLoad_runSpec c hcl t s n
  | persist msg h dir => exact persist_runSpec c hcl msg h dir n
  | setSeqNum h out inn => exact setSeqNum_runSpec c hcl h out inn n
  -- the reading calls: one SELECT each, whose rows the method hands back
  | sessions => exact runSpec_select n (s := .selectSessions) rfl hcl rfl rfl fun _ => ⟨rfl, rfl⟩
  | recover h dir lo hi =>
    refine runSpec_select n (s := .selectRange h.key dir lo hi) rfl hcl rfl rfl fun hfit => ?_
    refine ⟨(bindOk_selectRange ..).trans hfit, ?_⟩
    simp only [Op.ParamsFit, Bool.and_eq_true] at hfit
    simp only [applyOp, Stmt.run, recoverMessages, hfit, Bool.and_self, Bool.not_true, Bool.false_eq_true, if_false]
    cases lo.eval <;> cases hi.eval <;> rfl
  | recoverMsg h dir b =>
    refine runSpec_select n (s := .selectRange h.key dir b b) rfl hcl rfl rfl fun hfit => ?_
    simp only [Op.ParamsFit, Bool.and_eq_true] at hfit
    refine ⟨by rw [bindOk_selectRange, hfit.1, hfit.2]; rfl, ?_⟩
    simp only [applyOp, Stmt.run, recoverMsg, recoverMessages, hfit, Bool.and_self, Bool.not_true,
      Bool.false_eq_true, if_false]
    cases b.eval with
    | unmodelled => rfl
    | val v => dsimp only; cases selRange c.working h.key dir (.val v) (.val v) <;> rfl
    | posInf => dsimp only; cases selRange c.working h.key dir .posInf .posInf <;> rfl
  | getAll keys dir =>
    refine runSpec_select n (s := .selectAll (normKeys keys) dir) rfl hcl rfl rfl fun hfit => ⟨?_, ?_⟩
    · exact (bindOk_selectAll ..).trans hfit
    · have hany : ((normKeys keys).getD []).any (fun x => !fits x) = false :=
        List.any_eq_false.mpr fun x hx => by simp [List.all_eq_true.mp hfit x hx]
      simp only [applyOp, Stmt.run, getAllMsgs, hany, Bool.false_eq_true, if_false, getAllRes]

end AsyncFix.Model.Journal
