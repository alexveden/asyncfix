/-
Group accessors: `add_group` index handling (Python `list.insert`, `-1` = append), `get_group_list`,
`get_group_by_index`, `get_group_by_tag`.
-/
import AsyncFix.Lemmas.ContainerOps
namespace AsyncFix.Model.Container
open AsyncFix.Py

/-- where Python's `list.insert(i, x)` puts `x` in a list of length `n` -/
def insertPos (n : Nat) (i : Int) : Nat :=
  if 0 ≤ i then min i.toNat n
  else if 0 ≤ i + n then (i + n).toNat
  else 0

theorem pyListInsert_eq {α : Type} (l : List α) (i : Int) (x : α) :
    pyListInsert l i x = l.take (insertPos l.length i) ++ x :: l.drop (insertPos l.length i) := by
  have key : (let n : Int := l.length
      let w := if i < 0 then i + n else i
      let w := if w < 0 then 0 else w
      let w := if w > n then n else w
      w.toNat) = insertPos l.length i := by
    simp only [insertPos]
    by_cases h0 : 0 ≤ i
    · rw [if_neg (Int.not_lt.2 h0), if_neg (Int.not_lt.2 h0), if_pos h0]
      split <;> omega
    · rw [if_pos (Int.not_le.1 h0), if_neg h0]
      by_cases h1 : 0 ≤ i + (l.length : Int)
      · rw [if_neg (Int.not_lt.2 h1), if_neg (by omega), if_pos h1]
      · rw [if_pos (Int.not_le.1 h1), if_neg (by omega), if_neg h1]; rfl
  unfold pyListInsert
  simp only at key ⊢
  rw [key]

/-- the position `add_group(tag, group, index)` gives the new item -/
def addPos (n : Nat) (i : Int) : Nat := if i = -1 then n else insertPos n i

/-- `addPos` as three cases `omega` can use; in the third, `toNat` clamps an index below `-n` to 0 -/
theorem addPos_spec (n : Nat) (i : Int) :
    (i = -1 ∧ addPos n i = n) ∨ (0 ≤ i ∧ addPos n i = min i.toNat n) ∨
      (i < -1 ∧ addPos n i = (i + n).toNat) := by
  unfold addPos insertPos
  split
  · next h => exact Or.inl ⟨h, rfl⟩
  · split
    · next h => exact Or.inr (Or.inl ⟨h, rfl⟩)
    · refine Or.inr (Or.inr ⟨by omega, ?_⟩)
      split
      · rfl
      · exact (Int.toNat_eq_zero.2 (by omega)).symm

theorem addPos_le (n : Nat) (i : Int) : addPos n i ≤ n := by
  have := addPos_spec n i; omega

theorem groupAdd_eq (items : List Cont) (g : Cont) (i : Int) :
    groupAdd items g i = items.take (addPos items.length i) ++ g :: items.drop (addPos items.length i) := by
  unfold groupAdd addPos
  split
  · simp
  · exact pyListInsert_eq items i g

theorem take_cons_drop_eq_insertIdx {α : Type} (x : α) : ∀ (l : List α) (p : Nat), p ≤ l.length →
    l.take p ++ x :: l.drop p = l.insertIdx p x
  | _, 0, _ => rfl
  | a :: l, p + 1, h => by
    rw [List.insertIdx_succ_cons, ← take_cons_drop_eq_insertIdx x l p (Nat.le_of_succ_le_succ h)]; rfl

/-- `add_group` is the library's `insertIdx` at `addPos`: the index lemmas of `insertIdx` apply -/
theorem groupAdd_insertIdx (items : List Cont) (g : Cont) (i : Int) :
    groupAdd items g i = items.insertIdx (addPos items.length i) g := by
  rw [groupAdd_eq, take_cons_drop_eq_insertIdx g items _ (addPos_le _ _)]

theorem groupAdd_append (items : List Cont) (g : Cont) (i : Int) (h : i = -1 ∨ (items.length : Int) ≤ i) :
    groupAdd items g i = items ++ [g] := by
  have hp : addPos items.length i = items.length := by have := addPos_spec items.length i; omega
  rw [groupAdd_insertIdx, hp, List.insertIdx_length_self]

theorem groupAdd_front (items : List Cont) (g : Cont) (i : Int)
    (h : i = 0 ∨ (i < -1 ∧ i + (items.length : Int) ≤ 0)) : groupAdd items g i = g :: items := by
  have hp : addPos items.length i = 0 := by have := addPos_spec items.length i; omega
  rw [groupAdd_insertIdx, hp, List.insertIdx_zero]

theorem getGroupList_dictSet (c : Cont) (k : Str) (items : List Cont) (t : PyObj) (h : t.pyStr = k) :
    getGroupList (dictSet k (.group items) c) t = .ok items := by
  simp [getGroupList, h, lookup_dictSet]

/-- Python indexing: `i` names position `k` counted from the front (`i = k`) or from the end
(`i + len = k`) -/
theorem byIndex_ok (c : Cont) (t : PyObj) (items : List Cont) (h : getGroupList c t = .ok items)
    (i : Int) (k : Nat) (hk : k < items.length) (hik : i = k ∨ i + items.length = k) :
    getGroupByIndex c t i = .ok items[k] := by
  simp only [getGroupByIndex, h]
  have hr : ¬ (i ≥ (items.length : Int) ∨ i < -(items.length : Int)) := by omega
  have hn : ¬ (if i < 0 then i + (items.length : Int) else i) < 0 := by split <;> omega
  have hp : (if i < 0 then i + (items.length : Int) else i).toNat = k := by split <;> omega
  rw [if_neg hr, if_neg hn, hp, List.getElem?_eq_getElem hk]

theorem byIndex_outside (c : Cont) (t : PyObj) (items : List Cont) (h : getGroupList c t = .ok items)
    (i : Int) (hi : i < -(items.length : Int) ∨ (items.length : Int) ≤ i) :
    getGroupByIndex c t i = .error .tagNotFound := by
  simp only [getGroupByIndex, h]
  rw [if_pos (by omega)]

/-- the item holds the plain value `gvalue` under `gtag` -/
def Matches (gtag gvalue : PyObj) (g : Cont) : Prop :=
  ∃ s, lookup gtag.pyStr g = some (.str s) ∧ gvalue.eqStr s = true

theorem findByTag_cons_ok (gtag gvalue : PyObj) (x : Cont) (rest : List Cont) (g : Cont)
    (h : findByTag gtag gvalue (x :: rest) = .ok g) :
    (Matches gtag gvalue x ∧ g = x) ∨ (¬ Matches gtag gvalue x ∧ findByTag gtag gvalue rest = .ok g) := by
  unfold Matches
  simp only [findByTag, contains, hasKey, getItem, get] at h
  cases hl : lookup gtag.pyStr x with
  | none => simpa [hl] using h
  | some v =>
    rcases v with s | gs | k
    · by_cases he : gvalue.eqStr s = true
      · simp_all
      · simpa [hl, he] using h
    · simp [hl] at h
    · cases k <;> simp_all [getCls]

theorem findByTag_ok (gtag gvalue : PyObj) (items : List Cont) (g : Cont)
    (h : findByTag gtag gvalue items = .ok g) :
    ∃ pre post, items = pre ++ g :: post ∧ Matches gtag gvalue g ∧ ∀ x ∈ pre, ¬ Matches gtag gvalue x := by
  induction items with
  | nil => cases h
  | cons x rest ih =>
    rcases findByTag_cons_ok gtag gvalue x rest g h with ⟨hm, rfl⟩ | ⟨hx, hr⟩
    · exact ⟨[], rest, rfl, hm, by simp⟩
    · obtain ⟨pre, post, e, hm, hn⟩ := ih hr
      exact ⟨x :: pre, post, by rw [e]; rfl, hm, by simpa [hx] using hn⟩

theorem findByTag_none (gtag gvalue : PyObj) (items : List Cont)
    (hplain : ∀ x ∈ items, lookup gtag.pyStr x = none ∨ ∃ s, lookup gtag.pyStr x = some (.str s))
    (hno : ∀ x ∈ items, ¬ Matches gtag gvalue x) :
    findByTag gtag gvalue items = .error .tagNotFound := by
  induction items with
  | nil => rfl
  | cons x rest ih =>
    have ihr := ih (fun y hy => hplain y (by simp [hy])) (fun y hy => hno y (by simp [hy]))
    simp only [findByTag, contains, hasKey]
    rcases hplain x (by simp) with hl | ⟨s, hl⟩
    · simp [hl, ihr]
    · have : gvalue.eqStr s = false := by
        cases he : gvalue.eqStr s with
        | false => rfl
        | true => exact absurd ⟨s, hl, he⟩ (hno x (by simp))
      simp [hl, getItem, get, this, ihr]

end AsyncFix.Model.Container
