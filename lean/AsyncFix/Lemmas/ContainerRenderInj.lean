/-
`FIXContainer.__str__` is injective on "safe" containers.

safe  :=  no class-object values, no `|` `,` `[` `]` in string values, no `=` `|` `,` `[` `]` `>` in tags
          (recursively through the group items).
A rendered safe value is balanced and has no `|` / `,` outside brackets, so fields are pieces joined by `|`,
items pieces joined by `, `; `joinSep_inj` gives the piece lists back and a field splits at its first `=`.
-/
import AsyncFix.Lemmas.ContainerRender
import AsyncFix.Lemmas.ContainerPyInt
namespace AsyncFix.Model.Container
open AsyncFix.Py

/-- a string value without `|` `,` `[` `]` -/
def strOk (s : Str) : Bool := s.all fun c => !(c == 124 || c == 44 || c == 91 || c == 93)

/-- a tag without `=` `|` `,` `[` `]` `>` (every tag accepted by `set()` is one: `intLike_no_special`) -/
def tagOk (t : Str) : Bool := t.all fun c => !isSpecial c

mutual
/-- class objects are out: `Cls.render` gives `#err#` for every exception class and the bare `repr` otherwise -/
def Val.safe : Val → Bool
  | .str s => strOk s
  | .cls _ => false
  | .group items => safeItems items
def safeItems : List (List (Str × Val)) → Bool
  | [] => true
  | g :: gs => safeFields g && safeItems gs
def safeFields : List (Str × Val) → Bool
  | [] => true
  | (t, v) :: rest => tagOk t && v.safe && safeFields rest
end

/-- the decidable hypothesis of `str_injective_on_safe` -/
def Cont.safe (c : Cont) : Bool := safeFields c

def itemsText (gs : List Cont) : Str := joinSep [44, 32] (renderItems gs)

theorem render_group (gs : List Cont) :
    (Val.group gs).render = natDigits gs.length ++ 61 :: 62 :: 91 :: (itemsText gs ++ [93]) := by
  simp [Val.render, itemsText]

theorem tagOk_mem (t : Str) (h : tagOk t = true) (c : Nat) (hc : c ∈ t) :
    c ≠ 61 ∧ c ≠ 124 ∧ c ≠ 44 ∧ c ≠ 91 ∧ c ≠ 93 := by
  simp only [tagOk, List.all_eq_true] at h
  have := h c hc
  simp only [isSpecial, Bool.not_eq_true', Bool.or_eq_false_iff, beq_eq_false_iff_ne] at this
  omega

theorem strOk_mem (s : Str) (h : strOk s = true) (c : Nat) (hc : c ∈ s) :
    c ≠ 124 ∧ c ≠ 44 ∧ c ≠ 91 ∧ c ≠ 93 := by
  simp only [strOk, List.all_eq_true] at h
  have := h c hc
  simp only [Bool.not_eq_true', Bool.or_eq_false_iff, beq_eq_false_iff_ne] at this
  omega

theorem scan_ok (x : Str) (h : ∀ c ∈ x, c ≠ 124 ∧ c ≠ 44 ∧ c ≠ 91 ∧ c ≠ 93) (d : Nat) :
    scan isBarComma d x = some d :=
  scan_plain _ x d fun c hc => ⟨(h c hc).2.2.1, (h c hc).2.2.2, by simp [isBarComma, (h c hc).1, (h c hc).2.1]⟩

theorem scan_field (t : Str) (v : Val) (ht : tagOk t = true) (hv : scan isBarComma 0 v.render = some 0) :
    scan isBarComma 0 (t ++ 61 :: v.render) = some 0 := by
  rw [scan_append, scan_ok t (fun c hc => (tagOk_mem t ht c hc).2) 0, Option.bind_some]
  simpa [scan, isBarComma] using hv

theorem scan_render (c : Cont) (h : ∀ p ∈ renderFields c, scan isBarComma 0 p = some 0) :
    scan isComma 0 (render c) = some 0 :=
  scan_joinSep isComma [124] rfl _ fun p hp => scan_mono _ _ (fun c hc => by simp [isBarComma, show c = 44 by simpa [isComma] using hc]) _ _ _ (h p hp)

theorem scan_itemsText (gs : List Cont) (h : ∀ p ∈ renderItems gs, scan isComma 0 p = some 0) :
    scan noStop 0 (itemsText gs) = some 0 :=
  scan_joinSep noStop [44, 32] rfl _ fun p hp => scan_mono _ _ (fun _ hc => by cases hc) _ _ _ (h p hp)

mutual
theorem scan_val (v : Val) (h : v.safe = true) : scan isBarComma 0 v.render = some 0 := by
  match v with
  | .str s => exact scan_ok s (strOk_mem s (by simpa [Val.safe] using h)) 0
  | .cls _ => simp [Val.safe] at h
  | .group gs =>
    -- digits, `=>[` down to depth 1, the balanced items one level deeper, `]` back to depth 0
    have hb := scan_itemsText gs (pieces_items gs (by simpa [Val.safe] using h))
    have hd := scan_lift noStop isBarComma 1 (fun _ _ => Or.inr Nat.one_pos) _ _ _ hb
    rw [render_group, scan_append, scan_ok _ (fun c hc => by have := natDigits_isDigit _ c hc; simp [isDigit] at this; omega) 0,
      Option.bind_some]
    have e1 : scan isBarComma 0 (61 :: 62 :: 91 :: (itemsText gs ++ [93]))
        = scan isBarComma 1 (itemsText gs ++ [93]) := by simp [scan, isBarComma]
    rw [e1, scan_append, hd]
    rfl
theorem pieces_items (gs : List (List (Str × Val))) (h : safeItems gs = true) :
    ∀ p ∈ renderItems gs, scan isComma 0 p = some 0 := by
  match gs with
  | [] => simp [renderItems]
  | g :: rest =>
    simp only [safeItems, Bool.and_eq_true] at h
    simp only [renderItems, List.mem_cons, forall_eq_or_imp]
    exact ⟨scan_render g (pieces_fields g h.1), pieces_items rest h.2⟩
theorem pieces_fields (c : List (Str × Val)) (h : safeFields c = true) :
    ∀ p ∈ renderFields c, scan isBarComma 0 p = some 0 := by
  match c with
  | [] => simp [renderFields]
  | (t, v) :: rest =>
    simp only [safeFields, Bool.and_eq_true] at h
    simp only [renderFields, List.mem_cons, forall_eq_or_imp]
    exact ⟨scan_field t v h.1.1 (scan_val v h.1.2), pieces_fields rest h.2⟩
end

theorem bal_items (gs : List (List (Str × Val))) (h : safeItems gs = true) :
    scan noStop 0 (itemsText gs) = some 0 :=
  scan_itemsText gs (pieces_items gs h)

theorem fields_of_render (c₁ c₂ : Cont) (h₁ : safeFields c₁ = true) (h₂ : safeFields c₂ = true)
    (h : render c₁ = render c₂) : renderFields c₁ = renderFields c₂ := by
  -- a container without fields renders as the empty text, any other text contains `=`
  have nil : ∀ c : Cont, renderFields c = [] ↔ render c = [] := by
    intro c
    match c with
    | [] => simp [render, renderFields, joinSep]
    | (t, v) :: r => simp [render, renderFields, joinSep_cons]
  exact joinSep_inj isBarComma 124 [] rfl (by decide) _ _ (pieces_fields c₁ h₁) (pieces_fields c₂ h₂)
    (by rw [nil, nil, h]) h

theorem items_of_text (gs₁ gs₂ : List Cont) (h₁ : safeItems gs₁ = true) (h₂ : safeItems gs₂ = true)
    (hlen : gs₁.length = gs₂.length) (h : itemsText gs₁ = itemsText gs₂) :
    renderItems gs₁ = renderItems gs₂ := by
  have nil : ∀ gs : List Cont, renderItems gs = [] ↔ gs.length = 0 := by
    intro gs; cases gs <;> simp [renderItems]
  exact joinSep_inj isComma 44 [32] rfl (by decide) _ _ (pieces_items gs₁ h₁) (pieces_items gs₂ h₂)
    (by rw [nil, nil, hlen]) h

theorem natDigits_injective (n m : Nat) (h : natDigits n = natDigits m) : n = m := natDigits_renders.inj h

theorem str_ne_group (s : Str) (gs : List Cont) (hs : strOk s = true) : s ≠ (Val.group gs).render := by
  intro h
  have hm : 91 ∈ (Val.group gs).render := by rw [render_group]; simp
  rw [← h] at hm
  have := strOk_mem s hs 91 hm
  omega

mutual
theorem inj_val (v₁ : Val) : ∀ v₂ : Val, v₁.safe = true → v₂.safe = true → v₁.render = v₂.render → v₁ = v₂ := by
  intro v₂ h₁ h₂ h
  match v₁, v₂ with
  | .cls _, _ => simp [Val.safe] at h₁
  | _, .cls _ => simp [Val.safe] at h₂
  | .str s₁, .str s₂ => simpa [Val.render] using h
  | .str s₁, .group gs₂ =>
    exact absurd (by simpa [Val.render] using h) (str_ne_group s₁ gs₂ (by simpa [Val.safe] using h₁))
  | .group gs₁, .str s₂ =>
    have h' : s₂ = (Val.group gs₁).render := by simpa [Val.render] using h.symm
    exact absurd h' (str_ne_group s₂ gs₁ (by simpa [Val.safe] using h₂))
  | .group gs₁, .group gs₂ =>
    -- the count before the first `=` gives the lengths, the text before the last `]` the items
    have s₁ : safeItems gs₁ = true := by simpa [Val.safe] using h₁
    have s₂ : safeItems gs₂ = true := by simpa [Val.safe] using h₂
    have no61 : ∀ n, 61 ∉ natDigits n := fun n hm => by have := natDigits_isDigit n 61 hm; simp [isDigit] at this
    rw [render_group, render_group] at h
    obtain ⟨hd, ht⟩ := split_first 61 _ _ _ _ (no61 _) (no61 _) h
    simp only [List.cons.injEq, true_and] at ht
    rw [injL_items gs₁ gs₂ s₁ s₂
      (items_of_text gs₁ gs₂ s₁ s₂ (natDigits_injective _ _ hd) (List.append_cancel_right ht))]
theorem injL_items (gs₁ : List (List (Str × Val))) : ∀ gs₂ : List (List (Str × Val)),
    safeItems gs₁ = true → safeItems gs₂ = true → renderItems gs₁ = renderItems gs₂ → gs₁ = gs₂ := by
  intro gs₂ h₁ h₂ h
  match gs₁, gs₂ with
  | [], [] => rfl
  | [], _ :: _ => simp [renderItems] at h
  | _ :: _, [] => simp [renderItems] at h
  | g₁ :: r₁, g₂ :: r₂ =>
    simp only [safeItems, Bool.and_eq_true] at h₁ h₂
    simp only [renderItems, List.cons.injEq] at h
    rw [injL_fields g₁ g₂ h₁.1 h₂.1 (fields_of_render g₁ g₂ h₁.1 h₂.1 h.1), injL_items r₁ r₂ h₁.2 h₂.2 h.2]
theorem injL_fields (c₁ : List (Str × Val)) : ∀ c₂ : List (Str × Val),
    safeFields c₁ = true → safeFields c₂ = true → renderFields c₁ = renderFields c₂ → c₁ = c₂ := by
  intro c₂ h₁ h₂ h
  match c₁, c₂ with
  | [], [] => rfl
  | [], _ :: _ => simp [renderFields] at h
  | _ :: _, [] => simp [renderFields] at h
  | (t₁, v₁) :: r₁, (t₂, v₂) :: r₂ =>
    simp only [safeFields, Bool.and_eq_true] at h₁ h₂
    simp only [renderFields, List.cons.injEq] at h
    have no61 : ∀ t, tagOk t = true → 61 ∉ t := fun t ht hm => (tagOk_mem t ht 61 hm).1 rfl
    obtain ⟨et, ev⟩ := split_first 61 _ _ _ _ (no61 t₁ h₁.1.1) (no61 t₂ h₂.1.1) h.1
    rw [et, inj_val v₁ v₂ h₁.1.2 h₂.1.2 ev, injL_fields r₁ r₂ h₁.2 h₂.2 h.2]
end

theorem inj_items (gs₁ : List (List (Str × Val))) : ∀ gs₂ : List (List (Str × Val)),
    safeItems gs₁ = true → safeItems gs₂ = true → gs₁.length = gs₂.length →
    itemsText gs₁ = itemsText gs₂ → gs₁ = gs₂ := by
  intro gs₂ h₁ h₂ hlen h
  exact injL_items gs₁ gs₂ h₁ h₂ (items_of_text gs₁ gs₂ h₁ h₂ hlen h)

end AsyncFix.Model.Container
