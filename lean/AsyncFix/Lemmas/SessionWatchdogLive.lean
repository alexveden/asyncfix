import AsyncFix.Lemmas.SessionWatchdogHist

/-!
C12, liveness: what one watchdog iteration does to a connection that is not to be dropped (`tick_kept`), and
the three inductions over a history – a peer that answers every TestRequest (`live_run`), traffic below the
idle threshold (`fresh_run`), traffic at least every `2·h` seconds (`paced_run_wide`, for accepted and too-high
frames in every logged-on state, with `paced_run` its reading for histories of accepted frames only).
-/
namespace AsyncFix.Session.Watchdog

open AsyncFix.Generated AsyncFix.Generated.ConnEnum

/-- summary of an idle tick with nothing outstanding, whatever happens to the send -/
theorem tick_none_idle_ctl (env : Env) (h : Int) (c : Conn) (hu : Up h c) (hh : 1 ≤ h)
    (hn : c.testReqId = none) (h1 : (h - 1) * 1000 < env.now - c.lastTime) :
    Up h (tick env c).1 ∧ (tick env c).1.testReqId = some env.secs ∧ NoDisc (tick env c).2 ∧
    Writes (· = testReqFrame env c) (tick env c).2 ∧ (writes (tick env c).2).length ≤ 1 ∧
    (writes (tick env c).2 ≠ [] → (tick env c).1.lastTime = env.now) ∧
    ((tick env c).1.lastTime = env.now ∨ (tick env c).1.lastTime = c.lastTime) := by
  rw [tick_none_idle env c hu.sock hu.active hn (by rw [hu.hb]; exact hh) (by rw [hu.hb]; exact h1)]
  have up : Up h (armed env c) := ⟨hu.active, hu.sock, hu.hb⟩
  -- the send raised (nothing written, `lastTime` stays) …
  have raised : ∀ ex : Exc, NoDisc [.raised ex] ∧ Writes (· = testReqFrame env c) [.raised ex] ∧
      (writes [Effect.raised ex]).length ≤ 1 := fun _ => ⟨NoDisc.cons rfl NoDisc.nil, Writes.of_nil rfl, Nat.zero_le 1⟩
  split
  · exact ⟨up, rfl, (raised _).1, (raised _).2.1, (raised _).2.2, fun h => absurd rfl h, Or.inr rfl⟩
  · split
    · exact ⟨⟨hu.active, hu.sock, hu.hb⟩, rfl, (raised _).1, (raised _).2.1, (raised _).2.2, fun h => absurd rfl h,
        Or.inr rfl⟩
    · -- … or the TestRequest went out
      exact ⟨⟨hu.active, hu.sock, hu.hb⟩, rfl, NoDisc.cons rfl NoDisc.nil, Writes.one rfl, Nat.le_refl 1, fun _ => rfl, Or.inl rfl⟩

theorem secs_ne_zero {env : Env} (h : 1000 ≤ env.now) : env.secs ≠ 0 := by unfold Env.secs; omega

/-- One watchdog iteration in any logged-on state, the clock past 00:00:01, no id 0 outstanding, the last
stamped time at most `2·h·1000` ms ago: either the probe branch is not taken and nothing happens at all
(`tick_no_probe`: neither timeout test can fire), or a TestRequest is attempted.  The connection stays as
logged on as it was, and `lastTime` stays or becomes `now`. -/
theorem tick_kept (h : Int) (hh : 1 ≤ h) (c : Conn) (env : Env) (ho : On h c) (hid : c.testReqId ≠ some 0)
    (hnow : 1000 ≤ env.now) (hrec : env.now - c.lastTime ≤ h * 2 * 1000) :
    On h (tick env c).1 ∧ (tick env c).1.state = c.state ∧ NoDisc (tick env c).2 ∧
    (tick env c).1.testReqId ≠ some 0 ∧
    ((tick env c).1.lastTime = c.lastTime ∨ (tick env c).1.lastTime = env.now) := by
  have hb := ho.hb
  have h8 := ho.state
  by_cases hq : c.state ≠ st_ACTIVE ∨ ¬ (c.hb - 1) * 1000 < env.now - c.lastTime ∨ c.testReqId.getD 0 ≠ 0
  · rw [tick_no_probe env c ho.sock (by show 3 < c.state; omega) hq, if_neg (fun hc => by have := hc.1; omega)]
    exact ⟨ho, rfl, NoDisc.nil, hid, Or.inl rfl⟩
  · have ha : c.state = st_ACTIVE := Decidable.not_not.mp fun hc => hq (Or.inl hc)
    have hi : (c.hb - 1) * 1000 < env.now - c.lastTime := Decidable.not_not.mp fun hc => hq (Or.inr (Or.inl hc))
    have hn : c.testReqId = none := by
      cases ht : c.testReqId with
      | none => rfl
      | some id =>
        have : id ≠ 0 := fun h0 => hid (by rw [ht, h0])
        exact absurd (Or.inr (Or.inr (by rw [ht]; exact this))) hq
    obtain ⟨u1, t1, n1, _, _, _, l1⟩ := tick_none_idle_ctl env h c ⟨ha, ho.sock, hb⟩ hh hn (by rw [← hb]; exact hi)
    exact ⟨u1.on, u1.active.trans ha.symm, n1, by rw [t1]; exact fun hc => secs_ne_zero hnow (Option.some.inj hc),
      l1.symm⟩

/-- invariant of `live_run`: logged on, and an outstanding id is non-zero and answered, in what remains of the
history, by a deadline at most `2·h·1000` ms after `lastTime`, which is not later than the previous event `p` -/
def Inv (h p : Int) (c : Conn) (rest : List WEv) : Prop :=
  Up h c ∧ (c.testReqId = none ∨
    ∃ id dl, c.testReqId = some id ∧ id ≠ 0 ∧ dl ≤ c.lastTime + h * 2 * 1000 ∧ c.lastTime ≤ p ∧ Answered id dl rest)

/-- A peer that answers every TestRequest by the deadline `D t` (`t` = the time of the probing tick) is never
dropped, for every `D t ≤ t + 2·h·1000`: the tick that probed stamped `lastTime := t` (the TestRequest went out,
`Live`), `lastTime` only grows, and the timeout tests compare `now` with `lastTime`. -/
theorem live_run (sr : Msg → Bool) (h : Int) (D : Int → Int) (hh : 1 ≤ h)
    (hD : ∀ t, D t ≤ t + h * 2 * 1000) (p : Int) (c : Conn) (evs : List WEv)
    (hinv : Inv h p c evs) (hl : Live sr D p c evs) :
    Up h (run sr c (hist evs)).1 ∧ NoDisc (run sr c (hist evs)).2 := by
  refine match run_induct WEv.toEvent sr (fun c evs => ∃ p, Inv h p c evs ∧ Live sr D p c evs) NoDisc
    NoDisc.nil NoDisc.append ?_ evs c ⟨p, hinv, hl⟩ with
    | ⟨⟨_, hi, _⟩, hn⟩ => ⟨hi.1, hn⟩
  intro c ev rest ⟨p, ⟨hu, hout⟩, hord, hev, hnew, hrest⟩
  suffices hs : Inv h ev.now (step sr c ev.toEvent).1 rest ∧ NoDisc (step sr c ev.toEvent).2 from
    ⟨⟨ev.now, hs.1, hrest⟩, hs.2⟩
  cases ev with
  | tick env =>
    have hnow : 1000 ≤ env.now := hev
    have hord' : p ≤ env.now := hord
    show Inv h env.now (tick env c).1 rest ∧ NoDisc (tick env c).2
    rcases hout with hn | ⟨id, dl, hid, h0, hdl, hlast, hans⟩
    · by_cases hidle : (h - 1) * 1000 < env.now - c.lastTime
      · obtain ⟨u1, t1, n1, _, _, l1, _⟩ := tick_none_idle_ctl env h c hu hh hn hidle
        obtain ⟨hw, hans⟩ := hnew hn env.secs t1
        exact ⟨⟨u1, Or.inr ⟨env.secs, D env.now, t1, secs_ne_zero hnow, by rw [l1 hw]; exact hD env.now,
          Int.le_of_eq (l1 hw), hans⟩⟩, n1⟩
      · rw [tick_quiet env c hu.sock hu.active (by rw [hu.hb]; exact hh) (by rw [hu.hb]; omega)]
        exact ⟨⟨hu, Or.inl hn⟩, NoDisc.nil⟩
    · -- the deadline keeps the tick within `2·h·1000` of `lastTime`
      have hle : env.now ≤ dl := hans.1
      have hb := hu.hb
      rw [tick_outstanding env c id hu.sock hu.active hid h0, if_neg (fun hc => by have := hc.1; omega)]
      exact ⟨⟨hu, Or.inr ⟨id, dl, hid, h0, hdl, Int.le_trans hlast hord', hans.2⟩⟩, NoDisc.nil⟩
  | recv env m =>
    have hb : Benign c m := hev
    have hord' : p ≤ env.now := hord
    show Inv h env.now (recv sr env c m).1 rest ∧ NoDisc (recv sr env c m).2
    obtain ⟨u1, l1, t1, n1, _⟩ := recv_benign sr env h c m hu hb
    refine ⟨⟨u1, ?_⟩, n1⟩
    rcases hout with hn | ⟨id, dl, hid, h0, hdl, hlast, hans⟩
    · left; rw [t1, hn]; simp
    · by_cases he : echoes c m = true
      · left; rw [t1, if_pos he]
      · right
        refine ⟨id, dl, by rw [t1, if_neg he]; exact hid, h0, by rw [l1]; omega, Int.le_of_eq l1, ?_⟩
        refine hans.resolve_left fun hecho => he ?_
        -- a Heartbeat reading as `id` is an echo
        obtain ⟨hm, v, hv, _⟩ := isEcho_cases hecho
        exact echoes_true hm hid hv

theorem fresh_run (sr : Msg → Bool) (h : Int) (hh : 1 ≤ h) (c : Conn) (evs : List WEv) (hu : Up h c)
    (hn : c.testReqId = none) (hf : Fresh h c.lastTime evs) (hb : BenignRun sr c evs) :
    Up h (run sr c (hist evs)).1 ∧ (run sr c (hist evs)).1.testReqId = none ∧
    NoDisc (run sr c (hist evs)).2 ∧ (∀ f ∈ writes (run sr c (hist evs)).2, f.mtype = mHeartbeat) := by
  refine match run_induct WEv.toEvent sr
    (fun c evs => Up h c ∧ c.testReqId = none ∧ Fresh h c.lastTime evs ∧ BenignRun sr c evs)
    (fun es => NoDisc es ∧ Writes (·.mtype = mHeartbeat) es) ⟨NoDisc.nil, Writes.nil⟩
    (fun ha hb => ⟨ha.1.append hb.1, ha.2.append hb.2⟩) ?_ evs c ⟨hu, hn, hf, hb⟩ with
    | ⟨⟨u, t, _⟩, n, w⟩ => ⟨u, t, n, w⟩
  intro c ev rest ⟨hu, hn, hf, hev, hrest⟩
  cases ev with
  | tick env =>
    have hq : tick env c = (c, []) :=
      tick_quiet env c hu.sock hu.active (by rw [hu.hb]; exact hh) (by rw [hu.hb]; exact hf.1)
    have hst : step sr c (WEv.tick env).toEvent = (c, []) := hq
    rw [hst] at hrest ⊢
    exact ⟨⟨hu, hn, hf.2, hrest⟩, NoDisc.nil, Writes.nil⟩
  | recv env m =>
    obtain ⟨u1, l1, t1, n1, w1, _⟩ := recv_benign sr env h c m hu hev
    refine ⟨⟨u1, ?_, ?_, hrest⟩, n1, w1⟩
    · show (recv sr env c m).1.testReqId = none; rw [t1, hn]; simp
    · show Fresh h (recv sr env c m).1.lastTime rest; rw [l1]; exact hf

/-- After fix e3d9663, in every logged-on state: accepted traffic at least every `2·h·1000` ms keeps the peer,
whether or not it ever answers a TestRequest (`a` = time of the latest accepted frame, `a ≤ lastTime`); frames
numbered too high neither count nor hurt.  In RESENDREQ_AWAITING / RESENDREQ_HANDLING / RECV_SEQNUM_TOO_HIGH …
the watchdog never probes and its "message last time" test is the only one that can fire.  `S` is any class
of states the history cannot leave: an iteration keeps the state, an accepted frame keeps it or makes it
ACTIVE, a too-high frame keeps it or makes it RESENDREQ_AWAITING. -/
theorem paced_run_wide (S : Nat → Prop) (hA : S st_ACTIVE) (sr : Msg → Bool) (h : Int) (hh : 1 ≤ h)
    (evs : List XEv) (hW : S st_RESENDREQ_AWAITING ∨ ∀ env m, XEv.stray env m ∉ evs) (a : Int) (c : Conn)
    (ho : On h c) (hs : S c.state) (ha : 1000 ≤ a) (hal : a ≤ c.lastTime) (hid : c.testReqId ≠ some 0)
    (hp : PacedX (h * 2 * 1000) a evs) (hb : TolerableRun sr c evs) :
    On h (run sr c (xhist evs)).1 ∧ S (run sr c (xhist evs)).1.state ∧ NoDisc (run sr c (xhist evs)).2 := by
  refine match run_induct XEv.toEvent sr
    (fun c evs => On h c ∧ S c.state ∧ c.testReqId ≠ some 0 ∧
      (S st_RESENDREQ_AWAITING ∨ ∀ env m, XEv.stray env m ∉ evs) ∧
      ∃ a, 1000 ≤ a ∧ a ≤ c.lastTime ∧ PacedX (h * 2 * 1000) a evs ∧ TolerableRun sr c evs)
    NoDisc NoDisc.nil NoDisc.append ?_ evs c ⟨ho, hs, hid, hW, a, ha, hal, hp, hb⟩ with
    | ⟨⟨o, s, _⟩, n⟩ => ⟨o, s, n⟩
  intro c ev rest ⟨ho, hs, hid, hW, a, ha, hal, hp, hev, hrest⟩
  have hW' : S st_RESENDREQ_AWAITING ∨ ∀ env m, XEv.stray env m ∉ rest :=
    hW.imp id fun hns env m hm => hns env m (List.mem_cons_of_mem _ hm)
  cases ev with
  | tick env =>
    obtain ⟨hord, hg, hp'⟩ := hp
    obtain ⟨o1, s1, n1, i1, l1⟩ := tick_kept h hh c env ho hid (by omega) (by omega)
    refine ⟨⟨o1, ?_, i1, hW', a, ha, ?_, hp', hrest⟩, n1⟩
    · show S (tick env c).1.state; rw [s1]; exact hs
    · show a ≤ (tick env c).1.lastTime; rcases l1 with l | l <;> rw [l] <;> omega
  | recv env m =>
    obtain ⟨hord, hp'⟩ := hp
    obtain ⟨o1, l1, t1, n1, _, s1, _⟩ := recv_benign_on sr env h c m ho hev
    refine ⟨⟨o1, ?_, ?_, hW', env.now, by omega, by show env.now ≤ (recv sr env c m).1.lastTime; omega, hp',
      hrest⟩, n1⟩
    · show S (recv sr env c m).1.state; rcases s1 with s | s <;> rw [s] <;> assumption
    · show (recv sr env c m).1.testReqId ≠ some 0; rw [t1]; split
      · exact fun hc => nomatch hc
      · exact hid
  | stray env m =>
    obtain ⟨o1, l1, t1, n1, _, s1⟩ := recv_gap_on sr env h c m ho hev
    refine ⟨⟨o1, ?_, ?_, hW', a, ha, by show a ≤ (recv sr env c m).1.lastTime; rw [l1]; exact hal, hp, hrest⟩, n1⟩
    · show S (recv sr env c m).1.state
      rcases s1 with s | s <;> rw [s]
      · exact hs
      · exact hW.resolve_right fun hns => hns env m (List.mem_cons_self ..)
    · show (recv sr env c m).1.testReqId ≠ some 0
      rcases t1 with t | t <;> rw [t]
      · exact hid
      · exact fun hc => nomatch hc

def WEv.toX : WEv → XEv
  | .tick env => .tick env
  | .recv env m => .recv env m

theorem xhist_toX (evs : List WEv) : xhist (evs.map WEv.toX) = hist evs := by
  induction evs with
  | nil => rfl
  | cons ev rest ih => cases ev <;> simp [xhist, hist, WEv.toX, WEv.toEvent, XEv.toEvent] at ih ⊢ <;> exact ih

theorem Paced.toX {g : Int} : ∀ {a : Int} {evs : List WEv}, Paced g a evs → PacedX g a (evs.map WEv.toX)
  | _, [], _ => trivial
  | _, .tick _ :: _, h => ⟨h.1, h.2.1, Paced.toX h.2.2⟩
  | _, .recv _ _ :: _, h => ⟨h.1, Paced.toX h.2⟩

theorem BenignRun.toX {sr : Msg → Bool} :
    ∀ {c : Conn} {evs : List WEv}, BenignRun sr c evs → TolerableRun sr c (evs.map WEv.toX)
  | _, [], _ => trivial
  | _, .tick _ :: _, h => ⟨trivial, BenignRun.toX h.2⟩
  | _, .recv _ _ :: _, h => ⟨h.1, BenignRun.toX h.2⟩

theorem paced_run (S : Nat → Prop) (hA : S st_ACTIVE) (sr : Msg → Bool) (h : Int) (hh : 1 ≤ h) (evs : List WEv)
    (a : Int) (c : Conn) (ho : On h c) (hs : S c.state) (ha : 1000 ≤ a) (hal : a ≤ c.lastTime)
    (hid : c.testReqId ≠ some 0) (hp : Paced (h * 2 * 1000) a evs) (hb : BenignRun sr c evs) :
    On h (run sr c (hist evs)).1 ∧ S (run sr c (hist evs)).1.state ∧ NoDisc (run sr c (hist evs)).2 := by
  rw [← xhist_toX]
  refine paced_run_wide S hA sr h hh _ (Or.inr fun env m hm => ?_) a c ho hs ha hal hid hp.toX hb.toX
  obtain ⟨w, _, hw⟩ := List.mem_map.mp hm
  cases w <;> cases hw

end AsyncFix.Session.Watchdog
