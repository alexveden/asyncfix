/-
C03, part 1: the frame-start marker `8=FIX.` and the field split of a prefix.
The marker's first byte occurs nowhere else in it, so an occurrence cannot straddle the end of a marker-free
block that is followed by that byte (`marker_occ_after`); a prefix of a frame has the frame's leading fields.
-/
import AsyncFix.Lemmas.CodecDecodeOutcome
import AsyncFix.Model.Codec.Frame
namespace AsyncFix.Model.Codec

theorem marker_length : marker.length = 6 := rfl

/-- the first byte of the marker occurs nowhere else in it: a marker occurrence cannot start
inside a non-empty block shorter than the marker that is followed by the marker's first byte -/
theorem marker_no_straddle {a h : Bytes} (ha : a ≠ []) (hl : a.length < 6)
    (hh : ∀ x, h.head? = some x → x = 56) : ¬ marker <+: a ++ h := by
  intro hp
  have key : ∀ (k : Nat) (hk : k < 6), 0 < k → marker[k]'(by rw [marker_length]; exact hk) ≠ 56 := by
    decide
  have hlen : 6 ≤ (a ++ h).length := by simpa [marker_length] using hp.length_le
  have hk : a.length < (a ++ h).length := by omega
  have e := List.IsPrefix.getElem hp (i := a.length) (by rw [marker_length]; exact hl)
  have hpos : 0 < a.length := List.length_pos_iff.2 ha
  rw [List.getElem_append_right (Nat.le_refl _)] at e
  simp only [Nat.sub_self] at e
  have hne : h ≠ [] := by
    intro hn; subst hn; simp at hlen; omega
  have h56 : h[0]'(List.length_pos_iff.2 hne) = 56 := by
    apply hh
    cases h with
    | nil => exact absurd rfl hne
    | cons x xs => simp
  exact key a.length hl hpos (by rw [e]; exact h56)

/-- a marker occurrence in `g ++ h` starts behind `g` when `g` is marker-free and `h` is empty or starts with
the marker's first byte -/
theorem marker_occ_after {g h a b : Bytes} (hg : NoMarker g) (hh : ∀ x, h.head? = some x → x = 56)
    (hs : g ++ h = a ++ (marker ++ b)) : g.length ≤ a.length := by
  refine Nat.le_of_not_lt fun hlt => ?_
  obtain ⟨x, hx, hy⟩ := append_split_of_le hs.symm (Nat.le_of_lt hlt)
  have hxl : 0 < x.length := by
    have := congrArg List.length hx
    simp only [List.length_append] at this; omega
  have hocc : marker <+: x ++ h := ⟨b, hy⟩
  by_cases hl : x.length < 6
  · exact marker_no_straddle (List.length_pos_iff.1 hxl) hl hh hocc
  · obtain ⟨u, hu⟩ := List.prefix_of_prefix_length_le hocc (List.prefix_append x h) (by rw [marker_length]; omega)
    exact findSub_none (by decide) hg a u (by rw [hx, hu])

theorem findSub_marker_junk {g h : Bytes} (hg : NoMarker g) (hh : marker <+: h) :
    findSub marker (g ++ h) = some g.length := by
  obtain ⟨t, rfl⟩ := hh
  exact findSub_eq_of_min (by decide) rfl fun a' b' hs =>
    marker_occ_after hg (by intro x hx; simp [marker] at hx; exact hx.symm) hs

theorem NoMarker_of_prefix {p t : Bytes} (h : NoMarker (p ++ t)) : NoMarker p := by
  unfold NoMarker at *
  cases hf : findSub marker p with
  | none => rfl
  | some i => rw [findSub_append t hf] at h; cases h

theorem NoMarker_drop {g : Bytes} (h : NoMarker g) (d : Nat) : NoMarker (g.drop d) :=
  findSub_eq_none fun a b hs =>
    findSub_none (by decide) h (g.take d ++ a) b
      (by rw [List.append_assoc, ← hs, List.take_append_drop])

theorem NoMarker_append_take {g : Bytes} (hg : NoMarker g) (k : Nat) (hk : k < 6) :
    NoMarker (g ++ marker.take k) := by
  refine findSub_eq_none fun a b hs => ?_
  have h1 := marker_occ_after hg (h := marker.take k) (by
    intro x hx
    cases k with
    | zero => simp at hx
    | succ k' => simp [marker] at hx; exact hx.symm) hs
  have h2 := congrArg List.length hs
  simp only [List.length_append, List.length_take, marker_length] at h2
  omega

theorem take2_dropLast {α : Type} (l : List α) (h : 3 ≤ l.length) : l.dropLast.take 2 = l.take 2 := by
  rw [List.dropLast_eq_take, List.take_take]
  congr 1
  omega

theorem fieldsOf_take2 (x : Bytes) (h : 3 ≤ (fieldsOf x).length) :
    (fieldsOf x).take 2 = (splitOn SOH x).take 2 := by
  rcases splitOn_eq_fieldsOf x with hs | hs <;> rw [hs]
  exact (List.take_append_of_le_length (by omega)).symm

theorem fieldsOf_prefix {e f : Bytes} (hp : e <+: f) (he : 3 ≤ (fieldsOf e).length)
    (hf : 3 ≤ (fieldsOf f).length) : (fieldsOf e).take 2 = (fieldsOf f).take 2 := by
  rw [fieldsOf_take2 e he, fieldsOf_take2 f hf]
  have hpre := splitOn_prefix SOH hp
  have hlen : 3 ≤ (splitOn SOH e).length := Nat.le_trans he (fieldsOf_length_le e)
  rw [← take2_dropLast _ hlen]
  rw [List.prefix_iff_eq_take] at hpre
  rw [hpre, List.take_take]
  congr 1
  simp only [List.length_dropLast]
  omega

end AsyncFix.Model.Codec
