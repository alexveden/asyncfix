/-
C08: a process (open, a list of calls, death after any number of execute()/commit() calls)
leaves the file at a boundary between calls.
-/
import AsyncFix.Lemmas.JournalOps
import AsyncFix.Lemmas.JournalRefine
namespace AsyncFix.Model.Journal

/-- the first of a list of programs: the process dies inside it (the file is as before it or as
after it), or it returns with nothing pending and the others run on what it leaves -/
theorem runProgs_cons {p : Prog Res} {c : Conn} {base j' : Journal} {res : Res} {fit : Bool} {n : Nat}
    (spec : RunSpec p c base j' res fit n) (ps : List (Prog Res)) :
    ((runProgs c (p :: ps) n).2 = 0 ∧
      ((runProgs c (p :: ps) n).1.committed = base ∨ (runProgs c (p :: ps) n).1.committed = j')) ∨
    ∃ c' n', c'.Clean ∧ c'.working = j' ∧
      runProgs c (p :: ps) n = ((runProgs c' ps n').1, (runProgs c' ps n').2 + 1) := by
  simp only [runProgs]
  rcases hrun : p.run n c with ⟨c', n', _ | a⟩
  · have hcm := spec.committed
    rw [hrun] at hcm
    exact .inl ⟨rfl, hcm⟩
  · have hw := spec.working a (by rw [hrun])
    have hcl := spec.clean a (by rw [hrun])
    rw [hrun] at hw hcl
    exact .inr ⟨c', n', hcl, hw, rfl⟩

theorem runProgs_boundary (c : Conn) (hcl : c.Clean) (ops : List Op) (n : Nat) {c' : Conn} {k : Nat}
    (hrun : runProgs c (ops.map Op.prog) n = (c', k)) :
    (∃ m, k ≤ m ∧ m ≤ k + 1 ∧ m ≤ ops.length ∧ c'.committed = applyOps c.committed (ops.take m)) ∧
    (k = ops.length → c'.Clean ∧ c'.working = applyOps c.committed ops) := by
  induction ops generalizing c n c' k with
  | nil => cases hrun; exact ⟨⟨0, Nat.le_refl _, Nat.le_succ _, Nat.le_refl _, rfl⟩, fun _ => ⟨hcl, hcl.working_eq⟩⟩
  | cons op rest ih =>
    rw [List.map_cons] at hrun
    rcases runProgs_cons (op_runSpec c hcl op n) (rest.map Op.prog) with ⟨h0, hcm⟩ | ⟨c1, n1, hcl1, hw1, he⟩
    · -- died inside this call
      rw [hrun] at h0 hcm
      subst h0
      refine ⟨?_, fun h => by simp at h⟩
      rcases hcm with hcm | hcm
      · exact ⟨0, by simp, by simp, by simp, hcm⟩
      · exact ⟨1, by simp, by simp, by simp, by rw [hcm, hcl.committed_eq]; rfl⟩
    · -- the call returned: the others run from its result, with nothing pending
      have hcm1 : c1.committed = (applyOp c.committed op).1 := by rw [hcl1.committed_eq, hw1, hcl.working_eq]
      obtain ⟨⟨m, h1, h2, h3, h4⟩, h5⟩ := ih c1 hcl1 n1 rfl
      cases hrun.symm.trans he
      refine ⟨⟨m + 1, by simpa using h1, by simpa using h2, by simpa using h3, by rw [h4, hcm1]; rfl⟩,
        fun hlen => ?_⟩
      obtain ⟨h6, h7⟩ := h5 (by simpa using hlen)
      exact ⟨h6, by rw [h7, hcm1]; rfl⟩

theorem crash_clean (c : Conn) : c.crash.Clean := rfl

theorem reopen_spec (c : Conn) : (reopen c).working = c.committed ∧ (reopen c).committed = c.committed := by
  obtain ⟨hw1, hc1⟩ := exec_readOnly_clean c.crash .createMsgTable rfl (crash_clean c)
  obtain ⟨hw2, hc2⟩ := exec_readOnly_clean _ .createSessTable rfl ((crash_clean c).of_eq hw1 hc1)
  exact ⟨hw2.trans hw1, hc2.trans hc1⟩

/-- number of *method calls* that returned before the process died (the open is not counted) -/
def completedOps (file : Journal) (ops : List Op) (fuel : Nat) : Nat := (session file ops fuel).2 - 1

theorem session_boundary (file : Journal) (ops : List Op) (k : Nat) :
    (∃ m, completedOps file ops k ≤ m ∧ m ≤ completedOps file ops k + 1 ∧ m ≤ ops.length ∧
        (session file ops k).1.committed = applyOps file (ops.take m)) ∧
    ((session file ops k).2 = ops.length + 1 →
        (session file ops k).1.working = applyOps file ops ∧ (session file ops k).1.Clean) := by
  unfold completedOps session
  rcases runProgs_cons (open_runSpec (connect file) rfl k) (ops.map Op.prog) with
    ⟨h0, hcm⟩ | ⟨c', n', hcl', hw', he⟩
  · -- died inside `Journaler.__init__`, which writes nothing
    rw [h0]
    exact ⟨⟨0, by simp, by simp, by simp, hcm.elim id id⟩, fun h => by simp at h⟩
  · have hcm' : c'.committed = file := hcl'.committed_eq.trans hw'
    obtain ⟨⟨m, h1, h2, h3, h4⟩, h5⟩ := runProgs_boundary c' hcl' ops n' rfl
    rw [he, hcm'] at *
    refine ⟨⟨m, by simpa using h1, by simpa using h2, h3, h4⟩, fun hlen => ?_⟩
    obtain ⟨h6, h7⟩ := h5 (by simpa using hlen)
    exact ⟨h7, h6⟩

end AsyncFix.Model.Journal
