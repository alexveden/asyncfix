/-
How the order object digests the reports of the reference exchange, and the relation between
order, queues and exchange that the convergence proof maintains.

Closed forms of `process_execution_report` / `process_cancel_rej_report` on `execRep` / `cxlRej`
(`feed_execRep`, `feed_cxlRej`) and the cells of the generated table that the closed system exercises.

`drain o q` is the order after it has processed every report in flight.  The invariant says
(1) `ChainP`: processing them never raises, and whenever the order – at that point of the queue –
has no request pending, the next report is an unsolicited execution report under its current ClOrdID;
(2) `Sync0`: the drained order agrees with the exchange, up to the request that is in flight
(`reqSent`) or acknowledged as pending (`reqPending`).
A request built on a stale order commutes with the reports in flight (`ChainP_ovl`).
-/
import AsyncFix.Lemmas.OrderObjLocal
import AsyncFix.Model.OrderLink
namespace AsyncFix.Model.OrderLink
open AsyncFix.Model.OrderObj AsyncFix.Model.Exchange AsyncFix.Model.OrderTable AsyncFix.Props.C16

theorem cs_not_raised {kind : String} (hk : kind ∈ spec.map Prod.fst) (status ex st : String) :
    changeStatus spec status kind ex st false ≠ .raised := by
  intro hr
  rcases trichotomy_partial status kind ex st false hk with h | h | ⟨_, h⟩
  · exact absurd (h.symm.trans hr) (by simp)
  · exact absurd (h.symm.trans hr) (by simp)
  · cases h

theorem cs8_not_raised (status ex st : String) : changeStatus spec status "8" ex st false ≠ .raised :=
  cs_not_raised k8_K status ex st

theorem cs9_not_raised (status ex st : String) : changeStatus spec status "9" ex st false ≠ .raised :=
  cs_not_raised (by decide +kernel) status ex st

/-- while a request is pending, execution reports other than Replaced / Canceled change nothing -/
theorem cs8_pending_none {status ex st : String} (hs : status = "6" ∨ status = "E") (hex : ex ≠ "5")
    (hst : st ≠ "4") : changeStatus spec status "8" ex st false = .none := by
  have hmem : status ∈ sticky := by rcases hs with rfl | rfl <;> decide
  rcases trichotomy_partial status "8" ex st false k8_K with h | h | h
  · exact absurd (sticky_exec _ _ _ _ _ hmem hex h) hst
  · exact h
  · simp at h

/-- base states of the reference exchange -/
def bases : List String := ["A", "0", "1", "2", "4", "8", "C", "9"]

/-- an OrderCancelReject moves a pending order to whatever base state it reports -/
theorem cs9_pending : ∀ cur ∈ ["6", "E"], ∀ st ∈ bases,
    changeStatus spec cur "9" omitted st false = .to st := by decide +kernel

/-- Replaced reports reporting New / PartiallyFilled / Filled are accepted -/
theorem cs8_replaced : ∀ st ∈ ["0", "1", "2"], changeStatus spec "E" "8" "5" st false = .to st := by
  decide +kernel

/-- the transitions (state, ExecType, new state) the exchange makes while no request is involved -/
def idleTrans : List (String × String × String) :=
  [("A", "0", "0"), ("A", "8", "8"), ("0", "F", "1"), ("0", "F", "2"), ("1", "F", "1"), ("1", "F", "2"),
   ("0", "C", "C"), ("1", "C", "C"), ("0", "9", "9"), ("1", "9", "9"), ("9", "D", "0"), ("9", "D", "1")]

theorem cs8_idle : ∀ t ∈ idleTrans, changeStatus spec t.1 "8" t.2.1 t.2.2 false = .to t.2.2 := by
  decide +kernel

theorem cs8_pendnew : changeStatus spec "A" "8" "A" "A" false = .none := by decide +kernel
theorem cs8_cancelled : changeStatus spec "6" "8" "4" "4" false = .to "4" := by decide +kernel

theorem bases_sv : ∀ s ∈ bases, s ∈ statusValues ∧ s ≠ "" := by decide +kernel

/-- the order after an execution report that carries every tag -/
def execApply (o : Order) (oid : Str) (ex : String) (cum lv avg px qty : Int)
    (res : OrderTable.Res) : Order × Res Bool :=
  if ex = "5" then
    finishExec res { o with orderId := some oid, leavesQty := lv, cumQty := cum, avgPx := some avg,
                            price := px, qty := qty, origClordId := none }
  else
    finishExec res { o with orderId := some oid, leavesQty := lv, cumQty := cum, avgPx := some avg }

theorem feed_execRep (o : Order) (e : Exch) (cl : Str) (ex : String) (orig : Option Str)
    (hid : cl = o.clordId ∨ some cl = o.origClordId) :
    feed o (e.execRep cl ex orig) =
      execApply o orderIdC ex e.cum e.leaves e.avgPx e.price e.qty
        (changeStatus spec o.status "8" ex e.reported false) := by
  have hnr := cs8_not_raised o.status ex e.reported
  have hid' : ¬ (cl ≠ o.clordId ∧ some cl ≠ o.origClordId) := by
    intro ⟨h1, h2⟩; rcases hid with h | h
    · exact h1 h
    · exact h2 h
  simp only [feed, Exch.execRep, processExecReport, execApply, applyReplaced]
  simp [hnr, hid']

theorem finishExec_none (o : Order) : finishExec .none o = (o, .ok false) := rfl

theorem finishExec_to (o : Order) {s : String} (hs : s ∈ statusValues ∧ s ≠ "") :
    finishExec (.to s) o = ({ o with status := s }, .ok true) := by
  simp [finishExec, setStatus, hs.1, hs.2]

theorem feed_cxlRej (o : Order) (cl : Str) (orig : Option Str) (st : String) (unk : Bool) :
    feed o (cxlRej cl orig st unk) =
      match changeStatus spec o.status "9" omitted st false with
      | .raised => (o, .raised .fixError)
      | .to s => setStatus (revertId (if st = "8" then { o with leavesQty := 0 } else o)) s
      | .none => (revertId (if st = "8" then { o with leavesQty := 0 } else o), .ok false) := by
  simp only [feed, cxlRej, processCancelRej]
  simp only [ne_eq, not_true_eq_false, if_false, if_true]
  generalize changeStatus spec o.status "9" omitted st false = res
  cases res <;> rfl

def drain (o : Order) : List Report → Order
  | [] => o
  | r :: q => drain (feed o r).1 q

theorem drain_append (o : Order) (q q' : List Report) : drain o (q ++ q') = drain (drain o q) q' := by
  induction q generalizing o with
  | nil => rfl
  | cons r q ih => exact ih _

def nonPending (o : Order) : Prop := o.status ≠ "6" ∧ o.status ≠ "E"

/-- an unsolicited execution report under ClOrdID `x`: not Replaced, not Canceled, no request involved -/
def benign (x : Str) (r : Report) : Prop :=
  ∃ (e : Exch) (ex : String), r = e.execRep x ex none ∧ ex ≠ "5" ∧ e.pending = none ∧
    e.base ∈ bases ∧ e.base ≠ "4"

def ChainP (o : Order) : List Report → Prop
  | [] => True
  | r :: q => (∃ b, (feed o r).2 = .ok b) ∧ (nonPending o → benign o.clordId r) ∧ ChainP (feed o r).1 q

theorem ChainP_append (o : Order) (q q' : List Report) :
    ChainP o (q ++ q') ↔ ChainP o q ∧ ChainP (drain o q) q' := by
  induction q generalizing o with
  | nil => simp [ChainP, drain]
  | cons r q ih =>
    simp only [List.cons_append, ChainP, drain, ih]
    constructor
    · intro ⟨h1, h2, h3, h4⟩; exact ⟨⟨h1, h2, h3⟩, h4⟩
    · intro ⟨⟨h1, h2, h3⟩, h4⟩; exact ⟨h1, h2, h3, h4⟩

theorem reported_of_pending_none {e : Exch} (h : e.pending = none) : e.reported = e.base := by
  simp [Exch.reported, h]

theorem feed_benign (o : Order) (r : Report) (hb : benign o.clordId r) :
    (feed o r).1.clordId = o.clordId ∧
    ((feed o r).1.status = o.status ∨ ((feed o r).1.status ∈ bases ∧ (feed o r).1.status ≠ "4")) := by
  obtain ⟨e, ex, rfl, hex, hp, hbase, hb4⟩ := hb
  rw [feed_execRep o e o.clordId ex none (Or.inl rfl), reported_of_pending_none hp]
  simp only [execApply, hex, if_false]
  rcases finishExec_shape (changeStatus spec o.status "8" ex e.base false)
    { o with orderId := some orderIdC, leavesQty := e.leaves, cumQty := e.cum, avgPx := some e.avgPx }
    with h | ⟨s, hs, _, h⟩ <;> rw [h]
  · exact ⟨rfl, Or.inl rfl⟩
  · obtain rfl := (changeStatus_eq_to.mp hs).1
    exact ⟨rfl, Or.inr ⟨hbase, hb4⟩⟩

theorem bases_nonPending {s : String} (h : s ∈ bases) : s ≠ "6" ∧ s ≠ "E" := by
  revert s; decide

/-- the part of the order a request overwrites -/
structure Ovl where
  status : String
  orig : Str
  clord : Str
  cnt : Nat

def ovl (p : Ovl) (o : Order) : Order :=
  { o with status := p.status, origClordId := some p.orig, clordId := p.clord, clordCnt := p.cnt }

theorem startRequest_eq_ovl (o : Order) (s : String) :
    startRequest o s = ovl ⟨s, o.clordId, nextId o, o.clordCnt + 1⟩ o := rfl

theorem ovl_finishExec (p : Ovl) (res : OrderTable.Res) (o : Order) : ovl p (finishExec res o).1 = ovl p o := by
  rcases finishExec_shape res o with h | ⟨s, _, _, h⟩ <;> rw [h] <;> rfl

/-- a benign report is digested the same way before and after the request was built: the status
it might set is the one field the request overwrites, and the pending order ignores the report's -/
theorem feed_ovl (p : Ovl) (o : Order) (r : Report) (hp : p.status = "6" ∨ p.status = "E")
    (hx : p.orig = o.clordId) (hb : benign o.clordId r) :
    feed (ovl p o) r = (ovl p (feed o r).1, .ok false) := by
  obtain ⟨e, ex, rfl, hex, hpn, _, hb4⟩ := hb
  rw [feed_execRep (ovl p o) e o.clordId ex none (Or.inr (by simp [ovl, hx])),
    feed_execRep o e o.clordId ex none (Or.inl rfl), reported_of_pending_none hpn,
    show (ovl p o).status = p.status from rfl, cs8_pending_none hp hex hb4]
  simp only [execApply, hex, if_false, finishExec_none, ovl_finishExec]
  rfl

/-- a request built while reports are in flight commutes with them -/
theorem ChainP_ovl (p : Ovl) (hp : p.status = "6" ∨ p.status = "E") (q : List Report) :
    ∀ o : Order, nonPending o → p.orig = o.clordId → ChainP o q →
      ChainP (ovl p o) q ∧ drain (ovl p o) q = ovl p (drain o q) ∧ nonPending (drain o q) ∧
      (drain o q).clordId = o.clordId ∧ ((drain o q).status = o.status ∨ (drain o q).status ∈ bases) := by
  induction q with
  | nil => intro o hn _ _; exact ⟨trivial, rfl, hn, rfl, Or.inl rfl⟩
  | cons r q ih =>
    intro o hn hx hc
    obtain ⟨_, hben, hrest⟩ := hc
    have hb := hben hn
    have hf := feed_ovl p o r hp hx hb
    obtain ⟨hcl, hs⟩ := feed_benign o r hb
    have hn' : nonPending (feed o r).1 := by
      rcases hs with h | ⟨h, _⟩
      · unfold nonPending; rw [h]; exact hn
      · exact bases_nonPending h
    obtain ⟨i1, i2, i3, i4, i5⟩ := ih (feed o r).1 hn' (hx.trans hcl.symm) hrest
    refine ⟨⟨⟨false, by rw [hf]⟩, ?_, by rw [hf]; exact i1⟩, ?_, i3, i4.trans hcl, ?_⟩
    · intro hnp
      exact absurd hnp (by rcases hp with h | h <;> simp [nonPending, ovl, h])
    · simp only [drain]; rw [hf]; exact i2
    · show (drain (feed o r).1 q).status = o.status ∨ (drain (feed o r).1 q).status ∈ bases
      rcases i5 with h5 | h5
      · rw [h5]; exact hs.imp_right And.left
      · exact Or.inr h5

structure Nums (o : Order) (e : Exch) : Prop where
  cum : o.cumQty = e.cum
  leaves : o.leavesQty = e.leaves
  price : o.price = e.price
  qty : o.qty = e.qty

/-- status a request of kind F / G puts the order in -/
def pstat (k : String) : String := if k = "F" then "6" else "E"

/-- nothing sent yet -/
structure SCreated (o : Order) (e : Exch) : Prop where
  known : e.known = false
  pend : e.pending = none
  status : o.status = "Z"
  orig : o.origClordId = none

/-- NewOrderSingle `m` in flight; `oo` is whatever OrigClOrdID it carries: the builder sets none, and the
exchange does not read that tag of a new order, so nothing is asked of it -/
structure SNew (o : Order) (e : Exch) (m : Msg) (oo : Option Str) : Prop where
  known : e.known = false
  pend : e.pending = none
  status : o.status = "A"
  orig : o.origClordId = none
  clne : o.clordId ≠ []
  req : Req.ofMsg m = ⟨"D", some o.clordId, oo, some o.price, some o.qty⟩

/-- no request of the client involved -/
structure SIdle (o : Order) (e : Exch) : Prop where
  known : e.known = true
  pend : e.pending = none
  status : o.status = e.base
  base : e.base ∈ bases
  clord : o.clordId = e.liveId
  livene : e.liveId ≠ []
  orig : e.base ≠ "4" → o.origClordId = none
  rej0 : e.base = "8" → e.leaves = 0
  nums : Nums o e

/-- cancel ("F") / replace ("G") request `m` in flight -/
structure SSent (o : Order) (e : Exch) (m : Msg) (k : String) (pr qr : Option Int) : Prop where
  known : e.known = true
  pend : e.pending = none
  base : e.base ∈ bases
  kind : k = "F" ∨ k = "G"
  req : Req.ofMsg m = ⟨k, some o.clordId, some e.liveId, pr, qr⟩
  orig : o.origClordId = some e.liveId
  livene : e.liveId ≠ []
  clne : o.clordId ≠ []
  status : o.status = pstat k
  rej0 : e.base = "8" → e.leaves = 0
  nums : Nums o e

/-- request `p` acknowledged as pending by the exchange -/
structure SPend (o : Order) (e : Exch) (p : PReq) : Prop where
  known : e.known = true
  pend : e.pending = some p
  kind : p.kind = "F" ∨ p.kind = "G"
  pcl : p.clOrdId = o.clordId
  orig : o.origClordId = some e.liveId
  livene : e.liveId ≠ []
  clne : o.clordId ≠ []
  status : o.status = pstat p.kind
  live : live e.base = true
  nums : Nums o e

inductive Sync0 : Order → List Msg → Exch → Prop
  | created {o : Order} {e : Exch} (h : SCreated o e) : Sync0 o [] e
  | newSent {o : Order} {e : Exch} (m : Msg) (oo : Option Str) (h : SNew o e m oo) : Sync0 o [m] e
  | idle {o : Order} {e : Exch} (h : SIdle o e) : Sync0 o [] e
  | reqSent {o : Order} {e : Exch} (m : Msg) (k : String) (pr qr : Option Int) (h : SSent o e m k pr qr) :
      Sync0 o [m] e
  | reqPending {o : Order} {e : Exch} (p : PReq) (h : SPend o e p) : Sync0 o [] e

end AsyncFix.Model.OrderLink
