import AsyncFix.Lemmas.SchedSendCore
import AsyncFix.Model.SchedRun

/-!
`Ok`: EVERY segment of a resumption, from whatever connection its task is resumed on, satisfies `Seg` (given `J`
at its start) – until a segment carries a ghost mark `rewind` or `waive`, from where on nothing is claimed.
Rules through the resumption monad, and `ROk` for every handler of `Model/SchedHandlers.lean` up to the task bodies
(`resendLoopR` has none: it runs after the `rewind` mark of `processResendR`).
-/
namespace AsyncFix.Sched

open AsyncFix.Session AsyncFix.Generated AsyncFix.Generated.ConnEnum

variable {α β : Type} {i : Bool}

/-- no mark that ends the claims: neither `rewind` nor `waive` -/
def noRewind (g : List Ghost) : Bool := !g.contains .rewind && !g.contains .waive

theorem noRewind_append (a b : List Ghost) : noRewind (a ++ b) = (noRewind a && noRewind b) := by
  simp only [noRewind, List.contains_eq_mem, List.mem_append, Bool.decide_or, Bool.not_or]
  ac_rfl

def Ok (i : Bool) : Conn → Res α → Prop
  | c0, .done c e g r => noRewind g = true → J c0 → Seg i c0 c (e ++ pend r)
  | c0, .yield c e g _ k =>
    (noRewind g = true → J c0 → Seg i c0 c e) ∧ (noRewind g = true → ∀ c1, Ok i c1 (k c1))

/-- a coroutine body all of whose segments are fine (a structure, so that `intro` does not unfold it) -/
structure ROk (i : Bool) (x : R α) : Prop where
  out : ∀ c, Ok i c (x c)

theorem Ok.prepend {c0 c : Conn} {e : List Effect} {g : List Ghost} {r : Res α}
    (h1 : noRewind g = true → J c0 → Seg i c0 c e) (h2 : Ok i c r) : Ok i c0 (r.prepend e g) := by
  cases r with
  | done c' e' g' r' =>
    intro hg hJ
    rw [noRewind_append, Bool.and_eq_true] at hg
    have s1 := h1 hg.1 hJ
    have s2 := h2 hg.2 s1.inv
    simpa [List.append_assoc] using s1.trans s2
  | yield c' e' g' pt k =>
    refine ⟨?_, ?_⟩
    · intro hg hJ
      rw [noRewind_append, Bool.and_eq_true] at hg
      have s1 := h1 hg.1 hJ
      exact s1.trans (h2.1 hg.2 s1.inv)
    · intro hg
      rw [noRewind_append, Bool.and_eq_true] at hg
      exact h2.2 hg.2

theorem Ok.bind {c0 : Conn} {r : Res α} {f : α → Conn → Res β}
    (h : Ok i c0 r) (hf : ∀ a c, Ok i c (f a c)) : Ok i c0 (r.bind f) := by
  induction r generalizing c0 with
  | done c e g r =>
    cases r with
    | ok a =>
      refine Ok.prepend (c := c) ?_ (hf a c)
      intro hg hJ
      simpa [pend] using h hg hJ
    | error ex => exact h
  | yield c e g pt k ih =>
    exact ⟨h.1, fun hg c1 => ih c1 (h.2 hg c1)⟩

theorem Ok.mono {i' : Bool} {c0 : Conn} {r : Res α} (hi : i' = false → i = false) (h : Ok i c0 r) : Ok i' c0 r := by
  induction r generalizing c0 with
  | done c e g r => exact fun hg hJ => (h hg hJ).mono hi
  | yield c e g pt k ih => exact ⟨fun hg hJ => (h.1 hg hJ).mono hi, fun hg c1 => ih c1 (h.2 hg c1)⟩

/-- `try: r except Exception as ex: hnd ex`: the handler answers for the segment in which the exception was raised,
the exception still counted at its end -/
theorem Ok.tryCatch {i' : Bool} {c0 : Conn} {r : Res α} {hnd : Exc → Conn → Res α} (hi : i' = false → i = false)
    (h : Ok i c0 r)
    (hh : ∀ c0 c e g ex, (noRewind g = true → J c0 → Seg i c0 c (e ++ [.raised ex])) →
      Ok i' c0 ((hnd ex c).prepend e g)) :
    Ok i' c0 (r.tryCatch hnd) := by
  induction r generalizing c0 with
  | done c e g r =>
    cases r with
    | ok a => exact h.mono hi
    | error ex => exact hh c0 c e g ex h
  | yield c e g pt k ih => exact ⟨fun hg hJ => (h.1 hg hJ).mono hi, fun hg c1 => ih c1 (h.2 hg c1)⟩

/-- `except Exception: log; result d` around a body without inbound journal writes -/
theorem Ok.swallow {c0 : Conn} {r : Res α} (d : α) (h : Ok false c0 r) :
    Ok i c0 (r.tryCatch fun ex c => .done c [.caught ex] [] (.ok d)) :=
  Ok.tryCatch (fun _ => rfl) h fun _ _ _ _ _ hs hg hJ => by
    simpa [pend] using (hs (by simpa using hg) hJ).caught_of_raised (i := i)

theorem Ok.of_marked {c0 : Conn} {r : Res α} (h : noRewind r.ghosts = false) : Ok i c0 r := by
  cases r with
  | done c e g r => exact fun hg => absurd hg (by simp [show noRewind g = false from h])
  | yield c e g pt k =>
    exact ⟨fun hg => absurd hg (by simp [show noRewind g = false from h]),
      fun hg => absurd hg (by simp [show noRewind g = false from h])⟩

theorem Res.ghosts_prepend (e : List Effect) (g : List Ghost) (r : Res α) : (r.prepend e g).ghosts = g ++ r.ghosts := by
  cases r <;> rfl

/-- `try: x except Exception as ex: hnd ex` where the handler is fine for benign exceptions and waives the
claims (ghost mark first) for the others -/
theorem Ok.tryCatch_waive {c0 : Conn} {r : Res α} {hnd : Exc → Conn → Res α} (h : Ok i c0 r)
    (hb : ∀ ex c, benign ex = true → Ok i c (hnd ex c))
    (hw : ∀ ex c, benign ex = false → noRewind (hnd ex c).ghosts = false) :
    Ok i c0 (r.tryCatch hnd) :=
  Ok.tryCatch id h fun _ c e g ex hs => by
    cases hben : benign ex with
    | true => exact Ok.prepend (c := c) (fun hg hJ => (hs hg hJ).drop_raised hben) (hb ex c hben)
    | false => exact Ok.of_marked (by rw [Res.ghosts_prepend, noRewind_append, hw ex c hben, Bool.and_false])

namespace ROk

theorem weaken {x : R α} (h : ROk false x) : ROk i x := ⟨fun c => (h.out c).mono fun _ => rfl⟩

theorem pure (a : α) : ROk i (Pure.pure a : R α) := ⟨fun _ _ hJ => Seg.refl hJ⟩

theorem bind {x : R α} {f : α → R β} (hx : ROk i x) (hf : ∀ a, ROk i (f a)) : ROk i (x >>= f) :=
  ⟨fun c => Ok.bind (hx.out c) fun a c' => (hf a).out c'⟩

theorem liftM {x : M α} (h : MSpec i x) : ROk i (R.liftM x) := by
  constructor
  intro c
  have := h.out c
  unfold R.liftM
  rcases hx : x c with ⟨r, c1, e⟩
  rw [hx] at this
  exact fun _ hJ => this hJ

theorem yield (pt : YieldPoint) : ROk i (R.yield pt) :=
  ⟨fun _ => ⟨fun _ hJ => Seg.refl hJ, fun _ _ _ hJ => Seg.refl hJ⟩⟩

theorem hook {e : Effect} (pt : YieldPoint) (h : quiet e = true := by rfl) : ROk i (R.hook e pt) :=
  ⟨fun _ => ⟨fun _ hJ => seg_quiet hJ h, fun _ _ _ hJ => Seg.refl hJ⟩⟩

theorem ghost (g : Ghost) : ROk i (R.ghost g) := ⟨fun _ _ hJ => Seg.refl hJ⟩

/-- nothing is claimed from the rewinding `set_seq_num` on -/
theorem rewind_bind (f : Unit → R β) : ROk i (R.ghost .rewind >>= f) :=
  ⟨fun c => Ok.of_marked (r := (f () c).prepend [] [.rewind]) (by simp [Res.ghosts_prepend, noRewind])⟩

/-- nothing is claimed after a `waive` mark either -/
theorem waive_bind (f : Unit → R β) : ROk i (R.ghost .waive >>= f) :=
  ⟨fun c => Ok.of_marked (r := (f () c).prepend [] [.waive]) (by simp [Res.ghosts_prepend, noRewind])⟩

theorem ite {p : Prop} [Decidable p] {a b : R α} (ha : ROk i a) (hb : ROk i b) :
    ROk i (if p then a else b) := by
  split <;> assumption

theorem get : ROk i R.get := liftM MSpec.get
theorem modify {f : Conn → Conn} (h1 : ∀ c, (f c).sess.nextOut = c.sess.nextOut)
    (h2 : ∀ c, (f c).journal.out = c.journal.out) (h3 : ∀ c, (f c).journal.outSeq = c.journal.outSeq) :
    ROk i (R.modify f) := liftM (MSpec.modify h1 h2 h3)
theorem throw {ex : Exc} (h : benign ex = true := by rfl) : ROk i (R.throw ex : R α) := liftM (MSpec.throw h)
theorem liftE_get (m : Msg) (t : Nat) : ROk i (R.liftE (m.get t)) := liftM (MSpec.liftE_get m t)
theorem assert (b : Bool) : ROk i (R.assert b) := liftM (MSpec.assert b)
theorem int (s : String) : ROk i (R.int s) := liftM (MSpec.int s)

/-- `try: x except Exception: y; raise` (with the bookkeeping mark of `rethrowAfter`) -/
theorem tryCatch_rethrow {x : R α} {y : R Unit} (hx : ROk i x) (hy : ROk i y) :
    ROk i (R.tryCatch x (rethrowAfter y)) := by
  have hcond : ∀ ex : Exc, (ex == .duplicateSeqNo || ex == .attribute) = !benign ex := fun ex => by
    simp [benign, bne]
  refine ⟨fun c => Ok.tryCatch_waive (hx.out c) (fun ex c1 hben => ?_) fun ex c1 hnb => ?_⟩
  · have h : ROk i (rethrowAfter (α := α) y ex) := by
      unfold rethrowAfter
      rw [hcond, hben]
      exact bind hy fun _ => throw hben
    exact h.out c1
  · unfold rethrowAfter
    rw [hcond, hnb]
    show noRewind (((y >>= fun _ => (R.throw ex : R α)) c1).prepend [] [.waive]).ghosts = false
    rw [Res.ghosts_prepend, noRewind_append]
    rfl

theorem swallow {x : R α} (d : α) (hx : ROk false x) : ROk i (swallowR d x) :=
  ⟨fun c => Ok.swallow d (hx.out c)⟩

end ROk

set_option hygiene false in
/-- the walk for `ROk`, over the resumption monad; `rewind_bind` comes before `bind` because the part after the rewind
is not `ROk` -/
macro "rok_tac" "[" ls:term,* "]" : tactic =>
  `(tactic| walk_tac [$ls,*]
      with AsyncFix.Sched.ROk.rewind_bind AsyncFix.Sched.ROk.bind AsyncFix.Sched.ROk.ite AsyncFix.Sched.ROk.pure
        AsyncFix.Sched.ROk.throw AsyncFix.Sched.ROk.get AsyncFix.Sched.ROk.liftE_get AsyncFix.Sched.ROk.assert
        AsyncFix.Sched.ROk.int AsyncFix.Sched.ROk.yield AsyncFix.Sched.ROk.hook AsyncFix.Sched.ROk.modify
        AsyncFix.Sched.ROk.tryCatch_rethrow
      opening)

theorem stateSetR_ok (s : Nat) : ROk i (stateSetR s) := by
  unfold stateSetR
  rok_tac [ROk.liftM (stateSet_spec _)]

theorem sendGateR_ok (m : Msg) : ROk i (sendGateR m) := by
  unfold sendGateR
  rok_tac [stateSetR_ok]

/-- `send_msg` is fine whenever its await-free core is: the gate, the core in one segment, the `drain` yield -/
theorem sendMsgR_of_core (env : Env) {m : Msg} (h : MSpec i (sendCore env m)) : ROk i (sendMsgR env m) := by
  unfold sendMsgR sendCoreR
  exact ROk.bind (sendGateR_ok m) fun _ => ROk.bind (ROk.liftM h) fun _ => ROk.yield _

theorem sendMsgR_ok (env : Env) {m : Msg} (hm : Plain m) : ROk i (sendMsgR env m) :=
  sendMsgR_of_core env (sendCore_spec env hm.isNew)

theorem sendTestReqR_ok (env : Env) : ROk i (sendTestReqR env) := by
  unfold sendTestReqR
  rok_tac [sendMsgR_ok env (testRequestMsg_plain env)]

theorem disconnectR_ok (env : Env) (d : Nat) (l : Option String) : ROk i (disconnectR env d l) := by
  unfold disconnectR
  rok_tac [stateSetR_ok, ROk.swallow () (sendMsgR_ok env (logoutMsg_plain _))]

theorem processLogonR_ok (env : Env) (m : Msg) : ROk i (processLogonR env m) := by
  unfold processLogonR
  rok_tac [stateSetR_ok, disconnectR_ok, sendMsgR_ok env (logonReplyMsg_plain _ _)]

theorem checkSeqnumGapsR_ok (env : Env) (n : Int) : ROk i (checkSeqnumGapsR env n) := by
  unfold checkSeqnumGapsR
  rok_tac [stateSetR_ok, sendMsgR_ok env (resendRequestMsg_plain _)]

theorem processLogoutR_ok (env : Env) (m : Msg) : ROk i (processLogoutR env m) := by
  unfold processLogoutR
  rok_tac [disconnectR_ok]

/-- `_process_resend`: everything before the rewinding `set_seq_num` (state change, asserts, range
check); from the rewind on nothing is claimed -/
theorem processResendR_ok (env : Env) (sr : Msg → Bool) (m : Msg) : ROk i (processResendR env sr m) := by
  unfold processResendR
  rok_tac [stateSetR_ok]

theorem finalizeMessageR_ok (env : Env) (m : Msg) : ROk true (finalizeMessageR env m) := by
  unfold finalizeMessageR
  rok_tac [stateSetR_ok, ROk.liftM (setNextNumIn_spec _), ROk.liftM (persistInbound_spec _)]

theorem processTestRequestR_ok (env : Env) (m : Msg) : ROk i (processTestRequestR env m) := by
  unfold processTestRequestR
  rok_tac [sendMsgR_ok env (heartbeatMsg_plain _)]

theorem processHeartbeatR_ok (env : Env) (m : Msg) : ROk i (processHeartbeatR env m) := by
  unfold processHeartbeatR
  rok_tac [disconnectR_ok]

theorem processHeadR_ok (env : Env) (m : Msg) : ROk i (processHeadR env m) := by
  unfold processHeadR
  rok_tac [stateSetR_ok, disconnectR_ok, processLogonR_ok, processLogoutR_ok, checkSeqnumGapsR_ok,
    ROk.liftM (processSeqreset_spec _)]

theorem processDispatchR_ok (env : Env) (sr : Msg → Bool) (m : Msg) (valid : Bool) (n : Int) :
    ROk i (processDispatchR env sr m valid n) := by
  unfold processDispatchR
  rok_tac [processResendR_ok, processTestRequestR_ok, processHeartbeatR_ok]

/-- the reader task's coroutine, for ANY inbound frame -/
theorem processMessageR_ok (env : Env) (sr : Msg → Bool) (m : Msg) : ROk true (processMessageR env sr m) := by
  unfold processMessageR
  rok_tac [disconnectR_ok, ROk.liftM (validateIntegrity_spec _), finalizeMessageR_ok, ROk.swallow,
    processHeadR_ok, processDispatchR_ok]

theorem tickBodyR_ok (env : Env) : ROk i (tickBodyR env) := by
  unfold tickBodyR
  rok_tac [disconnectR_ok, sendTestReqR_ok]

end AsyncFix.Sched
