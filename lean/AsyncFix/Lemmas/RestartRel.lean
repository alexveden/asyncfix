import AsyncFix.Lemmas.RestartMonad

/-!
Specifications that speak only of runs that RETURN, under an effect guard (`excFree`: nothing swallowed either):
`OkSpec g x Q`, its relational case `OkRel g R x` for `Compositional` relations, post-conditions `OkPost`, and the
walk `ok_tac` (`walk_tac` with the rules of `OkRel`); `swallow` passes because a swallowed exception leaves a `caught` effect.
-/

namespace AsyncFix.Session

/-- `do y; raise ex` never returns -/
theorem M.bind_throw_res {α γ : Type} (y : M α) (ex : Exc) (c : Conn) :
    ∃ ex' c' e', (y >>= fun _ => (M.throw ex : M γ)) c = ⟨.error ex', c', e'⟩ := by
  rw [M.bind_apply]
  rcases y c with ⟨r, c1, e1⟩
  cases r with
  | error e0 => exact ⟨e0, c1, e1, rfl⟩
  | ok a => exact ⟨ex, c1, e1 ++ [], rfl⟩

/-- `try: x except Exception as ex: y; raise` returns only when `x` returns, with `x`'s outcome -/
theorem M.tryCatch_rethrow_ok {α β : Type} {x : M α} {y : M β} {c c' : Conn} {a : α} {e : List Effect}
    (h : M.tryCatch x (fun ex => y >>= fun _ => (M.throw ex : M α)) c = ⟨.ok a, c', e⟩) :
    x c = ⟨.ok a, c', e⟩ := by
  rcases hx : x c with ⟨r, c1, e1⟩
  cases r with
  | ok b => rw [M.tryCatch_ok hx] at h; exact h
  | error ex =>
    rw [M.tryCatch_err hx] at h
    obtain ⟨ex', c2, e2, h2⟩ := M.bind_throw_res (γ := α) y ex c1
    rw [h2] at h
    cases h

end AsyncFix.Session

namespace AsyncFix.Restart

open AsyncFix.Session AsyncFix.Generated AsyncFix.Generated.ConnEnum

/-- no exception was swallowed (`caught`) and none escaped (`raised`) -/
def excFree (e : List Effect) : Bool :=
  e.all fun x => match x with
    | .caught _ => false
    | .raised _ => false
    | _ => true

class EffGuard (g : List Effect → Bool) : Prop where
  nil : g [] = true
  app : ∀ a b, g (a ++ b) = (g a && g b)

instance : EffGuard excFree where
  nil := rfl
  app := fun a b => by simp [excFree, List.all_append]

def noGuard (_ : List Effect) : Bool := true

instance : EffGuard noGuard where
  nil := rfl
  app := fun _ _ => rfl

theorem excFree_append (a b : List Effect) : excFree (a ++ b) = (excFree a && excFree b) := EffGuard.app a b

structure OkSpec {α : Type} (g : List Effect → Bool) (x : M α)
    (Q : Conn → α → Conn → List Effect → Prop) : Prop where
  out : ∀ c a c' e, x c = ⟨.ok a, c', e⟩ → g e = true → Q c a c' e

abbrev OkRel {α : Type} (g : List Effect → Bool) (R : Conn → Conn → List Effect → Prop) (x : M α) : Prop :=
  OkSpec g x (fun c _ c' e => R c c' e)

namespace OkSpec
variable {α β : Type} {g : List Effect → Bool}

theorem conseq {x : M α} {Q Q' : Conn → α → Conn → List Effect → Prop}
    (h : OkSpec g x Q) (hq : ∀ c a c' e, Q c a c' e → Q' c a c' e) : OkSpec g x Q' :=
  ⟨fun c a c' e hx hg => hq _ _ _ _ (h.out c a c' e hx hg)⟩

theorem and {x : M α} {Q Q' : Conn → α → Conn → List Effect → Prop}
    (h : OkSpec g x Q) (h' : OkSpec g x Q') : OkSpec g x (fun c a c' e => Q c a c' e ∧ Q' c a c' e) :=
  ⟨fun c a c' e hx hg => ⟨h.out c a c' e hx hg, h'.out c a c' e hx hg⟩⟩

theorem bind [EffGuard g] {x : M α} {f : α → M β} {Q1 : Conn → α → Conn → List Effect → Prop}
    {Q2 : α → Conn → β → Conn → List Effect → Prop} {Q : Conn → β → Conn → List Effect → Prop}
    (hx : OkSpec g x Q1) (hf : ∀ a, OkSpec g (f a) (Q2 a))
    (comb : ∀ c a c1 e1 b c2 e2, Q1 c a c1 e1 → Q2 a c1 b c2 e2 → Q c b c2 (e1 ++ e2)) :
    OkSpec g (x >>= f) Q := by
  constructor
  intro c b c2 e hxc hg
  rcases hx1 : x c with ⟨r, c1, e1⟩
  cases r with
  | error ex => rw [M.bind_err hx1] at hxc; cases hxc
  | ok a =>
    rw [M.bind_ok hx1] at hxc
    rcases hf1 : f a c1 with ⟨r2, c2', e2⟩
    rw [hf1] at hxc
    simp only [Out.mk.injEq] at hxc
    obtain ⟨hr, hc, he⟩ := hxc
    subst hr hc he
    rw [EffGuard.app (g := g), Bool.and_eq_true] at hg
    exact comb _ _ _ _ _ _ _ (hx.out _ _ _ _ hx1 hg.1) ((hf a).out _ _ _ _ hf1 hg.2)

theorem ofRel {R : Conn → Conn → List Effect → Prop} {x : M α} (h : M.Rel R x) : OkRel g R x :=
  ⟨fun c a c' e hx _ => by have := h.out c; rw [hx] at this; exact this⟩

end OkSpec

namespace OkRel

section
variable {α : Type} {g : List Effect → Bool} {R : Conn → Conn → List Effect → Prop} [Compositional R]

theorem pure (a : α) : OkRel g R (Pure.pure a : M α) := OkSpec.ofRel (M.Rel.pure a)
theorem throw (ex : Exc) : OkRel g R (M.throw ex : M α) := OkSpec.ofRel (M.Rel.throw ex)
theorem get : OkRel g R M.get := OkSpec.ofRel M.Rel.get
theorem liftE (x : Except Exc α) : OkRel g R (M.liftE x) := OkSpec.ofRel (M.Rel.liftE x)
theorem int (s : String) : OkRel g R (M.int s) := OkSpec.ofRel (M.Rel.int s)
end

variable {α β : Type} {g : List Effect → Bool} [EffGuard g]
  {R : Conn → Conn → List Effect → Prop} [Compositional R]

-- stated for guards, like `bind`, although an assertion adds nothing to the trace
set_option linter.unusedSectionVars false in
theorem assert (b : Bool) : OkRel g R (M.assert b) := OkSpec.ofRel (M.Rel.assert b)

theorem bind {x : M α} {f : α → M β} (hx : OkRel g R x) (hf : ∀ a, OkRel g R (f a)) :
    OkRel g R (x >>= f) :=
  OkSpec.bind hx hf (fun _ _ _ _ _ _ _ h1 h2 => Compositional.trans h1 h2)

omit [EffGuard g] [Compositional R] in
theorem ite {p : Prop} [Decidable p] {a b : M α} (ha : OkRel g R a) (hb : OkRel g R b) :
    OkRel g R (if p then a else b) := by
  split <;> assumption

end OkRel

/-- `swallow`: either `x` returned, or a `caught` effect was emitted -/
theorem OkSpec.swallow {α : Type} {x : M α} {d : α} {Q : Conn → α → Conn → List Effect → Prop}
    (hx : OkSpec excFree x Q) : OkSpec excFree (swallow d x) Q := by
  constructor
  intro c a c' e h hg
  unfold Session.swallow at h
  rcases hx1 : x c with ⟨r, c1, e1⟩
  cases r with
  | ok a1 =>
    rw [M.tryCatch_ok hx1] at h
    cases h
    exact hx.out _ _ _ _ hx1 hg
  | error ex =>
    rw [M.tryCatch_err hx1] at h
    have : e = e1 ++ [Effect.caught ex] := by
      have := congrArg Out.eff h
      simpa [M.bind_ok (M.emit_apply (Effect.caught ex) c1)] using this.symm
    subst this
    simp [excFree, List.all_append] at hg

/-- `try: x except Exception as ex: y; raise`: on runs without exceptions it is `x` -/
theorem OkSpec.tryCatch_rethrow {α β : Type} {g : List Effect → Bool} {x : M α} {y : M β}
    {Q : Conn → α → Conn → List Effect → Prop} (hx : OkSpec g x Q) :
    OkSpec g (M.tryCatch x fun ex => y >>= fun _ => (M.throw ex : M α)) Q :=
  ⟨fun c a c' e h hg => hx.out c a c' e (M.tryCatch_rethrow_ok h) hg⟩

/-- the connection `M.get` hands on is the one the rest starts from -/
theorem OkSpec.get_bind {β : Type} {g : List Effect → Bool} {f : Conn → M β}
    {Q : Conn → β → Conn → List Effect → Prop}
    (h : ∀ c0, OkSpec g (f c0) (fun c b c' e => c = c0 → Q c b c' e)) : OkSpec g (M.get >>= f) Q :=
  ⟨fun c b c' e hx hg => by rw [M.get_bind_apply] at hx; exact (h c).out c b c' e hx hg rfl⟩

/-- a step that leaves connection and trace alone (an assertion, a field read, `int()`) -/
theorem OkSpec.bind_same {α β : Type} {g : List Effect → Bool} [EffGuard g] {x : M α} {f : α → M β}
    {Q : Conn → β → Conn → List Effect → Prop} (hx : M.Rel (fun c c1 e1 => e1 = [] ∧ c1 = c) x)
    (hf : ∀ a, OkSpec g (f a) Q) :
    OkSpec g (x >>= f) Q :=
  OkSpec.bind (Q1 := fun c _ c1 e1 => e1 = [] ∧ c1 = c) (OkSpec.ofRel hx) hf
    fun _ _ _ _ _ _ _ h1 h2 => by obtain ⟨rfl, rfl⟩ := h1; exact h2

/-- a post-condition on the value returned and the final state only -/
abbrev OkPost {α : Type} (g : List Effect → Bool) (x : M α) (P : α → Conn → Prop) : Prop :=
  OkSpec g x (fun _ a c' _ => P a c')

theorem OkPost.skip {α β : Type} {g : List Effect → Bool} [EffGuard g] {x : M α} {f : α → M β} {P : β → Conn → Prop}
    (h : ∀ a, OkPost g (f a) P) : OkPost g (x >>= f) P :=
  OkSpec.bind (Q1 := fun _ _ _ _ => True) ⟨fun _ _ _ _ _ _ => trivial⟩ h (fun _ _ _ _ _ _ _ _ h2 => h2)

theorem OkPost.pure {α : Type} {g : List Effect → Bool} {a : α} {P : α → Conn → Prop} (h : ∀ c, P a c) :
    OkPost g (Pure.pure a : M α) P :=
  ⟨fun c _ _ _ hx _ => by cases hx; exact h c⟩

theorem OkPost.liftE_bind {α β : Type} {g : List Effect → Bool} {x : Except Exc α} {f : α → M β} {P : β → Conn → Prop}
    (h : ∀ a, x = .ok a → OkPost g (f a) P) : OkPost g (M.liftE x >>= f) P := by
  constructor
  intro c b c' e hx hg
  cases x with
  | error ex => rw [M.liftE_error_bind_apply] at hx; cases hx
  | ok a => rw [M.liftE_ok_bind_apply] at hx; exact (h a rfl).out c b c' e hx hg

theorem OkPost.int_bind {β : Type} {g : List Effect → Bool} {s : String} {f : Int → M β} {P : β → Conn → Prop}
    (h : ∀ n, pyInt s = some n → OkPost g (f n) P) : OkPost g (M.int s >>= f) P := by
  constructor
  intro c b c' e hx hg
  cases hs : pyInt s with
  | none => rw [M.int_none_bind_apply hs] at hx; cases hx
  | some n => rw [M.int_some_bind_apply hs] at hx; exact (h n hs).out c b c' e hx hg

theorem OkPost.bind_pre {α β : Type} {g : List Effect → Bool} [EffGuard g] {x : M α} {f : α → M β} {F : α → Conn → Prop} {P : β → Conn → Prop}
    (hx : OkPost g x F) (hf : ∀ a, OkSpec g (f a) (fun c b c' _ => F a c → P b c')) : OkPost g (x >>= f) P :=
  OkSpec.bind hx hf (fun _ _ _ _ _ _ _ h1 h2 => h2 h1)

set_option hygiene false in
/-- the walk for `OkRel` (`swallow` and `try … except: …; raise` are rules of it) -/
macro "ok_tac" "[" ls:term,* "]" : tactic =>
  `(tactic| walk_tac [$ls,*]
      with AsyncFix.Restart.OkRel.bind AsyncFix.Restart.OkRel.ite AsyncFix.Restart.OkRel.pure
        AsyncFix.Restart.OkRel.throw AsyncFix.Restart.OkRel.get AsyncFix.Restart.OkRel.liftE
        AsyncFix.Restart.OkRel.assert AsyncFix.Restart.OkRel.int
      opening AsyncFix.Restart.OkSpec.swallow AsyncFix.Restart.OkSpec.tryCatch_rethrow)

end AsyncFix.Restart
