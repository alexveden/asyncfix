import AsyncFix.Lemmas.LinkSafeA

/-!
Link family, safety invariant: the primitive sender operations are `SendStep`s (`AConn.push`, `AConn.serve`).

The answer to a ResendRequest is described once, for safety, coverage and termination alike: the frames the resend
loop writes are a function (`reply`) of the application rows at or above the requested number, the journal rows it
writes are the `row`s of those frames, and the frames form a `chain` of gap fills and retransmissions (`reply_spec`,
`serve_reply`).  What the invariants need of the new rows (sorted, within bounds, every frame `frameOK`: `RRSpec`) holds
of the row image of any chain (`chain_rows`, `chain_frameOK`, `RRSpec.of_chain`).
-/
namespace AsyncFix.Link

open AsyncFix.Session

theorem chain_le : ∀ {Q : List AFrame} {a b : Int}, chain a Q b → a ≤ b
  | [], a, b, h => by simp [chain] at h; omega
  | f :: r, a, b, h => by
    obtain ⟨h1, h2, h3⟩ := h
    have := chain_le h3
    omega

theorem chain_append : ∀ {Q R : List AFrame} {a b c : Int}, chain a Q b → chain b R c → chain a (Q ++ R) c
  | [], R, a, b, c, h, h' => by simp [chain] at h; subst h; simpa using h'
  | f :: r, R, a, b, c, h, h' => by
    obtain ⟨h1, h2, h3⟩ := h
    exact ⟨h1, h2, chain_append h3 h'⟩

theorem chain_snoc {Q : List AFrame} {a b : Int} (f : AFrame) (h : chain a Q b) (h1 : f.seq = b)
    (h2 : f.seq < f.next) : chain a (Q ++ [f]) f.next :=
  chain_append h ⟨h1, h2, rfl⟩

theorem chain_seq_ge : ∀ {Q : List AFrame} {a b : Int}, chain a Q b → ∀ f ∈ Q, a ≤ f.seq
  | [], _, _, _, f, hf => by simp at hf
  | g :: r, a, b, h, f, hf => by
    obtain ⟨h1, h2, h3⟩ := h
    rcases List.mem_cons.1 hf with rfl | hf
    · omega
    · have := chain_seq_ge h3 f hf
      omega

theorem chain_lt {Q : List AFrame} {a b : Int} (h : chain a Q b) (hne : Q ≠ []) : a < b := by
  cases Q with
  | nil => exact absurd rfl hne
  | cons f r =>
    obtain ⟨h1, h2, h3⟩ := h
    have := chain_le h3
    omega

theorem chain_nil {a b : Int} : chain a [] b ↔ a = b := Iff.rfl

theorem chain_cons {a b : Int} {f : AFrame} {r : List AFrame} :
    chain a (f :: r) b ↔ f.seq = a ∧ f.seq < f.next ∧ chain f.next r b := Iff.rfl

/-- a gap fill or an application frame (what `serve` writes) -/
def isData (f : AFrame) : Prop :=
  match f.kind with
  | .gapFill _ => True
  | .app _ _ => True
  | _ => False

theorem appView_single (o : Int) (k : AKind) : appView [(o, k.entry)] = pushExt o k := by
  cases h : k.entry <;> simp [appView, pushExt, h]

theorem keysOK_snoc {o o' g : Int} {J : AJournal} {v : Option Payload} (hk : keysOK o J)
    (hlt : ∀ r ∈ J, r.1 < g) (h1 : 1 ≤ g) (hg : g < o') (ho : o ≤ o') : keysOK o' (J ++ [(g, v)]) := by
  refine ⟨?_, ?_⟩
  · rw [List.pairwise_append]
    refine ⟨hk.1, by simp, ?_⟩
    intro a ha b hb
    simp at hb
    subst hb
    exact hlt a ha
  · intro r hr
    rcases List.mem_append.1 hr with h | h
    · have := hk.2 r h
      omega
    · simp at h
      subst h
      exact ⟨h1, hg⟩

/-- the row `(g, k.entry)` is journaled above every existing row and the frame `⟨g, k⟩` is written: a freshly
numbered send (`g = o`, `o' = o + 1`) or a gap fill under its own number (`o' = o`) -/
theorem sendStep_snoc {o o' g : Int} {J : AJournal} {k : AKind} (hk : keysOK o J) (hlt : ∀ r ∈ J, r.1 < g)
    (h1 : 1 ≤ g) (hn : g < (⟨g, k⟩ : AFrame).next) (hno : (⟨g, k⟩ : AFrame).next ≤ o') (ho : o ≤ o')
    (he : ∀ p, k.entry = some p → o ≤ g) :
    SendStep o J o' (J ++ [(g, k.entry)]) [⟨g, k⟩] (pushExt g k) := by
  refine ⟨keysOK_snoc hk hlt h1 (by omega) ho, ho, by rw [appView_append, appView_single], ?_, ?_⟩
  · intro r hr
    unfold pushExt at hr
    split at hr
    · rw [List.mem_singleton.1 hr]; exact he _ ‹_›
    · cases hr
  · intro f hf
    rw [List.mem_singleton.1 hf, frameOK_iff]
    refine ⟨h1, hn, hno, ?_⟩
    show match k.entry with
      | some p => (g, some p) ∈ J ++ [(g, k.entry)]
      | none => ∀ r ∈ J ++ [(g, k.entry)], g ≤ r.1 → r.1 < (⟨g, k⟩ : AFrame).next → r.2 = none
    cases hp : k.entry with
    | some p => simp
    | none =>
      intro r hr ha _
      rcases List.mem_append.1 hr with h | h
      · have := hlt r h; omega
      · rw [List.mem_singleton.1 h]

theorem sendStep_push {o : Int} {J : AJournal} (hk : keysOK o J) (h1 : 1 ≤ o) (k : AKind)
    (hn : (⟨o, k⟩ : AFrame).next = o + 1) : SendStep o J (o + 1) (J ++ [(o, k.entry)]) [⟨o, k⟩] (pushExt o k) :=
  sendStep_snoc hk (fun r hr => (hk.2 r hr).2) h1 (by omega) (by omega) (by omega) fun _ _ => Int.le_refl _

/-- What the invariants need of an answer to a ResendRequest: `rows` = the journal rows it stands for, `g` = the number
it starts at (gap_fill_begin), `o` = the sender's next outbound number, `N` = the journal rows written, `F` = the frames
written, `g'` = the number it reaches. -/
structure RRSpec (rows : AJournal) (g o : Int) (N : AJournal) (F : List AFrame) (g' : Int) : Prop where
  le : g ≤ g'
  leo : g' ≤ o
  sorted : N.Pairwise (fun a b => a.1 < b.1)
  lo : ∀ r ∈ N, g ≤ r.1 ∧ r.1 < g'
  view : appView N = appView rows
  rows : ∀ r ∈ N, r.2 = none ∨ r ∈ rows
  frames : ∀ f ∈ F, frameOK N o f ∧ g ≤ f.seq

/-- the journal row written with a frame -/
def AFrame.row (f : AFrame) : Int × Option Payload := (f.seq, f.kind.entry)

/-- the frames of the resend loop and the final `gap_fill_begin`: a function of the APPLICATION rows alone (session
rows are skipped), and every journal row the loop writes is the `row` of a frame it writes -/
def reply : List (Int × Payload) → Int → List AFrame × Int
  | [], g => ([], g)
  | (k, p) :: rest, g =>
    ((if g < k then [⟨g, .gapFill k⟩] else []) ++ ⟨k, .app p true⟩ :: (reply rest (k + 1)).1, (reply rest (k + 1)).2)

theorem resendRows_eq (rows : AJournal) (g : Int) (c : AConn) (acc : List AFrame) :
    resendRows rows g c acc =
      ({ c with out := c.out ++ (reply (appView rows) g).1.map AFrame.row }, acc ++ (reply (appView rows) g).1,
        (reply (appView rows) g).2) := by
  induction rows generalizing g c acc with
  | nil => simp [resendRows, reply, appView]
  | cons x rest ih =>
    obtain ⟨k, v⟩ := x
    cases v with
    | none => simpa [resendRows, appView] using ih g c acc
    | some p =>
      have hv : appView ((k, some p) :: rest) = (k, p) :: appView rest := by simp [appView]
      rw [hv]
      by_cases hgk : g < k <;> simp [resendRows, reply, ih, hgk, AConn.pushAt, AKind.entry, AFrame.row]

theorem appView_row_cons (f : AFrame) (F : List AFrame) :
    appView ((f :: F).map AFrame.row) = pushExt f.seq f.kind ++ appView (F.map AFrame.row) := by
  rw [List.map_cons, ← List.singleton_append, appView_append]
  exact congrArg (· ++ _) (appView_single _ _)

theorem chain_rows : ∀ {F : List AFrame} {a b : Int}, chain a F b →
    (F.map AFrame.row).Pairwise (fun x y => x.1 < y.1) ∧ ∀ r ∈ F.map AFrame.row, a ≤ r.1 ∧ r.1 < b
  | [], _, _, _ => ⟨.nil, nofun⟩
  | f :: r, a, b, ⟨h1, h2, h3⟩ => by
    obtain ⟨s, bd⟩ := chain_rows h3
    have hle := chain_le h3
    refine ⟨List.pairwise_cons.2 ⟨fun x hx => ?_, s⟩, fun x hx => ?_⟩
    · have := (bd x hx).1
      show f.seq < x.1
      omega
    · rcases List.mem_cons.1 hx with rfl | hx
      · exact ⟨by show a ≤ f.seq; omega, by show f.seq < b; omega⟩
      · have := bd x hx
        omega

/-- every frame of a chain is `frameOK` for the journal made of the chain's own rows: its own row is under its
number, the rows of the frames behind it lie at or above its `next`, those of the frames before it below its number -/
theorem chain_frameOK : ∀ {F : List AFrame} {a b o : Int}, chain a F b → 1 ≤ a → b ≤ o →
    ∀ f ∈ F, frameOK (F.map AFrame.row) o f
  | [], _, _, _, _, _, _, _, hf => nomatch hf
  | f :: r, a, b, o, ⟨h1, h2, h3⟩, ha, hb, g, hg => by
    have hle := chain_le h3
    rcases List.mem_cons.1 hg with rfl | hg
    · refine frameOK_iff.2 ⟨by omega, h2, by omega, ?_⟩
      split
      · rename_i p hp
        simp [AFrame.row, hp]
      · rename_i hp
        intro x hx _ hlt
        rcases List.mem_cons.1 hx with rfl | hx
        · exact hp
        · have := ((chain_rows h3).2 x hx).1
          omega
    · refine frameOK_prepend (P := [f.row]) (chain_frameOK h3 (by omega) hb g hg) fun x hx => ?_
      rw [List.mem_singleton.1 hx]
      have := chain_seq_ge h3 g hg
      show f.seq < g.seq
      omega

/-- the row image of ANY chain `g … g'` that stands for the application rows of `rows` -/
theorem RRSpec.of_chain {rows : AJournal} {F : List AFrame} {g g' o : Int} (h : chain g F g') (h1 : 1 ≤ g)
    (ho : g' ≤ o) (hv : appView (F.map AFrame.row) = appView rows) : RRSpec rows g o (F.map AFrame.row) F g' := by
  refine ⟨chain_le h, ho, (chain_rows h).1, (chain_rows h).2, hv, ?_,
    fun f hf => ⟨chain_frameOK h h1 ho f hf, chain_seq_ge h f hf⟩⟩
  rintro ⟨n, v⟩ hr
  cases v with
  | none => exact Or.inl rfl
  | some p => exact Or.inr (mem_appView.1 (hv ▸ mem_appView.2 hr))

/-- the reply is a chain `g … g'` of gap fills and retransmissions standing for exactly the rows `V` -/
theorem reply_spec : ∀ (V : List (Int × Payload)) (g o : Int), V.Pairwise (fun x y => x.1 < y.1) →
    (∀ r ∈ V, g ≤ r.1 ∧ r.1 < o) → g ≤ o →
    chain g (reply V g).1 (reply V g).2 ∧ (reply V g).2 ≤ o ∧ (∀ f ∈ (reply V g).1, isData f) ∧
      appView ((reply V g).1.map AFrame.row) = V
  | [], g, o, _, _, hgo => ⟨rfl, hgo, nofun, rfl⟩
  | (k, p) :: rest, g, o, hp, hr, _ => by
    have hk : g ≤ k ∧ k < o := hr (k, p) List.mem_cons_self
    obtain ⟨ih1, ih2, ih3, ih4⟩ := reply_spec rest (k + 1) o (List.pairwise_cons.1 hp).2 (fun r h => by
      have : k < r.1 := (List.pairwise_cons.1 hp).1 r h
      exact ⟨by omega, (hr r (List.mem_cons_of_mem _ h)).2⟩) (by omega)
    -- the retransmission of row `k`; in front of it (if there is room below) the gap fill `[g, k)`
    have happ : chain k (⟨k, .app p true⟩ :: (reply rest (k + 1)).1) (reply rest (k + 1)).2 :=
      ⟨rfl, by show k < k + 1; omega, ih1⟩
    have hview : appView ((⟨k, .app p true⟩ :: (reply rest (k + 1)).1).map AFrame.row) = (k, p) :: rest := by
      rw [appView_row_cons, ih4]; rfl
    simp only [reply]
    by_cases hg : g < k
    · simp only [hg, if_true, List.singleton_append]
      refine ⟨⟨rfl, hg, happ⟩, ih2, fun f hf => ?_, ?_⟩
      · rcases List.mem_cons.1 hf with rfl | hf
        · trivial
        rcases List.mem_cons.1 hf with rfl | hf
        · trivial
        · exact ih3 f hf
      · rw [appView_row_cons, hview]; rfl
    · obtain rfl : g = k := by omega
      simp only [hg, if_false, List.nil_append]
      refine ⟨happ, ih2, fun f hf => ?_, hview⟩
      rcases List.mem_cons.1 hf with rfl | hf
      · trivial
      · exact ih3 f hf

theorem serve_eq (c : AConn) (b : Int) :
    c.serve b =
      if b < 1 ∨ b ≥ c.o then (c, [])
      else
        let R := reply (appView (c.out.filter fun r => b ≤ r.1 && r.1 ≤ sysMaxsize)) b
        let J1 := c.out.filter (fun r => r.1 < b) ++ R.1.map AFrame.row
        if R.2 < min (sysMaxsize + 1) c.o then
          ({ c with out := J1 ++ [(R.2, none)] }, R.1 ++ [⟨R.2, .gapFill (min (sysMaxsize + 1) c.o)⟩])
        else ({ c with out := J1 }, R.1) := by
  unfold AConn.serve
  by_cases h : b < 1 ∨ b ≥ c.o
  · simp [h]
  · simp only [resendRows_eq, AConn.pushAt, AKind.entry]
    simp [h]

theorem serve_skip (c : AConn) (b : Int) (h : ¬(1 ≤ b ∧ b < c.o)) : c.serve b = (c, []) := by
  rw [serve_eq, if_pos (by omega)]

/-- a request within range, counters within `sys.maxsize`: neither bound of `_process_resend` cuts anything off -/
theorem serve_eq_bounded (c : AConn) (b : Int) (hk : keysOK c.o c.out) (hmax : c.o ≤ sysMaxsize + 1) (hb1 : 1 ≤ b)
    (hbo : b < c.o) :
    c.serve b =
      let R := reply (appView (c.out.filter fun r => b ≤ r.1)) b
      let J1 := c.out.filter (fun r => r.1 < b) ++ R.1.map AFrame.row
      if R.2 < c.o then ({ c with out := J1 ++ [(R.2, none)] }, R.1 ++ [⟨R.2, .gapFill c.o⟩])
      else ({ c with out := J1 }, R.1) := by
  have hrows : (c.out.filter fun r => b ≤ r.1 && r.1 ≤ sysMaxsize) = c.out.filter fun r => b ≤ r.1 := by
    apply List.filter_congr
    intro r hr
    have := (hk.2 r hr).2
    have : r.1 ≤ sysMaxsize := by omega
    simp [this]
  rw [serve_eq, if_neg (by omega), hrows, Int.min_eq_right hmax]

/-- `ResendRequest(b, 0)`, `1 ≤ b < o ≤ sys.maxsize + 1`: the journal from `b` on is replaced by the rows of a chain
`b … o` of gap fills and retransmissions that stands for the same application rows, and that chain is written -/
theorem serve_reply (c : AConn) (b : Int) (hk : keysOK c.o c.out) (hmax : c.o ≤ sysMaxsize + 1) (hb1 : 1 ≤ b)
    (hbo : b < c.o) :
    ∃ F, c.serve b = ({ c with out := c.out.filter (fun r => r.1 < b) ++ F.map AFrame.row }, F) ∧
      chain b F c.o ∧ (∀ f ∈ F, isData f) ∧
      RRSpec (c.out.filter fun r => b ≤ r.1) b c.o (F.map AFrame.row) F c.o := by
  obtain ⟨r1, r2, r3, r4⟩ := reply_spec (appView (c.out.filter fun r => b ≤ r.1)) b c.o
    (appView_sorted (hk.1.filter _))
    (fun r hr => by
      have := List.mem_filter.1 (mem_appView.1 hr)
      exact ⟨by simpa using this.2, (hk.2 _ this.1).2⟩) (by omega)
  rw [serve_eq_bounded c b hk hmax hb1 hbo]
  generalize reply (appView (c.out.filter fun r => b ≤ r.1)) b = R at r1 r2 r3 r4 ⊢
  obtain ⟨F0, g'⟩ := R
  simp only [] at r1 r2 r3 r4 ⊢
  split
  · -- room below `o`: the trailing gap fill `[g', o)`
    rename_i hlt
    have hc := chain_append (R := [⟨g', .gapFill c.o⟩]) (c := c.o) r1 ⟨rfl, hlt, rfl⟩
    refine ⟨F0 ++ [⟨g', .gapFill c.o⟩], by simp [AFrame.row, AKind.entry], hc, fun f hf => ?_,
      .of_chain hc hb1 (Int.le_refl _) (by rw [List.map_append, appView_append, r4]; exact List.append_nil _)⟩
    rcases List.mem_append.1 hf with hf | hf
    · exact r3 f hf
    · rw [List.mem_singleton.1 hf]; trivial
  · rename_i hge
    rw [Int.le_antisymm r2 (Int.not_lt.1 hge)] at r1
    exact ⟨_, rfl, r1, r3, .of_chain r1 hb1 (Int.le_refl _) r4⟩

/-- `serve` changes nothing but the journal -/
theorem serve_fields (c : AConn) (b : Int) : (c.serve b).1 = { c with out := (c.serve b).1.out } := by
  rw [serve_eq]; simp only []; split
  · rfl
  · split <;> rfl

theorem serve_e (c : AConn) (b : Int) : (c.serve b).1.e = c.e := by rw [serve_fields]

theorem serve_o (c : AConn) (b : Int) : (c.serve b).1.o = c.o := by rw [serve_fields]

theorem sendStep_serve (c : AConn) (b : Int) (hk : keysOK c.o c.out) (hmax : c.o ≤ sysMaxsize + 1) :
    SendStep c.o c.out (c.serve b).1.o (c.serve b).1.out (c.serve b).2 [] := by
  by_cases hb : 1 ≤ b ∧ b < c.o
  · obtain ⟨F, e, _, _, S⟩ := serve_reply c b hk hmax hb.1 hb.2
    rw [e]
    show SendStep c.o c.out c.o (c.out.filter (fun r => r.1 < b) ++ F.map AFrame.row) F []
    have hJ0 : ∀ r ∈ c.out.filter (fun r => r.1 < b), r ∈ c.out ∧ r.1 < b := fun r hr =>
      ⟨(List.mem_filter.1 hr).1, by simpa using (List.mem_filter.1 hr).2⟩
    refine ⟨⟨List.pairwise_append.2 ⟨hk.1.filter _, S.sorted, fun x hx y hy => ?_⟩, fun r hr => ?_⟩, Int.le_refl _,
      ?_, by simp, fun f hf => ?_⟩
    · have := (hJ0 x hx).2
      have := (S.lo y hy).1
      omega
    · rcases List.mem_append.1 hr with h | h
      · exact hk.2 r (hJ0 r h).1
      · have := S.lo r h
        omega
    · rw [appView_append, S.view, ← appView_append, filter_split hk.1 b]
      simp
    · refine frameOK_prepend (S.frames f hf).1 fun r hr => ?_
      have := (hJ0 r hr).2
      have := (S.frames f hf).2
      omega
  · rw [serve_skip c b hb]
    exact SendStep.refl hk

end AsyncFix.Link
