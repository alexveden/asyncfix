import AsyncFix.Lemmas.LinkStepSim
import AsyncFix.Lemmas.LinkSync

/-!
C07: from single steps to runs – the abstraction of a run of the Link model is a run of the abstract model, and
the abstract invariants hold along it (as long as the sequence numbers stay within `sys.maxsize`).
-/
namespace AsyncFix.Link

open AsyncFix.Session AsyncFix.Generated AsyncFix.Generated.ConnEnum

def Wf (evs : List Ev) : Prop := ∀ e ∈ evs, e.wf = true

instance (evs : List Ev) : Decidable (Wf evs) := by unfold Wf; infer_instance

def ainit : ALink := { i := ⟨.disc, true, 1, 1, 0, []⟩, a := ⟨.disc, false, 1, 1, 0, []⟩ }

theorem absLink_init (hb : Int) : absLink (Link.init hb) = ainit := by
  simp [absLink, Link.init, Conn.create, absConn, absSt, ainit, roleInitiator, roleAcceptor,
    st_DISCONNECTED_NOCONN_TODAY, st_DISCONNECTED_BROKEN_CONN]

theorem linkGood_init (hb : Int) : LinkGood (Link.init hb) := by
  have hrows : ∀ (a b : String), RowsGood a b 1 [] :=
    fun a b => ⟨List.Pairwise.nil, by simp, by simp⟩
  refine ⟨⟨rfl, rfl, Or.inl rfl, rfl, Or.inl rfl, ?_, ?_, hrows _ _, ?_, ?_⟩,
    ⟨rfl, rfl, Or.inl rfl, rfl, Or.inr rfl, ?_, ?_, hrows _ _, ?_, ?_⟩, by simp [Link.init], by simp [Link.init]⟩ <;>
    simp [Link.init, Conn.create, AllLt, st_DISCONNECTED_NOCONN_TODAY, st_RESENDREQ_AWAITING]

theorem run_sim (evs : List Ev) : ∀ (l : Link), LinkGood l → Wf evs →
    absLink (run l evs) = arun (absLink l) (evs.map absEv) ∧ LinkGood (run l evs) := by
  induction evs with
  | nil => intro l hg _; exact ⟨rfl, hg⟩
  | cons ev rest ih =>
    intro l hg hwf
    obtain ⟨h1, h2⟩ := step_sim l ev hg (hwf ev (by simp))
    obtain ⟨h3, h4⟩ := ih (step l ev) h2 (fun e he => hwf e (by simp [he]))
    exact ⟨by rw [run, h3, h1]; rfl, by rw [run]; exact h4⟩

theorem arun_o_mono (evs : List AEv) : ∀ (l : ALink), l.i.o ≤ (arun l evs).i.o ∧ l.a.o ≤ (arun l evs).a.o := by
  induction evs with
  | nil => intro l; exact ⟨Int.le_refl _, Int.le_refl _⟩
  | cons ev rest ih =>
    intro l
    have h1 := astep_o_mono l ev
    have h2 := ih (astep l ev)
    simp only [arun]
    exact ⟨by omega, by omega⟩

/-- the abstract invariants hold along every run whose counters stay within `sys.maxsize` -/
theorem arun_inv (evs : List AEv) : ∀ (l : ALink), SafeInv l → SyncInv' l → Bounded (arun l evs) →
    SafeInv (arun l evs) ∧ SyncInv' (arun l evs) := by
  induction evs with
  | nil => intro l h1 h2 _; exact ⟨h1, h2⟩
  | cons ev rest ih =>
    intro l h1 h2 hb
    simp only [arun] at hb ⊢
    have hm := arun_o_mono rest (astep l ev)
    have hb1 : Bounded (astep l ev) := ⟨by have := hb.1; omega, by have := hb.2; omega⟩
    have hm0 := astep_o_mono l ev
    have hb0 : Bounded l := ⟨by have := hb1.1; omega, by have := hb1.2; omega⟩
    exact ih (astep l ev) (safeInv_step l ev h1 hb1) (syncInv'_step l ev h1 h2 hb0) hb

/-- the counters of the executable model stay within `sys.maxsize` (SQLite's INTEGER range: the journal could
not store larger numbers, and `ResendRequest(n, 0)` is served up to `sys.maxsize`) -/
def InRange (l : Link) : Prop := l.i.sess.nextOut ≤ sysMaxsize + 1 ∧ l.a.sess.nextOut ≤ sysMaxsize + 1

instance (l : Link) : Decidable (InRange l) := by unfold InRange; infer_instance

/-- everything the property statements need about a reachable state of the Link model -/
theorem reach_inv (hb : Int) (evs : List Ev) (hwf : Wf evs) (hr : InRange (run (Link.init hb) evs)) :
    LinkGood (run (Link.init hb) evs) ∧ SafeInv (absLink (run (Link.init hb) evs)) ∧
      SyncInv' (absLink (run (Link.init hb) evs)) := by
  obtain ⟨h1, h2⟩ := run_sim evs (Link.init hb) (linkGood_init hb) hwf
  rw [absLink_init] at h1
  have hbd : Bounded (arun ainit (evs.map absEv)) := by
    rw [← h1]; exact hr
  obtain ⟨h3, h4⟩ := arun_inv (evs.map absEv) ainit safeInv_init syncInv'_init hbd
  rw [h1]
  exact ⟨h2, h3, h4⟩

end AsyncFix.Link
