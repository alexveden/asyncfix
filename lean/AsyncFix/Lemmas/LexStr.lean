/-
`_validate_value_str` as a chain of checks, and the string-like types it serves (String, char,
Boolean, Country/Currency/Exchange).
-/
import AsyncFix.Lemmas.LexTok
import AsyncFix.Model.LexSpec
import AsyncFix.Model.LexClass
namespace AsyncFix.Lemmas.LexStr
open AsyncFix.Py AsyncFix.Model AsyncFix.Model.Lexical AsyncFix.Model.LexClass
open AsyncFix.Lemmas.LexTok (ite_err_eq)

/-- `_validate_value_str` on a non-empty value is a chain of checks that each end in an error text:
any other outcome is `pass`, reached when no check fires -/
theorem validateStr_eq_iff {maxLen : Option Nat} {subset : Option (List Str)} {alnum : Bool} {s : Str} {r : VRes}
    (hs : s ≠ []) (hr : r ≠ .err) :
    validateStr maxLen subset alnum s = r ↔
      s.contains 1 = false ∧ s.contains 61 = false ∧
      (∀ n, maxLen = some n → n = 0 ∨ s.length ≤ n) ∧
      (∀ set, subset = some set → set = [] ∨ set.contains s = true) ∧
      (alnum = true → reHasNonAlnum s = false) ∧ r = .pass := by
  have he : s.isEmpty = false := by cases s <;> simp_all
  unfold validateStr
  rw [he, if_neg Bool.false_ne_true]
  simp only [ite_err_eq hr, Bool.not_eq_true, Bool.and_eq_false_imp, eq_comm (a := VRes.pass)]
  cases maxLen <;> cases subset <;> simp [Decidable.or_iff_not_imp_left]

theorem validateStr_pass_iff (maxLen : Option Nat) (subset : Option (List Str)) (alnum : Bool) (s : Str) :
    validateStr maxLen subset alnum s = .pass ↔
      s ≠ [] ∧ s.contains 1 = false ∧ s.contains 61 = false ∧
      (∀ n, maxLen = some n → n = 0 ∨ s.length ≤ n) ∧
      (∀ set, subset = some set → set = [] ∨ set.contains s = true) ∧
      (alnum = true → reHasNonAlnum s = false) := by
  by_cases hs : s = []
  · subst hs; simp [validateStr]
  · simp [validateStr_eq_iff hs, hs]

theorem validateStr_not_raised (maxLen : Option Nat) (subset : Option (List Str)) (alnum : Bool)
    (s : Str) (hs : s ≠ []) (k : String) : validateStr maxLen subset alnum s ≠ .raised k := by
  simp [validateStr_eq_iff hs]

theorem string_pass_iff (cfg : Cfg) (s : Str) :
    validateTyped cfg .string s = .pass ↔ LexSpec.isString s = true ∧ hasEquals s = false := by
  show validateStr none none false s = .pass ↔ _
  rw [validateStr_pass_iff]
  cases s <;> simp [LexSpec.isString, hasEquals]

theorem char_pass_iff (cfg : Cfg) (s : Str) :
    validateTyped cfg .char s = .pass ↔ LexSpec.isChar s = true ∧ hasEquals s = false := by
  show validateStr (some 1) none false s = .pass ↔ _
  rw [validateStr_pass_iff]
  rcases s with _ | ⟨c, _ | ⟨d, t⟩⟩ <;> simp [LexSpec.isChar, hasEquals]

theorem boolean_pass_iff (cfg : Cfg) (s : Str) :
    validateTyped cfg .boolean s = .pass ↔ LexSpec.isBoolean s = true := by
  show validateStr (some 1) (some [[89], [78]]) false s = .pass ↔ _
  rw [validateStr_pass_iff]
  rcases s with _ | ⟨c, _ | ⟨d, t⟩⟩
  · simp [LexSpec.isBoolean]
  · simp [LexSpec.isBoolean]
    constructor
    · rintro ⟨-, -, h⟩; exact h
    · rintro (rfl | rfl) <;> simp
  · simp [LexSpec.isBoolean]

theorem alnum_eq (c : Nat) : isAsciiAlnum c = (LexSpec.digit c || LexSpec.letter c) := by
  simp [isAsciiAlnum, LexSpec.digit, LexSpec.letter, isAsciiDigit, inRange, Bool.or_assoc]

theorem all_alnum_no {s : Str} (h : s.all isAsciiAlnum = true) : s.contains 1 = false ∧ s.contains 61 = false := by
  have key : ∀ c, isAsciiAlnum c = false → s.contains c = false := fun c hc =>
    Bool.eq_false_iff.2 fun hm => by
      rw [List.all_eq_true.1 h c (List.contains_iff_mem.1 hm)] at hc
      cases hc
  exact ⟨key 1 (by decide), key 61 (by decide)⟩

/-- `n = 0` would switch the length check off (`if max_len and …`), which the SPEC's `isCode 0` does not -/
theorem code_pass_iff (cfg : Cfg) (n : Nat) (hn : n ≠ 0) (s : Str) :
    validateTyped cfg (.code n) s = .pass ↔ LexSpec.isCode n s = true := by
  show validateStr (some n) none true s = .pass ↔ _
  rw [validateStr_pass_iff]
  have hall : reHasNonAlnum s = false ↔ s.all isAsciiAlnum = true := by
    simp [reHasNonAlnum]
  have hspec : (s.all fun c => LexSpec.digit c || LexSpec.letter c) = s.all isAsciiAlnum := by
    congr 1; funext c; exact (alnum_eq c).symm
  unfold LexSpec.isCode
  rw [hspec]
  simp only [Option.some.injEq, forall_eq', reduceCtorEq, false_implies, implies_true, true_and,
    forall_const, hall, Bool.and_eq_true, Bool.not_eq_true', List.isEmpty_eq_false_iff, decide_eq_true_eq]
  constructor
  · rintro ⟨h1, -, -, h4, h5⟩
    exact ⟨⟨h1, by omega⟩, h5⟩
  · rintro ⟨⟨h1, h2⟩, h3⟩
    exact ⟨h1, (all_alnum_no h3).1, (all_alnum_no h3).2, Or.inr h2, h3⟩

end AsyncFix.Lemmas.LexStr
