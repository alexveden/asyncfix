import AsyncFix.Model.Restart
import AsyncFix.Lemmas.RestartSend

/-!
Restart family: the crash states of a send.  After any number of segments of `send_msg(m)` (m taking a
new number) either the journal is untouched and nothing was written, or the frame is journaled under
the number the old object held as `next_num_out` and nothing but that frame was written.
-/

namespace AsyncFix.Restart

open AsyncFix.Session AsyncFix.Generated AsyncFix.Generated.ConnEnum

theorem sendAlloc_apply (env : Env) (m : Msg) (hnew : ownSeq m = false) (c : Conn) :
    sendAlloc env m c =
      if (m.mtype == mTestRequest && c.testReqId.isNone) = true then ⟨.error .connection, c, []⟩
      else if (!frameLatin1 (buildFrame { c.sess with nextOut := c.sess.nextOut + 1 } env.stamp m c.sess.nextOut)) = true
        then ⟨.error .encoding, { c with sess := { c.sess with nextOut := c.sess.nextOut } }, []⟩
      else ⟨.ok (c.sess.nextOut,
                 buildFrame { c.sess with nextOut := c.sess.nextOut + 1 } env.stamp m c.sess.nextOut),
            { c with sess := { c.sess with nextOut := c.sess.nextOut + 1 } }, []⟩ := by
  unfold ownSeq at hnew
  simp only [Bool.or_eq_false_iff] at hnew
  obtain ⟨h1, h2⟩ := hnew
  simp only [sendAlloc, encodeSeq, h1, h2, M.get_bind_apply, M.ite_apply, M.throw_apply, bind_assoc,
    M.modify_bind_apply, pure_bind, Bool.false_eq_true, if_false, M.pure_apply]

theorem sendAlloc_desc (env : Env) (m : Msg) (hnew : ownSeq m = false) (c : Conn) :
    (sendAlloc env m c).eff = [] ∧ (sendAlloc env m c).conn.journal = c.journal ∧
    (sendAlloc env m c).conn.hb = c.hb ∧
    (sendAlloc env m c).conn.sess.sender = c.sess.sender ∧ (sendAlloc env m c).conn.sess.target = c.sess.target ∧
    ∀ p, (sendAlloc env m c).res = .ok p →
      p.1 = c.sess.nextOut ∧ p.2.get? tMsgSeqNum = some (pyStr p.1) ∧ isNewFrame p.2 = true := by
  rw [sendAlloc_apply env m hnew c]
  split
  · exact ⟨rfl, rfl, rfl, rfl, rfl, fun _ h => by cases h⟩
  · split
    · exact ⟨rfl, rfl, rfl, rfl, rfl, fun _ h => by cases h⟩
    · refine ⟨rfl, rfl, rfl, rfl, rfl, fun p hp => ?_⟩
      cases hp
      refine ⟨rfl, buildFrame_get_seq _ _ _ _, ?_⟩
      rw [buildFrame_isNew, hnew]; rfl

/-- what a send killed after some segment leaves (`c` before, `c'` and `e` at the kill) -/
inductive SendCrashState (c : Conn) (c' : Conn) (e : List Effect) : Prop
  /-- nothing durable happened and nothing reached the transport -/
  | untouched (hj : c'.journal = c.journal) (hw : ∀ f, Effect.write f ∉ e)
  /-- the frame is journaled under the old `nextOut`, which it carries, and nothing else was written -/
  | journaled (fr : Msg) (hs : fr.get? tMsgSeqNum = some (pyStr c.sess.nextOut)) (hn : isNewFrame fr = true)
      (hp : c.journal.persist .outbound c.sess.nextOut fr = some c'.journal)
      (hw : ∀ f, Effect.write f ∈ e → f = fr)

theorem sendJournal_apply (seq : Int) (fr : Msg) (c : Conn) :
    sendJournal seq fr c = match c.journal.persist .outbound seq fr with
      | none => ⟨.error .duplicateSeqNo, c, []⟩
      | some j => ⟨.ok (), { c with journal := j }, []⟩ := by
  unfold sendJournal
  rw [M.get_bind_apply]
  cases c.journal.persist .outbound seq fr <;> rfl

theorem sendWrite_apply (fr : Msg) (c : Conn) :
    sendWrite fr c = if c.sock then ⟨.ok (), c, [.write fr]⟩ else ⟨.error .attribute, c, []⟩ := by
  unfold sendWrite
  rw [M.get_bind_apply, M.ite_apply]
  cases c.sock <;> rfl

theorem SendCrashState.congr {c c1 c' : Conn} {e1 e2 : List Effect} (hj : c1.journal = c.journal)
    (hs : c1.sess = c.sess) (hw : ∀ f, Effect.write f ∉ e1) (h : SendCrashState c1 c' e2) :
    SendCrashState c c' (e1 ++ e2) := by
  cases h with
  | untouched hj' hw' =>
    exact .untouched (hj'.trans hj) (fun f hf => by
      rcases List.mem_append.mp hf with h | h
      · exact hw f h
      · exact hw' f h)
  | journaled fr hs' hn hp hw' =>
    refine .journaled fr (by rw [← hs]; exact hs') hn (by rw [← hs, ← hj]; exact hp) (fun f hf => ?_)
    rcases List.mem_append.mp hf with h | h
    · exact absurd h (hw f)
    · exact hw' f h

/-- the segments after the allocation, `k` of them -/
def sendTail (k : Nat) (p : Int × Msg) : M SendSt :=
  match k with
  | 0 => pure (some p)
  | 1 => do sendJournal p.1 p.2; pure (some p)
  | 2 => do sendJournal p.1 p.2; sendWrite p.2; pure (some p)
  | _ => do sendJournal p.1 p.2; sendWrite p.2; sendDrain; pure (some p)

/-- the `k` segments after the gate -/
def sendAfterGate (k : Nat) (env : Env) (m : Msg) : M SendSt :=
  match k with
  | 0 => pure none
  | k + 1 => do let p ← sendAlloc env m; sendTail k p

theorem sendPrefix_eq (k : Nat) (env : Env) (m : Msg) :
    sendPrefix (k + 1) env m = sendGate m >>= fun _ => sendAfterGate k env m := by
  match k with
  | 0 | 1 | 2 | 3 => simp [sendPrefix, sendSegs, runSegs, sendAfterGate, sendTail]
  | k + 4 =>
    have : (sendSegs env m).take (k + 4 + 1) = sendSegs env m := by
      apply List.take_of_length_le; simp [sendSegs]
    rw [sendPrefix, this]
    simp [sendSegs, runSegs, sendAfterGate, sendTail]

/-- after the allocation: nothing has happened, or the frame is journaled and nothing else was written -/
theorem sendTail_cases (k : Nat) (p : Int × Msg) (a : Conn) :
    ((sendTail k p a).conn = a ∧ (sendTail k p a).eff = []) ∨
    ∃ j, a.journal.persist .outbound p.1 p.2 = some j ∧ (sendTail k p a).conn = { a with journal := j } ∧
      ∀ f, Effect.write f ∈ (sendTail k p a).eff → f = p.2 := by
  match k with
  | 0 => exact Or.inl ⟨rfl, rfl⟩
  | k + 1 =>
    have hJ := sendJournal_apply p.1 p.2 a
    cases hj : a.journal.persist .outbound p.1 p.2 with
    | none =>
      simp only [hj] at hJ
      left
      match k with
      | 0 | 1 | k + 2 => simp only [sendTail]; rw [M.bind_err hJ]; exact ⟨rfl, rfl⟩
    | some j =>
      simp only [hj] at hJ
      refine Or.inr ⟨j, rfl, ?_⟩
      match k with
      | 0 => simp only [sendTail]; rw [M.bind_ok hJ]; exact ⟨rfl, fun f h => by simp at h⟩
      | k + 1 =>
        have hW := sendWrite_apply p.2 { a with journal := j }
        split at hW
        · match k with
          | 0 | k + 1 =>
            simp only [sendTail, sendDrain]; rw [M.bind_ok hJ, M.bind_ok hW]
            exact ⟨rfl, fun f h => by simpa using h⟩
        · match k with
          | 0 | k + 1 =>
            simp only [sendTail]; rw [M.bind_ok hJ, M.bind_err hW]; exact ⟨rfl, fun f h => by simp at h⟩

theorem sendAfterGate_crash (k : Nat) (env : Env) (m : Msg) (hnew : ownSeq m = false) (c : Conn) :
    SendCrashState c (sendAfterGate k env m c).conn (sendAfterGate k env m c).eff := by
  match k with
  | 0 => exact .untouched rfl (fun _ h => by cases h)
  | k + 1 =>
    simp only [sendAfterGate]
    have hd := sendAlloc_desc env m hnew c
    rcases ha : sendAlloc env m c with ⟨r, a, e⟩
    rw [ha] at hd
    obtain ⟨he, hja, _, _, _, hp⟩ := hd
    dsimp only at he hja hp
    subst he
    cases r with
    | error ex => rw [M.bind_err ha]; exact .untouched hja (fun _ h => by cases h)
    | ok p =>
      obtain ⟨hp1, hp2, hp3⟩ := hp p rfl
      rw [M.bind_ok ha]
      simp only [List.nil_append]
      rcases sendTail_cases k p a with ⟨h1, h2⟩ | ⟨j, hj, h1, h2⟩
      · exact .untouched (by rw [h1]; exact hja) (fun f h => by rw [h2] at h; cases h)
      · rw [hja, hp1] at hj
        exact .journaled p.2 (hp1 ▸ hp2) hp3 (by rw [h1]; exact hj) h2

theorem sendPrefix_crash (k : Nat) (env : Env) (m : Msg) (hnew : ownSeq m = false) (c : Conn) :
    SendCrashState c (sendPrefix k env m c).conn (sendPrefix k env m c).eff := by
  match k with
  | 0 => exact .untouched rfl (fun _ h => by cases h)
  | k + 1 =>
    -- the gate is quiet: the crash state is judged from the state it leaves
    rw [sendPrefix_eq]
    have hq := (sendGate_quietly m).out c
    rcases hg : sendGate m c with ⟨r, c1, e1⟩
    rw [hg] at hq
    cases r with
    | error ex => rw [M.bind_err hg]; exact .untouched hq.journal hq.nw
    | ok u =>
      rw [M.bind_ok hg]
      exact SendCrashState.congr hq.journal hq.sess hq.nw (sendAfterGate_crash k env m hnew c1)

/-- a send of a message taking a new number, killed at ANY point `k`, from ANY state whose stored outbound counter
is one behind the live one and whose earlier new frames `e` are numbered below `nextOut`: every new frame handed
to the transport, before or by the killed send, is numbered below the restarted connection's `nextOut` -/
theorem sendKilled_writes_below (k : Nat) (env : Env) (m : Msg) (hnew : ownSeq m = false) (c : Conn)
    (e : List Effect) (hout : c.journal.outSeq + 1 = c.sess.nextOut) (he : NewWritesBelow e c.sess.nextOut)
    (role : Nat) :
    NewWritesBelow (e ++ (sendKilled k env c m).2) (restart (sendKilled k env c m).1 role).sess.nextOut := by
  have hconn : (sendKilled k env c m).1 = (sendPrefix k env m c).conn := M.run_conn _ _
  have hwr : ∀ f, Effect.write f ∈ (sendKilled k env c m).2 → Effect.write f ∈ (sendPrefix k env m c).eff :=
    fun f hf => M.write_mem_of_run _ _ hf
  show NewWritesBelow (e ++ (sendKilled k env c m).2) ((sendKilled k env c m).1.journal.outSeq + 1)
  rw [hconn]
  cases sendPrefix_crash k env m hnew c with
  | untouched hj hw =>
    rw [hj, hout]
    apply NewWritesBelow.append he
    intro f n hf _ _; exact absurd (hwr f hf) (hw f)
  | journaled fr hs hn hp hw =>
    obtain ⟨_, _, hj⟩ := persist_out_inv hp
    rw [hj]
    show NewWritesBelow _ (c.sess.nextOut + 1)
    apply NewWritesBelow.append
    · exact he.mono (by omega)
    · intro f n hf _ hsn
      have := hw f (hwr f hf)
      subst this
      rw [hs] at hsn
      have := pyStr_inj (Option.some.inj hsn)
      omega

end AsyncFix.Restart
