import AsyncFix.Lemmas.SessionResendTerms
import AsyncFix.Lemmas.SessionEstablished

/-!
The way of a ResendRequest through `_process_message` (`_validate_integrity`, the head of the `try`
block, the dispatch, `_finalize_message`); independent of how `_process_resend` itself is analysed.
-/
namespace AsyncFix.Session.C06
open Msg AsyncFix.Generated AsyncFix.Generated.ConnEnum

/-- `_finalize_message` for a ResendRequest carrying the expected number (and not closing the receiver's
own gap): the number is counted and the frame journaled; nothing on the outbound side, the state or the
effects moves, and it returns normally when the number is free in the inbound journal -/
theorem finalize_req (env : Env) (m : Msg) (c : Conn) (v : String)
    (hm : m.mtype = mResendRequest) (h34 : m.get? tMsgSeqNum = some v)
    (hv : pyInt v = some c.sess.nextIn)
    (hst : c.state = st_RESENDREQ_AWAITING → c.sess.nextIn < c.maxResend) :
    (finalizeMessage env m c).conn.state = c.state ∧
    (finalizeMessage env m c).conn.sess.nextOut = c.sess.nextOut ∧
    (finalizeMessage env m c).conn.sess.sender = c.sess.sender ∧
    (finalizeMessage env m c).conn.sess.target = c.sess.target ∧
    (finalizeMessage env m c).conn.journal.out = c.journal.out ∧
    (finalizeMessage env m c).conn.journal.outSeq = c.journal.outSeq ∧
    (finalizeMessage env m c).eff = [] ∧
    (Rows.AllLt c.sess.nextIn c.journal.inb → (finalizeMessage env m c).res = .ok ()) := by
  have hnext := setNextNumIn_plain (c := c) (by rw [hm]; decide) h34 hv rfl
  by_cases hpos : c.sess.nextIn ≤ 0
  · rw [finalizeMessage_skip env hnext hpos]
    exact ⟨rfl, rfl, rfl, rfl, rfl, rfl, rfl, fun _ => rfl⟩
  · have hnp : ¬ promoted { c with sess := { c.sess with nextIn := c.sess.nextIn + 1 } } c.sess.nextIn :=
      fun ⟨h1, h2⟩ => by have := hst h1; exact absurd h2 (by show ¬ c.maxResend ≤ _; omega)
    rw [finalizeMessage_counted env hnext (by omega) (fun h => by have := hst h; show 0 < c.maxResend; omega),
      if_neg hnp, persistInbound_numbered h34 hv]
    have hstate : (stamped env { c with sess := { c.sess with nextIn := c.sess.nextIn + 1 } }
        c.sess.nextIn).state = c.state := if_neg hnp
    cases hp : Journal.persist (stamped env { c with sess := { c.sess with nextIn := c.sess.nextIn + 1 } }
        c.sess.nextIn).journal .inbound c.sess.nextIn m with
    | none =>
      refine ⟨hstate, rfl, rfl, rfl, rfl, rfl, rfl, fun hl => ?_⟩
      have hq := persist_in_of_insert c.journal _ m _ (Rows.insert_append _ m _ hl)
      exact nomatch hq.symm.trans hp
    | some j =>
      obtain ⟨r, _, rfl⟩ := persist_in_inv hp
      exact ⟨hstate, rfl, rfl, rfl, rfl, rfl, rfl, fun _ => rfl⟩

/-- a ResendRequest with the expected number, in ACTIVE or RESENDREQ_AWAITING, goes straight to
`_process_resend` and is then counted by `_finalize_message` -/
theorem recv_of_resend (sr : Msg → Bool) (env : Env) (c c' : Conn) (m : Msg) (effs : List Effect)
    (hm : m.mtype = mResendRequest) (henv : Envelope c m)
    (hst : c.state = st_ACTIVE ∨ c.state = st_RESENDREQ_AWAITING)
    (hpr : processResend env sr m c = ⟨.ok (), c', effs⟩) :
    recv sr env c m =
      ((finalizeMessage env m c').conn,
        effs ++ (finalizeMessage env m c').eff ++ raisedOf (finalizeMessage env m c').res) := by
  have h7 : st_LOGON_INITIAL_SENT < c.state := by rcases hst with h | h <;> rw [h] <;> decide
  have hd : processDispatch env sr m true c.sess.nextIn c = ⟨.ok (), c', effs⟩ := by
    rw [processDispatch_resend env sr hm]; exact hpr
  rw [recv_expected h7 ⟨henv.begin_, henv.sender, henv.target, henv.seq⟩ (by rw [hm]; decide)
    (by rw [hm]; decide) (by rw [hm]; decide) hd, M.run_eq]
  simp only [caught, List.append_nil, List.append_assoc]

theorem writes_append (a b : List Effect) : writes (a ++ b) = writes a ++ writes b := by
  induction a with
  | nil => rfl
  | cons e r ih => cases e <;> simp [writes, ih]

theorem writes_raisedOf {α} (r : Except Exc α) : writes (raisedOf r) = [] := by cases r <;> rfl

/-- **what `recv` shows of `_process_resend`**: when the handler ends in `c'` with effects `effs` (and leaves the
inbound counter, the state and the watermark alone), the connection `recv` returns has the state and the outbound
side of `c'`; it writes what `effs` writes, and its effects are `effs` when the number is free in the inbound journal -/
theorem recv_resend (sr : Msg → Bool) (env : Env) (c c' : Conn) (m : Msg) (effs : List Effect)
    (hm : m.mtype = mResendRequest) (henv : Envelope c m)
    (hst : c.state = st_ACTIVE ∨ (c.state = st_RESENDREQ_AWAITING ∧ c.sess.nextIn < c.maxResend))
    (hpr : processResend env sr m c = ⟨.ok (), c', effs⟩)
    (hin : c'.sess.nextIn = c.sess.nextIn) (hs : c'.state = c.state) (hw : c'.maxResend = c.maxResend) :
    (recv sr env c m).1.state = c'.state ∧ (recv sr env c m).1.sess.nextOut = c'.sess.nextOut ∧
    (recv sr env c m).1.journal.out = c'.journal.out ∧ (recv sr env c m).1.journal.outSeq = c'.journal.outSeq ∧
    writes (recv sr env c m).2 = writes effs ∧
    (Rows.AllLt c'.sess.nextIn c'.journal.inb → (recv sr env c m).2 = effs) := by
  have hst' : c.state = st_ACTIVE ∨ c.state = st_RESENDREQ_AWAITING := hst.imp_right And.left
  obtain ⟨v, h34, hv⟩ := henv.seq
  obtain ⟨f1, f2, _, _, f5, f6, f7, f8⟩ := finalize_req env m c' v hm h34 (hin ▸ hv) (by
    rw [hs, hin, hw]
    intro haw
    rcases hst with h1 | ⟨_, h2⟩
    · rw [h1] at haw; exact absurd haw (by decide)
    · exact h2)
  rw [recv_of_resend sr env c c' m effs hm henv hst' hpr, f7, List.append_nil]
  refine ⟨f1, f2, f5, f6, ?_, fun hl => ?_⟩
  · rw [writes_append, writes_raisedOf, List.append_nil]
  · rw [f8 hl]; exact List.append_nil _

end AsyncFix.Session.C06
