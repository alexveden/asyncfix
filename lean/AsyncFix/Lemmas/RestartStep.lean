import AsyncFix.Lemmas.RestartResend
import AsyncFix.Lemmas.RestartFinal

/-!
`_process_message` as a whole (`processMessage_good`; a SequenceReset that passes the head has its NewSeqNo as the
live counter, `ResetCaughtUp`, which `_finalize_message` needs for the reset to 1 that it does not journal) and the
history induction `run_goodH`, `run_exact`.
-/

namespace AsyncFix.Restart

open AsyncFix.Session AsyncFix.Generated AsyncFix.Generated.ConnEnum

variable {g : List Effect → Bool} [EffGuard g] {om : Option Msg}

/-- a SequenceReset that `_process_seqreset` honours leaves the live counter at its NewSeqNo -/
theorem processSeqreset_caughtUp (m : Msg) : OkPost g (processSeqreset m) (fun ok c' => ok = true → ResetCaughtUp m c') := by
  rw [processSeqreset_eq]
  apply OkPost.skip; intro _
  apply OkPost.skip; intro c
  apply OkPost.skip; intro v
  have tail : OkPost g (seqresetApply m v) (fun ok c' => ok = true → ResetCaughtUp m c') := by
    unfold seqresetApply
    apply OkPost.liftE_bind; intro w hw
    apply OkPost.int_bind; intro nw hnw
    apply OkPost.skip; intro _
    apply OkPost.skip; intro n
    apply OkPost.skip; intro _
    constructor
    intro c1 b c' e hx _
    have hs := setSeqNum_in_apply nw c1
    by_cases hpos : nw > 0
    · rw [if_pos hpos] at hs
      rw [M.bind_ok hs] at hx
      simp only [M.pure_apply, List.append_nil, Out.mk.injEq] at hx
      obtain ⟨_, hc, _⟩ := hx
      subst hc
      intro _ _
      exact newSeqOf_of_get hw hnw
    · rw [if_neg hpos] at hs
      rw [M.bind_err hs] at hx
      cases hx
  have jp : ∀ honoured : Bool, OkPost g (if (!honoured) = true then pure false else seqresetApply m v)
      (fun ok c' => ok = true → ResetCaughtUp m c') := by
    intro honoured
    split
    · exact OkPost.pure (fun _ h => by cases h)
    · exact tail
  dsimp only
  split
  · apply OkPost.skip; intro n
    split
    · apply OkPost.skip; intro honoured; exact jp honoured
    · apply OkPost.skip; intro w
      apply OkPost.skip; intro nw
      apply OkPost.skip; intro honoured; exact jp honoured
  · apply OkPost.skip; intro honoured; exact jp honoured

theorem processHead_caughtUp (env : Env) (m : Msg) :
    OkPost g (processHead env m) (fun r c' => r.isSome = true → ResetCaughtUp m c') := by
  by_cases h4 : m.mtype = mSequenceReset
  case neg => exact ⟨fun _ _ _ _ _ _ _ h => absurd h h4⟩
  refine processHead_post (fun _ h => by cases h) ?_
  rw [headRest_seqreset h4]
  apply OkPost.bind_pre (processSeqreset_caughtUp m)
  intro ok
  cases ok with
  | false =>
    -- declined: `headSkip` returns `none`
    refine OkSpec.conseq (Q := fun _ b _ _ => b = none) ?_ fun _ b _ _ hb _ hf => by rw [hb] at hf; cases hf
    exact OkPost.skip fun _ => OkPost.skip fun _ => OkPost.skip fun _ => OkPost.pure fun _ => rfl
  | true =>
    -- honoured: `headTail` only reads and sends
    exact (OkSpec.ofRel (g := g) (headTail_insame env m)).conseq fun _ _ _ _ hn hf _ h4 => by
      rw [hn.1]; exact hf rfl h4

omit [EffGuard g] in
theorem dispatch_caughtUp (env : Env) (sr : Msg → Bool) (m : Msg) (valid : Bool) (n : Int) :
    OkSpec g (processDispatch env sr m valid n) (fun c _ c' _ => ResetCaughtUp m c → ResetCaughtUp m c') := by
  by_cases h4 : m.mtype = mSequenceReset
  case neg => exact ⟨fun _ _ _ _ _ _ _ h => absurd h h4⟩
  rw [processDispatch_quiet env sr (Or.inl h4)]
  exact ⟨fun c _ c' _ hx _ hp => by cases hx; exact hp⟩

theorem processMessage_good (env : Env) (sr : Msg → Bool) (m : Msg) :
    OkSpec excFree (processMessage env sr m)
      (fun c _ c' e => 0 < c.sess.nextIn → Good (some m) c c' e) := by
  unfold processMessage
  refine OkSpec.bind (Q2 := fun _ c1 _ c2 e2 => 0 < c1.sess.nextIn → Good (some m) c1 c2 e2)
    (OkSpec.ofRel (RSame.to (validateIntegrity_same m))) ?_
    (fun _ _ _ _ _ _ _ h1 h2 hp => Compositional.trans h1 (h2 (h1.pos hp)))
  intro integ
  cases integ with
  | critical => exact (disconnect_good env _ _).conseq (fun _ _ _ _ h _ => h)
  | reason text => exact (disconnect_good env _ _).conseq (fun _ _ _ _ h _ => h)
  | good =>
    refine OkSpec.bind
      (Q1 := fun c r c1 e => Good (some m) c c1 e ∧ (r.isSome = true → ResetCaughtUp m c1))
      (Q2 := fun head c1 _ c2 e2 => (head.isSome = true → ResetCaughtUp m c1) → 0 < c1.sess.nextIn → Good (some m) c1 c2 e2)
      (OkSpec.swallow ((processHead_good env m).and (processHead_caughtUp env m))) ?_
      (fun _ _ _ _ _ _ _ h1 h2 hp => Compositional.trans h1.1 (h2 h1.2 (h1.1.pos hp)))
    intro head
    cases head with
    | none => exact ⟨fun c _ _ _ hx _ _ _ => by cases hx; exact Compositional.refl c⟩
    | some p =>
      obtain ⟨valid, n⟩ := p
      refine OkSpec.bind
        (Q1 := fun c _ c1 e => Good (some m) c c1 e ∧ (ResetCaughtUp m c → ResetCaughtUp m c1))
        (Q2 := fun _ c1 _ c2 e2 => ResetCaughtUp m c1 → 0 < c1.sess.nextIn → Good (some m) c1 c2 e2)
        (OkSpec.swallow ((processDispatch_good env sr m valid n).and (dispatch_caughtUp env sr m valid n))) ?_
        (fun _ _ _ _ _ _ _ h1 h2 hp2 hp =>
          Compositional.trans h1.1 (h2 (h1.2 (hp2 rfl)) (h1.1.pos hp)))
      intro _
      split
      · exact finalize_good env m
      · exact ⟨fun c _ _ _ hx _ _ _ => by cases hx; exact Compositional.refl c⟩

section walk
attribute [local irreducible] disconnect stateSet sendMsg sendTestReq M.bind' M.pure' M.throw M.tryCatch M.get M.modify
  M.emit M.liftE M.assert M.int

theorem tickLate_good (env : Env) : OkRel excFree (Good om) (tickLate env) := by
  unfold tickLate tickLate2
  ok_tac [disconnect_good]

theorem tickBody_good (env : Env) : OkRel excFree (Good om) (tickBody env) := by
  rw [tickBody_eq]
  ok_tac [tickLate_good, sendTestReq_good, Good.modify]

theorem connectedM_good (k : ConnKind) : OkRel g (Good om) (connectedM k) := by
  cases k <;> unfold connectedM <;> ok_tac [Good.modify, Good.emit]

end walk

theorem run_excFree {α : Type} {x : M α} {c : Conn} (h : excFree (x.run c).2 = true) :
    ∃ a, x c = ⟨.ok a, (x.run c).1, (x.run c).2⟩ := by
  unfold M.run at h ⊢
  rcases hx : x c with ⟨r, c1, e1⟩
  rw [hx] at h
  cases r with
  | ok a => exact ⟨a, rfl⟩
  | error ex => simp [excFree, List.all_append] at h

/-- events of the theorems' scope: no `reset_seq_num()`, and the application does not send frames that
carry their own MsgSeqNum (SequenceReset / PossDupFlag=Y) -/
def admissible : Event → Bool
  | .appSend _ m => !ownSeq m
  | .resetSeq => false
  | _ => true

/-- the inbound frame an event processes -/
def evMsg : Event → Option Msg
  | .recv _ m => some m
  | _ => none

theorem step_good (sr : Msg → Bool) (c : Conn) (ev : Event) (hadm : admissible ev = true)
    (hex : excFree (step sr c ev).2 = true) (hpos : 0 < c.sess.nextIn) :
    Good (evMsg ev) c (step sr c ev).1 (step sr c ev).2 := by
  cases ev with
  | recv env m =>
    obtain ⟨a, hx⟩ := run_excFree (x := processMessage env sr m) hex
    exact (processMessage_good env sr m).out _ _ _ _ hx hex hpos
  | appSend env m =>
    obtain ⟨a, hx⟩ := run_excFree (x := sendMsg env m) hex
    have hnew : ownSeq m = false := by simpa [admissible] using hadm
    exact (sendMsg_good (om := none) env m hnew).out _ _ _ _ hx hex
  | appTestReq env =>
    obtain ⟨a, hx⟩ := run_excFree (x := sendTestReq env) hex
    exact (sendTestReq_good (om := none) env).out _ _ _ _ hx hex
  | appDisconnect env d l =>
    obtain ⟨a, hx⟩ := run_excFree (x := disconnect env d l) hex
    exact (disconnect_good (om := none) env d l).out _ _ _ _ hx hex
  | tick env =>
    obtain ⟨a, hx⟩ := run_excFree (x := tickBody env) hex
    exact (tickBody_good (om := none) env).out _ _ _ _ hx hex
  | eof env =>
    change excFree (eof env c).2 = true at hex
    show Good none c (eof env c).1 (eof env c).2
    unfold eof at hex ⊢
    split
    · rename_i hs
      rw [if_pos hs] at hex
      obtain ⟨a, hx⟩ := run_excFree (x := disconnect env st_DISCONNECTED_BROKEN_CONN none) hex
      exact (disconnect_good (om := none) env _ _).out _ _ _ _ hx hex
    · exact Compositional.refl c
  | connected k =>
    obtain ⟨a, hx⟩ := run_excFree (x := connectedM k) hex
    exact (connectedM_good (om := none) k).out _ _ _ _ hx hex
  | resetSeq => simp [admissible] at hadm

theorem step_goodH (sr : Msg → Bool) (c : Conn) (ev : Event) (hadm : admissible ev = true)
    (hex : excFree (step sr c ev).2 = true) (hpos : 0 < c.sess.nextIn) :
    GoodH c (step sr c ev).1 (step sr c ev).2 := (step_good sr c ev hadm hex hpos).toH

/-- a SequenceReset whose NewSeqNo is not its MsgSeqNum + 1 (or cannot be read): the D13 class -/
def jumpReset : Event → Bool
  | .recv _ m =>
    m.mtype == mSequenceReset &&
      (match seqOf m, newSeqOf m with
       | some a, some b => b != a + 1
       | _, _ => true)
  | _ => false

theorem step_exact (sr : Msg → Bool) (c : Conn) (ev : Event) (hadm : admissible ev = true)
    (hnj : jumpReset ev = false) (hex : excFree (step sr c ev).2 = true) (hpos : 0 < c.sess.nextIn)
    (hi : InExact c) : InExact (step sr c ev).1 := by
  have hg := step_good sr c ev hadm hex hpos
  rcases hg.inb with hs | hb | ⟨m, hm, hl⟩
  · exact hi.of_same hs
  · exact hb
  · cases ev with
    | recv env m' =>
      simp only [evMsg, Option.some.injEq] at hm
      subst hm
      simp only [lagBy, Bool.and_eq_true, beq_iff_eq] at hl
      obtain ⟨⟨⟨h4, _⟩, hsq⟩, hnq⟩ := hl
      simp only [jumpReset, h4, beq_self_eq_true, Bool.true_and, hsq, hnq] at hnj
      unfold InExact
      have : (step sr c (Event.recv env m')).1.sess.nextIn = (step sr c (Event.recv env m')).1.journal.inSeq + 1 := by
        simpa using hnj
      exact this.symm
    | _ => simp [evMsg] at hm

theorem run_goodH (sr : Msg → Bool) (evs : List Event) (c : Conn)
    (hadm : ∀ ev ∈ evs, admissible ev = true) (hex : excFree (run sr c evs).2 = true) (hq : Quiet c) :
    GoodH c (run sr c evs).1 (run sr c evs).2 := by
  induction evs generalizing c with
  | nil => exact Compositional.refl c
  | cons ev rest ih =>
    simp only [run] at hex ⊢
    rw [excFree_append, Bool.and_eq_true] at hex
    have h1 := step_goodH sr c ev (hadm ev (List.mem_cons_self ..)) hex.1 hq.pos
    have h2 := ih (step sr c ev).1 (fun e he => hadm e (List.mem_cons_of_mem _ he)) hex.2 (h1.quiet hq)
    exact Compositional.trans h1 h2

theorem run_exact (sr : Msg → Bool) (evs : List Event) (c : Conn)
    (hadm : ∀ ev ∈ evs, admissible ev = true) (hnj : ∀ ev ∈ evs, jumpReset ev = false)
    (hex : excFree (run sr c evs).2 = true) (hq : Quiet c) (hi : InExact c) :
    InExact (run sr c evs).1 := by
  induction evs generalizing c with
  | nil => exact hi
  | cons ev rest ih =>
    simp only [run] at hex ⊢
    rw [excFree_append, Bool.and_eq_true] at hex
    have h1 := step_goodH sr c ev (hadm ev (List.mem_cons_self ..)) hex.1 hq.pos
    have h1e := step_exact sr c ev (hadm ev (List.mem_cons_self ..)) (hnj ev (List.mem_cons_self ..)) hex.1
      hq.pos hi
    exact ih (step sr c ev).1 (fun e he => hadm e (List.mem_cons_of_mem _ he))
      (fun e he => hnj e (List.mem_cons_of_mem _ he)) hex.2 (h1.quiet hq) h1e

end AsyncFix.Restart
