import AsyncFix.Lemmas.SchedOk

/-!
Induction over an ARBITRARY schedule.  `GInv ts c0 s`: the whole run so far, seen as one long segment from the
initial connection, satisfies `Seg`; an escaping DuplicateSeqNoError can only come from a reader task; every
unfinished task is `Ok` from whatever connection it will be resumed on.  `exec_inv`: it holds while `blocked = 0`.
-/
namespace AsyncFix.Sched

open AsyncFix.Session AsyncFix.Generated AsyncFix.Generated.ConnEnum

/-- the reader task is the only one that also writes the inbound journal -/
def Task.inb : Task → Bool
  | .recv .. => true
  | _ => false

/-- application senders send NEW messages (not SequenceReset, no PossDupFlag=Y) – or messages of any kind
(also ones that carry their own number) whose text is outside latin-1 and is therefore refused -/
def Task.wf : Task → Bool
  | .send _ m => isNew m || unencodable m
  | _ => true

def flagOf (ts : List Task) (j : Nat) : Bool :=
  match ts[j]? with
  | some t => t.inb
  | none => false

theorem Task.body_ok (sr : Msg → Bool) (t : Task) (h : t.wf = true) : ROk t.inb (t.body sr) := by
  cases t with
  | send env m =>
    simp only [Task.wf, Bool.or_eq_true] at h
    rcases h with h | h
    · exact sendMsgR_ok env ((isNew_iff m).1 h)
    · exact sendMsgR_of_core env (sendCore_spec_unencodable env h)
  | tick env => exact tickBodyR_ok env
  | recv env m => exact processMessageR_ok env sr m

structure GInv (ts : List Task) (c0 : Conn) (s : SState) : Prop where
  seg : Seg true c0 s.conn s.effects
  strict : ∀ p ∈ s.log, p.2 = .raised .duplicateSeqNo → flagOf ts p.1 = true
  tasks : ∀ j pt k, s.tasks[j]? = some (.live pt k) → ∀ c1, Ok (flagOf ts j) c1 (k c1)

theorem countGhost_zero_notMem {g : List Ghost} {x : Ghost} (h : countGhost x g = 0) : x ∉ g := by
  unfold countGhost at h
  intro hm
  have : (g.filter (· == x)).length > 0 := by
    apply List.length_pos_of_mem (a := x)
    simp [List.mem_filter, hm]
  omega

theorem countGhost_zero {g : List Ghost} (h : countGhost .rewind g = 0) (h' : countGhost .waive g = 0) :
    noRewind g = true := by
  unfold noRewind
  simp [List.contains_eq_mem, countGhost_zero_notMem h, countGhost_zero_notMem h']

theorem errEff_eq_pend (r : Except Exc Unit) : errEff r = pend r := by cases r <;> rfl

section step
variable {ts : List Task} {c0 : Conn} {s : SState} {j : Nat}

/-- the run so far, extended by one segment of task `j` -/
theorem GInv.append_seg (h : GInv ts c0 s) {c : Conn} {e : List Effect} (hs : Seg (flagOf ts j) s.conn c e) :
    Seg true c0 c ((s.log ++ e.map fun x => (j, x)).map (·.2)) ∧
    ∀ p ∈ s.log ++ e.map (fun x => (j, x)), p.2 = .raised .duplicateSeqNo → flagOf ts p.1 = true := by
  constructor
  · simp only [List.map_append, List.map_map, Function.comp_def, List.map_id']
    exact h.seg.trans (hs.mono nofun)
  · intro p hp hx
    simp only [List.mem_append, List.mem_map] at hp
    rcases hp with hp | ⟨x, hx', rfl⟩
    · exact h.strict p hp hx
    · -- an escaping duplicate report in a segment of a task that is not a reader: `Seg false` rules it out
      cases hf : flagOf ts j with
      | true => rfl
      | false =>
        rw [hf] at hs
        exact absurd (hx ▸ hx') (((dupErr_eq_false_iff _ _).mp hs.nodup).2 rfl)

/-- task `j` replaced by a state whose continuation (if any) is fine -/
theorem GInv.tasks_set (h : GInv ts c0 s) {pt : Option YieldPoint} {k : Conn → Res Unit} {t : TState}
    (hk : s.tasks[j]? = some (.live pt k))
    (ht : ∀ pt' k', t = .live pt' k' → ∀ c1, Ok (flagOf ts j) c1 (k' c1)) :
    ∀ j' pt' k', (s.tasks.set j t)[j']? = some (.live pt' k') → ∀ c1, Ok (flagOf ts j') c1 (k' c1) := by
  intro j' pt' k' hj'
  by_cases hjj : j = j'
  · subst hjj
    have hlt : j < s.tasks.length := (List.getElem?_eq_some_iff.mp hk).1
    rw [List.getElem?_set_self hlt] at hj'
    exact ht pt' k' (Option.some.inj hj')
  · rw [List.getElem?_set_ne hjj] at hj'
    exact h.tasks j' pt' k' hj'

/-- one segment of task `j` keeps the invariant (or rewinds) -/
theorem runTask_inv {pt : Option YieldPoint} {k : Conn → Res Unit} (h : GInv ts c0 s)
    (hk : s.tasks[j]? = some (.live pt k)) (ho : (s.runTask j k).blocked = 0) : GInv ts c0 (s.runTask j k) := by
  have hok := h.tasks j pt k hk s.conn
  have hJ := h.seg.inv
  unfold SState.blocked SState.runTask at ho
  unfold SState.runTask
  cases hr : k s.conn with
  | done c e g r =>
    rw [hr] at hok ho
    simp only at ho ⊢
    have hs := hok (countGhost_zero (by omega) (by omega)) hJ
    rw [← errEff_eq_pend] at hs
    exact ⟨(h.append_seg hs).1, (h.append_seg hs).2, h.tasks_set hk (by intro _ _ e; cases e)⟩
  | yield c e g pt2 k2 =>
    rw [hr] at hok ho
    simp only at ho ⊢
    have hg : noRewind g = true := countGhost_zero (by omega) (by omega)
    refine ⟨(h.append_seg (hok.1 hg hJ)).1, (h.append_seg (hok.1 hg hJ)).2, h.tasks_set hk ?_⟩
    intro _ _ e
    cases e
    exact hok.2 hg

end step

theorem blocked_mono_runTask (s : SState) (j : Nat) (k : Conn → Res Unit) : s.blocked ≤ (s.runTask j k).blocked := by
  unfold SState.blocked SState.runTask
  split <;> simp only <;> omega

/-- a letter either touches nothing but the transport flag and the drain queue, or runs one segment of a live
task from a state that differs from `s` in the drain queue only -/
theorem step_cases (s : SState) (l : Letter) :
    (∃ p q, s.step l = { s with paused := p, drainQ := q }) ∨
    ∃ j pt k q, s.tasks[j]? = some (.live pt k) ∧ s.step l = ({ s with drainQ := q }).runTask j k := by
  cases l with
  | pause => exact .inl ⟨true, s.drainQ, rfl⟩
  | resume => exact .inl ⟨false, _, rfl⟩
  | run j =>
    simp only [SState.step]
    split
    · rename_i pt k hk
      split
      · split
        · exact .inr ⟨j, pt, k, s.drainQ.tail, hk, rfl⟩
        · exact .inl ⟨s.paused, s.drainQ, rfl⟩
      · exact .inr ⟨j, pt, k, s.drainQ, hk, rfl⟩
    · exact .inl ⟨s.paused, s.drainQ, rfl⟩

theorem blocked_mono_step (s : SState) (l : Letter) : s.blocked ≤ (s.step l).blocked := by
  rcases step_cases s l with ⟨p, q, e⟩ | ⟨j, pt, k, q, _, e⟩ <;> rw [e]
  · exact Nat.le_refl _
  · exact blocked_mono_runTask { s with drainQ := q } j k

theorem step_inv {ts : List Task} {c0 : Conn} {s : SState} (l : Letter) (h : GInv ts c0 s)
    (ho : (s.step l).blocked = 0) : GInv ts c0 (s.step l) := by
  rcases step_cases s l with ⟨p, q, e⟩ | ⟨j, pt, k, q, hk, e⟩ <;> rw [e] at ho ⊢
  · exact ⟨h.seg, h.strict, h.tasks⟩
  · exact runTask_inv (s := { s with drainQ := q }) ⟨h.seg, h.strict, h.tasks⟩ hk ho

theorem everRewound_of_windowOpen {s : SState} (h : s.windowOpen = true) : s.everRewound = true := by
  simp only [SState.windowOpen, SState.everRewound, decide_eq_true_eq] at h ⊢
  omega

/-- **induction over the schedule**: the invariant holds after every schedule, of any length, over any
number of tasks, in which no `_process_resend` has rewound the outbound counter and no acceptor Logon reply was
lost.  The induction carries "the invariant, if nothing is blocked so far": `blocked` never decreases
(`blocked_mono_step`), so it is 0 before a letter when it is 0 after it. -/
theorem exec_inv {ts : List Task} {c0 : Conn} {s : SState} (sched : List Letter) (h : GInv ts c0 s)
    (ho : (s.exec sched).blocked = 0) : GInv ts c0 (s.exec sched) := by
  suffices hall : ∀ (sched : List Letter) (s : SState), (s.blocked = 0 → GInv ts c0 s) →
      (s.exec sched).blocked = 0 → GInv ts c0 (s.exec sched) from hall sched s (fun _ => h) ho
  intro sched
  induction sched with
  | nil => exact fun _ h ho => h ho
  | cons l r ih =>
    exact fun s h ho => ih (s.step l)
      (fun h1 => step_inv l (h (by have := blocked_mono_step s l; omega)) h1) ho

theorem init_inv (sr : Msg → Bool) (c0 : Conn) (ts : List Task) (paused : Bool) (hJ : J c0)
    (hT : ∀ t ∈ ts, t.wf = true) : GInv ts c0 (SState.init sr c0 ts paused) := by
  refine ⟨Seg.refl hJ, by simp [SState.init], ?_⟩
  intro j pt k hj c1
  simp only [SState.init, List.getElem?_map] at hj
  cases ht : ts[j]? with
  | none => simp [ht] at hj
  | some t =>
    simp only [ht, Option.map_some, Option.some.injEq] at hj
    obtain ⟨_, rfl⟩ := hj
    have hm : t ∈ ts := List.mem_of_getElem? ht
    have := (Task.body_ok sr t (hT t hm)).out c1
    simpa [flagOf, ht] using this

end AsyncFix.Sched
