/-
Times.  `time_tail`: what `%H:%M:%S[.%f]` reads from a time string, started from an arbitrary
`DateTime`; UTCTimeOnly is the case of the empty start.  Model and SPEC are both brought to one explicit
shape (`TimeShape`) that differs only in parameters: largest second, whether six fraction digits are
admitted.  A timestamp is a date, '-' and a time for the model (`ts_split`: the date read first is the
start of `time_tail`) as for the SPEC (`isTimestamp_split`), so UTCTimestamp follows from the date and
the time theorem.
-/
import AsyncFix.Lemmas.LexDate
namespace AsyncFix.Lemmas.LexTime
open AsyncFix.Py AsyncFix.Lemmas.LexTok AsyncFix.Lemmas.LexSeq AsyncFix.Lemmas.LexLayout
open AsyncFix.Lemmas.LexDate
open AsyncFix.Model AsyncFix.Model.Lexical AsyncFix.Model.LexClass

def fmtHMSf : List Dir := fmtHMS ++ [.lit 46, .f]

def HmsDigits (h1 h2 n1 n2 s1 s2 : Nat) : Prop :=
  isAsciiDigit h1 = true ∧ isAsciiDigit h2 = true ∧ isAsciiDigit n1 = true ∧ isAsciiDigit n2 = true ∧
    isAsciiDigit s1 = true ∧ isAsciiDigit s2 = true

/-- a '.' and three digits, or (if `six`) six digits -/
def Frac (six : Bool) (fr : Str) : Prop :=
  ∃ fs, fr = 46 :: fs ∧ fs.all isAsciiDigit = true ∧ (fs.length = 3 ∨ (six = true ∧ fs.length = 6))

/-- HH:MM:SS[.fraction] with HH ≤ 23, MM ≤ 59, SS ≤ maxSec -/
def TimeShape (maxSec : Nat) (six : Bool) (tm : Str) : Prop :=
  ∃ h1 h2 n1 n2 s1 s2 fr, tm = h1 :: h2 :: 58 :: n1 :: n2 :: 58 :: s1 :: s2 :: fr ∧
    HmsDigits h1 h2 n1 n2 s1 s2 ∧ two h1 h2 ≤ 23 ∧ two n1 n2 ≤ 59 ∧ two s1 s2 ≤ maxSec ∧
    (fr = [] ∨ Frac six fr)

theorem hms_no_dot {h1 h2 n1 n2 s1 s2 : Nat} (hd : HmsDigits h1 h2 n1 n2 s1 s2) :
    [h1, h2, 58, n1, n2, 58, s1, s2].contains 46 = false := by
  obtain ⟨a1, a2, a3, a4, a5, a6⟩ := hd
  have e : ∀ c, isAsciiDigit c = true → ¬ 46 = c :=
    fun c h => (digit_ne_of_not_digit h (by decide)).symm
  simp [e _ a1, e _ a2, e _ a3, e _ a4, e _ a5, e _ a6]

/-- `_validate_value_datetime` extends the format by `.%f` iff the value has a '.' -/
theorem effFmt_hms (s : Str) : effFmt s fmtHMS = if s.contains 46 then fmtHMSf else fmtHMS := by
  unfold effFmt; cases s.contains 46 <;> rfl

theorem good_hms (tm : Str) : Good (effFmt tm fmtHMS) = true := by
  rw [effFmt_hms]; split <;> rfl

/-- the time directives from a start `t0` that carries the date (and no microseconds yet): a time string
reads and passes the calendar checks iff the date of `t0` is good and the string has the model's time shape -/
theorem time_tail (tm : Str) (t0 : DateTime) (h0 : t0.micro = 0) :
    (∃ tv, Reads (effFmt tm fmtHMS) tm tv ∧ dtOk (assign (effFmt tm fmtHMS) tv t0) = true) ↔
      (t0.dateBad = false ∧ TimeShape 59 true tm) := by
  rw [effFmt_hms]
  constructor
  · rintro ⟨tv, hr, hok⟩
    obtain ⟨hdb, htb0⟩ := (dtOk_split _).1 hok
    have htb := (timeBad_iff _).1 htb0
    clear htb0 hok
    by_cases hdot : tm.contains 46 = true
    · rw [if_pos hdot] at hr hdb htb
      obtain ⟨h1, h2, _, _, rfl, rfl, a1, a2, -, b1, _, _, rfl, rfl, n1, n2, _, _, rfl, rfl, a3, a4, -, b2, _, _, rfl, rfl,
        s1, s2, _, _, rfl, rfl, a5, a6, -, -, fs, _, rfl, rfl, -, hfd, hfl, rfl⟩ := hr
      have hdb : t0.dateBad = false := hdb
      simp only [assign, fmtHMSf, fmtHMS, List.cons_append, List.nil_append] at htb
      exact ⟨hdb, h1, h2, n1, n2, s1, s2, _, rfl, ⟨a1, a2, a3, a4, a5, a6⟩, b1, b2, htb.2.2.1,
        Or.inr ⟨fs, rfl, hfd, hfl.imp_right fun l => ⟨rfl, l⟩⟩⟩
    · rw [if_neg hdot] at hr hdb htb
      obtain ⟨h1, h2, _, _, rfl, rfl, a1, a2, -, b1, _, _, rfl, rfl, n1, n2, _, _, rfl, rfl, a3, a4, -, b2, _, _, rfl, rfl,
        s1, s2, _, _, rfl, rfl, a5, a6, -, -, rfl, rfl⟩ := hr
      have hdb : t0.dateBad = false := hdb
      simp only [assign, fmtHMS] at htb
      exact ⟨hdb, h1, h2, n1, n2, s1, s2, _, rfl, ⟨a1, a2, a3, a4, a5, a6⟩, b1, b2, htb.2.2.1, Or.inl rfl⟩
  · rintro ⟨hdb, h1, h2, n1, n2, s1, s2, fr, rfl, hd, b1, b2, b3, hfr⟩
    have hd' := hd
    obtain ⟨a1, a2, a3, a4, a5, a6⟩ := hd'
    have b3' : two s1 s2 ≤ 61 := by omega
    rcases hfr with rfl | ⟨fs, rfl, hfd, hfl⟩
    · rw [hms_no_dot hd, if_neg Bool.false_ne_true]
      refine ⟨_, ⟨h1, h2, _, _, rfl, rfl, a1, a2, Nat.zero_le _, b1, _, _, rfl, rfl, n1, n2, _, _, rfl, rfl, a3, a4,
        Nat.zero_le _, b2, _, _, rfl, rfl, s1, s2, _, _, rfl, rfl, a5, a6, Nat.zero_le _, b3', rfl, rfl⟩, ?_⟩
      refine (dtOk_split _).2 ⟨hdb, (timeBad_iff _).2 ?_⟩
      simp only [assign, fmtHMS]
      omega
    · have hdot : (h1 :: h2 :: 58 :: n1 :: n2 :: 58 :: s1 :: s2 :: 46 :: fs).contains 46 = true := by simp
      have hfl' := hfl.imp_right And.right
      rw [hdot, if_pos rfl]
      refine ⟨_, ⟨h1, h2, _, _, rfl, rfl, a1, a2, Nat.zero_le _, b1, _, _, rfl, rfl, n1, n2, _, _, rfl, rfl, a3, a4,
        Nat.zero_le _, b2, _, _, rfl, rfl, s1, s2, _, _, rfl, rfl, a5, a6, Nat.zero_le _, b3', fs, _, rfl, rfl,
        rfl, hfd, hfl', rfl⟩, ?_⟩
      refine (dtOk_split _).2 ⟨hdb, (timeBad_iff _).2 ?_⟩
      have := fracVal_le hfd (by omega)
      simp only [assign, fmtHMSf, fmtHMS, List.cons_append, List.nil_append]
      omega

theorem time_pass_shape (s : Str) : validateDatetime s fmtHMS = .pass ↔ TimeShape 59 true s := by
  rw [validateDatetime_reads s _ (good_hms s), time_tail s {} rfl]
  exact and_iff_right rfl

theorem isHMS_iff {s : Str} : LexSpec.isHMS s = true ↔
    ∃ h1 h2 n1 n2 s1 s2, s = [h1, h2, 58, n1, n2, 58, s1, s2] ∧ HmsDigits h1 h2 n1 n2 s1 s2 ∧
      two h1 h2 ≤ 23 ∧ two n1 n2 ≤ 59 ∧ two s1 s2 ≤ 60 := by
  constructor
  · intro h
    unfold LexSpec.isHMS at h
    split at h
    · rename_i h1 h2 n1 n2 s1 s2
      simp only [Bool.and_eq_true, decide_eq_true_eq] at h
      simp only [spec_digit, spec_two] at h
      obtain ⟨⟨⟨⟨⟨⟨⟨⟨a1, a2⟩, a3⟩, a4⟩, a5⟩, a6⟩, b1⟩, b2⟩, b3⟩ := h
      exact ⟨h1, h2, n1, n2, s1, s2, rfl, ⟨a1, a2, a3, a4, a5, a6⟩, b1, b2, b3⟩
    · cases h
  · rintro ⟨h1, h2, n1, n2, s1, s2, rfl, ⟨a1, a2, a3, a4, a5, a6⟩, b1, b2, b3⟩
    simp only [LexSpec.isHMS, Bool.and_eq_true, decide_eq_true_eq]
    simp only [spec_digit, spec_two]
    exact ⟨⟨⟨⟨⟨⟨⟨⟨a1, a2⟩, a3⟩, a4⟩, a5⟩, a6⟩, b1⟩, b2⟩, b3⟩

theorem isMillis_iff {w : Str} : LexSpec.isMillis w = true ↔ Frac false w := by
  constructor
  · intro h
    unfold LexSpec.isMillis at h
    split at h
    · rename_i a b c
      simp only [Bool.and_eq_true, spec_digit] at h
      exact ⟨[a, b, c], rfl, by simp [h.1.1, h.1.2, h.2], Or.inl rfl⟩
    · cases h
  · rintro ⟨fs, rfl, hd, hl | ⟨h, -⟩⟩
    · rcases fs with _ | ⟨a, _ | ⟨b, _ | ⟨c, _ | ⟨d, t⟩⟩⟩⟩ <;> simp at hl
      simpa [LexSpec.isMillis, spec_digit, and_assoc] using hd
    · cases h

theorem isTimeOnly_shape (s : Str) : LexSpec.isTimeOnly s = true ↔ TimeShape 60 false s := by
  unfold LexSpec.isTimeOnly
  rw [Bool.or_eq_true, Bool.and_eq_true, isHMS_iff, isHMS_iff, isMillis_iff]
  constructor
  · rintro (⟨h1, h2, n1, n2, s1, s2, rfl, hd, b⟩ | ⟨⟨h1, h2, n1, n2, s1, s2, he, hd, b⟩, h3⟩)
    · exact ⟨h1, h2, n1, n2, s1, s2, [], rfl, hd, b.1, b.2.1, b.2.2, Or.inl rfl⟩
    · refine ⟨h1, h2, n1, n2, s1, s2, s.drop 8, ?_, hd, b.1, b.2.1, b.2.2, Or.inr h3⟩
      have := List.take_append_drop 8 s
      rw [he] at this
      exact this.symm
  · rintro ⟨h1, h2, n1, n2, s1, s2, fr, rfl, hd, b1, b2, b3, hfr⟩
    rcases hfr with rfl | h3
    · exact Or.inl ⟨h1, h2, n1, n2, s1, s2, rfl, hd, b1, b2, b3⟩
    · exact Or.inr ⟨⟨h1, h2, n1, n2, s1, s2, by simp, hd, b1, b2, b3⟩, by simpa using h3⟩

theorem second60_shape {h1 h2 n1 n2 s1 s2 : Nat} {fr : Str} (hd : HmsDigits h1 h2 n1 n2 s1 s2) :
    second60 (h1 :: h2 :: 58 :: n1 :: n2 :: 58 :: s1 :: s2 :: fr) = true ↔ two s1 s2 = 60 := by
  obtain ⟨-, -, -, -, a5, a6⟩ := hd
  have := digit_iff.1 a5; have := digit_iff.1 a6
  simp [second60, two]
  omega

/-- a time with six fraction digits, otherwise a valid accepted FIX time (stated on the time part) -/
def SixFrac (tm : Str) : Prop :=
  tm.length = 15 ∧ TimeShape 60 false (tm.take 12) ∧ second60 (tm.take 12) = false ∧
    (tm.drop 12).all isAsciiDigit = true

/-- model shape = (SPEC shape minus second 60) plus six-digit fractions -/
theorem timeShape_split (tm : Str) :
    TimeShape 59 true tm ↔ (TimeShape 60 false tm ∧ second60 tm = false) ∨ SixFrac tm := by
  constructor
  · rintro ⟨h1, h2, n1, n2, s1, s2, fr, rfl, hd, b1, b2, b3, hfr⟩
    have hs : ∀ fr', second60 (h1 :: h2 :: 58 :: n1 :: n2 :: 58 :: s1 :: s2 :: fr') = false := by
      intro fr'
      cases h : second60 (h1 :: h2 :: 58 :: n1 :: n2 :: 58 :: s1 :: s2 :: fr')
      · rfl
      · have := (second60_shape hd).1 h; omega
    rcases hfr with rfl | ⟨fs, rfl, hfd, hl | ⟨-, hl⟩⟩
    · exact Or.inl ⟨⟨h1, h2, n1, n2, s1, s2, [], rfl, hd, b1, b2, by omega, Or.inl rfl⟩, hs _⟩
    · exact Or.inl ⟨⟨h1, h2, n1, n2, s1, s2, _, rfl, hd, b1, b2, by omega, Or.inr ⟨fs, rfl, hfd, Or.inl hl⟩⟩, hs _⟩
    · rcases fs with _ | ⟨a, _ | ⟨b, _ | ⟨c, _ | ⟨d, _ | ⟨e, _ | ⟨f, _ | ⟨g, t⟩⟩⟩⟩⟩⟩⟩ <;> simp at hl
      simp only [List.all_cons, List.all_nil, Bool.and_true, Bool.and_eq_true] at hfd
      refine Or.inr ⟨rfl, ⟨h1, h2, n1, n2, s1, s2, [46, a, b, c], rfl, hd, b1, b2, by omega,
        Or.inr ⟨[a, b, c], rfl, by simp [hfd.1, hfd.2.1, hfd.2.2.1], Or.inl rfl⟩⟩, hs _, ?_⟩
      simp [hfd.2.2.2]
  · rintro (⟨⟨h1, h2, n1, n2, s1, s2, fr, rfl, hd, b1, b2, b3, hfr⟩, hs⟩ | ⟨hlen, hsh, hs, hdig⟩)
    · have : two s1 s2 ≠ 60 := by
        intro h; rw [(second60_shape hd).2 h] at hs; cases hs
      refine ⟨h1, h2, n1, n2, s1, s2, fr, rfl, hd, b1, b2, by omega, ?_⟩
      rcases hfr with h | ⟨fs, rfl, hfd, hl | ⟨h, -⟩⟩
      · exact Or.inl h
      · exact Or.inr ⟨fs, rfl, hfd, Or.inl hl⟩
      · cases h
    · obtain ⟨h1, h2, n1, n2, s1, s2, fr, he, hd, b1, b2, b3, hfr⟩ := hsh
      have hl12 : (tm.take 12).length = 12 := by simp [List.length_take]; omega
      have : two s1 s2 ≠ 60 := by
        intro h; rw [he, (second60_shape hd).2 h] at hs; cases hs
      rw [he] at hl12
      have hsplit := List.take_append_drop 12 tm
      rw [he] at hsplit
      rcases hfr with rfl | ⟨fs, rfl, hfd, hl | ⟨h, -⟩⟩
      · simp at hl12
      · refine ⟨h1, h2, n1, n2, s1, s2, 46 :: (fs ++ tm.drop 12), by simpa using hsplit.symm, hd, b1, b2,
          by omega, Or.inr ⟨fs ++ tm.drop 12, rfl, by simp [hfd, hdig], Or.inr ⟨rfl, ?_⟩⟩⟩
        simp [List.length_drop]; omega
      · cases h

theorem sixFrac_timeOnly (cfg : Cfg) (s : Str) :
    sixFractionDigits cfg .timeOnly LexSpec.isTimeOnly 8 s = true ↔ SixFrac s := by
  simp only [sixFractionDigits, narrow, Bool.and_eq_true, decide_eq_true_eq, Bool.not_eq_true',
    isTimeOnly_shape, SixFrac]
  constructor
  · rintro ⟨⟨⟨a, b⟩, c⟩, d⟩; exact ⟨a, b, c, d⟩
  · rintro ⟨a, b, c, d⟩; exact ⟨⟨⟨a, b⟩, c⟩, d⟩

theorem timeOnly_pass_iff (cfg : Cfg) (s : Str) :
    validateDatetime s fmtHMS = .pass ↔
      (LexSpec.isTimeOnly s = true ∧ second60 s = false) ∨ deviation cfg .timeOnly s = true := by
  rw [time_pass_shape, timeShape_split, isTimeOnly_shape]
  show _ ↔ _ ∨ sixFractionDigits cfg .timeOnly LexSpec.isTimeOnly 8 s = true
  rw [sixFrac_timeOnly]

theorem date_no_dot {d : Str} (hd : d.all isAsciiDigit = true) (tm : Str) :
    (d ++ 45 :: tm).contains 46 = tm.contains 46 := by
  rw [List.contains_append, not_contains_of_all_digit hd (by decide)]; rfl

theorem effFmt_ts (s : Str) : effFmt s fmtTimestamp = .Y :: .m :: .d :: .lit 45 :: effFmt s fmtHMS := by
  unfold effFmt; cases s.contains 46 <;> rfl

theorem effFmt_congr {s s' : Str} (h : s.contains 46 = s'.contains 46) (fmt : List Dir) :
    effFmt s fmt = effFmt s' fmt := by
  unfold effFmt; rw [h]

theorem good_ts (s : Str) : Good (effFmt s fmtTimestamp) = true := by
  rw [effFmt_ts, effFmt_hms]; split <;> rfl

/-- the parts of `d-tm` that the timestamp statements speak of, for a date part of eight characters -/
theorem stamp_parts {d : Str} (hd : d.length = 8) (tm : Str) :
    (d ++ 45 :: tm).take 8 = d ∧ (d ++ 45 :: tm).drop 8 = 45 :: tm ∧ (d ++ 45 :: tm).drop 9 = tm ∧
      (d ++ 45 :: tm).take 21 = d ++ 45 :: tm.take 12 ∧ (d ++ 45 :: tm).drop 21 = tm.drop 12 ∧
      year0000 (d ++ 45 :: tm) = year0000 d := by
  rcases d with _ | ⟨a, _ | ⟨b, _ | ⟨c, _ | ⟨e, _ | ⟨f, _ | ⟨g, _ | ⟨h, _ | ⟨i, _ | ⟨j, t⟩⟩⟩⟩⟩⟩⟩⟩⟩ <;> simp at hd
  exact ⟨rfl, rfl, rfl, rfl, rfl, rfl⟩

theorem ts_split (s : Str) : validateDatetime s fmtTimestamp = .pass ↔
    ∃ d tm, s = d ++ 45 :: tm ∧ validateDatetime d fmtYmd = .pass ∧ validateDatetime tm fmtHMS = .pass := by
  rw [validateDatetime_reads s _ (good_ts s), effFmt_ts]
  simp only [ymd_reads, time_pass_shape]
  constructor
  · rintro ⟨_, ⟨y1, y2, y3, y4, _, _, rfl, rfl, h1, h2, h3, h4, m1, m2, _, _, rfl, rfl, h5, h6, c2, c3,
      d1, d2, _, _, rfl, rfl, h7, h8, c4, c5, tm, tv, rfl, rfl, hr⟩, hok⟩
    have e : (y1 :: y2 :: y3 :: y4 :: m1 :: m2 :: d1 :: d2 :: 45 :: tm).contains 46 = tm.contains 46 :=
      date_no_dot (d := [y1, y2, y3, y4, m1, m2, d1, d2]) (by simp [h1, h2, h3, h4, h5, h6, h7, h8]) tm
    rw [effFmt_congr e] at hr hok
    obtain ⟨hdb, hts⟩ := (time_tail tm _ rfl).1 ⟨tv, hr, hok⟩
    exact ⟨[y1, y2, y3, y4, m1, m2, d1, d2], tm, rfl, ⟨_, ⟨y1, y2, y3, y4, _, _, rfl, rfl, h1, h2, h3, h4, m1, m2, _, _,
      rfl, rfl, h5, h6, c2, c3, d1, d2, _, _, rfl, rfl, h7, h8, c4, c5, rfl, rfl⟩, (dtOk_split _).2 ⟨hdb, rfl⟩⟩, hts⟩
  · rintro ⟨_, tm, rfl, ⟨_, ⟨y1, y2, y3, y4, _, _, rfl, rfl, h1, h2, h3, h4, m1, m2, _, _, rfl, rfl, h5, h6, c2, c3,
      d1, d2, _, _, rfl, rfl, h7, h8, c4, c5, rfl, rfl⟩, hok⟩, hts⟩
    obtain ⟨tv, hr, hok'⟩ := (time_tail tm
      { year := some (four y1 y2 y3 y4), month := two m1 m2, day := two d1 d2 } rfl).2 ⟨((dtOk_split _).1 hok).1, hts⟩
    rw [effFmt_congr (date_no_dot (by simp [h1, h2, h3, h4, h5, h6, h7, h8]) tm)]
    exact ⟨_, ⟨y1, y2, y3, y4, _, _, rfl, rfl, h1, h2, h3, h4, m1, m2, _, _, rfl, rfl, h5, h6, c2, c3,
      d1, d2, _, _, rfl, rfl, h7, h8, c4, c5, tm, tv, rfl, rfl, hr⟩, hok'⟩

theorem isTimestamp_split (s : Str) : LexSpec.isTimestamp s = true ↔
    ∃ d tm, s = d ++ 45 :: tm ∧ LexSpec.isDate d = true ∧ LexSpec.isTimeOnly tm = true := by
  unfold LexSpec.isTimestamp
  rw [Bool.and_eq_true]
  constructor
  · rintro ⟨hD, hT⟩
    unfold LexSpec.isDashTime at hT
    split at hT
    · rename_i tm he
      exact ⟨s.take 8, tm, by rw [← he, List.take_append_drop], hD, hT⟩
    · cases hT
  · rintro ⟨d, tm, rfl, hD, hT⟩
    obtain ⟨e1, e2, -⟩ := stamp_parts (isDate_facts hD).1 tm
    rw [e1, e2]
    exact ⟨hD, hT⟩

theorem timestamp_pass_iff (cfg : Cfg) (s : Str) :
    validateDatetime s fmtTimestamp = .pass ↔
      (LexSpec.isTimestamp s = true ∧ (year0000 s || second60 (s.drop 9)) = false) ∨
        deviation cfg .timestamp s = true := by
  show _ ↔ _ ∨ sixFractionDigits cfg .timestamp LexSpec.isTimestamp 17 s = true
  simp only [ts_split, date_pass_iff, timeOnly_pass_iff cfg, deviation, sixFractionDigits, narrow, Bool.and_eq_true,
    decide_eq_true_eq, Bool.not_eq_true', Bool.or_eq_false_iff, isTimestamp_split]
  constructor
  · rintro ⟨d, tm, rfl, ⟨hD, hy⟩, ht⟩
    obtain ⟨-, -, e9, e21, ed, ey⟩ := stamp_parts (isDate_facts hD).1 tm
    rw [e9, e21, ed, ey]
    rcases ht with ⟨hT, hs⟩ | ⟨⟨⟨hl, hT⟩, hs⟩, hdig⟩
    · exact Or.inl ⟨⟨d, tm, rfl, hD, hT⟩, hy, hs⟩
    · obtain ⟨-, -, e9', -, -, ey'⟩ := stamp_parts (isDate_facts hD).1 (tm.take 12)
      rw [e9', ey']
      exact Or.inr ⟨⟨⟨by simp [(isDate_facts hD).1, hl], d, _, rfl, hD, hT⟩, hy, hs⟩, hdig⟩
  · rintro (⟨⟨d, tm, rfl, hD, hT⟩, hy, hs⟩ | ⟨⟨⟨hl, d, tm', he, hD, hT⟩, hy, hs⟩, hdig⟩)
    · obtain ⟨-, -, e9, -, -, ey⟩ := stamp_parts (isDate_facts hD).1 tm
      rw [e9] at hs; rw [ey] at hy
      exact ⟨d, tm, rfl, ⟨hD, hy⟩, Or.inl ⟨hT, hs⟩⟩
    · obtain ⟨-, -, e9, -, -, ey⟩ := stamp_parts (isDate_facts hD).1 tm'
      rw [he, e9] at hs; rw [he, ey] at hy
      have hl' : tm'.length = 8 + 4 := by
        have := congrArg List.length he
        simp [(isDate_facts hD).1] at this; omega
      refine ⟨d, tm' ++ s.drop (17 + 4), ?_, ⟨hD, hy⟩, Or.inr ⟨⟨⟨by simp [hl']; omega, ?_⟩, ?_⟩, ?_⟩⟩
      · rw [← List.cons_append, ← List.append_assoc, ← he, List.take_append_drop]
      · rw [List.take_left' hl']; exact hT
      · rw [List.take_left' hl']; exact hs
      · rw [List.drop_left' hl']; exact hdig

end AsyncFix.Lemmas.LexTime
