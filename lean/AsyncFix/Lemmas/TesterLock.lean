import AsyncFix.Lemmas.TesterRecv

/-!
C20 helper lemmas: counterparties (`Peer`), single-byte messages (`latin1Msg`: what `send_msg` and, since fix
bcdee93, `FIXTester.reply` can put on the wire), journals only this connection wrote (`JFresh`); then the closed
forms as FUNCTIONS of the connection (`afterSend`, `afterIn`) under the invariant `Est` of an established session.
-/
namespace AsyncFix.Tester
open AsyncFix.Session AsyncFix.Generated AsyncFix.Generated.ConnEnum

theorem buildFrame_mtype (s : Session) (stamp : String) (m : Msg) (seq : Int) :
    (buildFrame s stamp m seq).mtype = m.mtype := AsyncFix.Session.buildFrame_mtype s stamp m seq

theorem addressed_sentFrame {snd rcv : Conn} (env : Env) (m : Msg)
    (h1 : rcv.sess.target = snd.sess.sender) (h2 : rcv.sess.sender = snd.sess.target)
    (h3 : rcv.sess.nextIn = snd.sess.nextOut) :
    Addressed rcv (sentFrame snd env m) rcv.sess.nextIn :=
  ⟨rfl, h1 ▸ rfl, h2 ▸ rfl, pyStr snd.sess.nextOut, rfl, h3 ▸ pyInt_pyStr _⟩

/-- counterparties: CompIDs and counters mirror each other -/
structure Peer (a b : Conn) : Prop where
  st : b.sess.target = a.sess.sender
  ts : b.sess.sender = a.sess.target
  oi : b.sess.nextIn = a.sess.nextOut
  io : a.sess.nextIn = b.sess.nextOut

theorem Peer.symm {a b : Conn} (h : Peer a b) : Peer b a := ⟨h.ts.symm, h.st.symm, h.io, h.oi⟩

theorem addressed_peer {a b : Conn} (h : Peer a b) (env : Env) (m : Msg) :
    Addressed b (sentFrame a env m) b.sess.nextIn :=
  addressed_sentFrame env m h.st h.ts h.oi

/-- every value of the message and its type are single-byte text -/
def latin1Msg (m : Msg) : Bool := isLatin1 m.mtype && m.tags.all fun p => isLatin1 p.2

/-- every stored row is numbered below `k` -/
def Rows.below' (rs : Rows) (k : Int) : Prop := ∀ p ∈ rs, p.1 < k

/-- the journal's rows are below the session's counters (what a journal that was only ever written by
this connection looks like) -/
structure JFresh (c : Conn) : Prop where
  out : Rows.below' c.journal.out c.sess.nextOut
  inb : Rows.below' c.journal.inb c.sess.nextIn

/-- the same predicate as `Rows.AllLt`, arguments the other way round -/
theorem Rows.below'_iff (rs : Rows) (k : Int) : Rows.below' rs k ↔ Rows.AllLt k rs := Iff.rfl

/-- the journal after persisting inbound frame `f` under the expected number (unchanged when the row
exists – never the case under `JFresh`) -/
def jIn (c : Conn) (f : Msg) : Journal := (c.journal.persist .inbound c.sess.nextIn f).getD c.journal

def jOut (c : Conn) (env : Env) (m : Msg) : Journal :=
  (c.journal.persist .outbound c.sess.nextOut (sentFrame c env m)).getD c.journal

/-- connection after `send_msg(m)` went through -/
def afterSend (c : Conn) (env : Env) (m : Msg) : Conn :=
  { c with sess := { c.sess with nextOut := c.sess.nextOut + 1 }, journal := jOut c env m }

/-- connection after an in-sequence frame was finalized -/
def afterIn (c : Conn) (env : Env) (f : Msg) : Conn :=
  { c with sess := { c.sess with nextIn := c.sess.nextIn + 1 }, lastTime := env.now, journal := jIn c f }

section fields
variable (c : Conn) (env : Env) (m f : Msg)

/-! The outbound row leaves the inbound half alone and the other way round, whether or not the row is taken. -/

@[simp] theorem jOut_inb : (jOut c env m).inb = c.journal.inb := by
  unfold jOut Journal.persist
  cases c.journal.out.insert c.sess.nextOut (sentFrame c env m) <;> rfl

@[simp] theorem jOut_inSeq : (jOut c env m).inSeq = c.journal.inSeq := by
  unfold jOut Journal.persist
  cases c.journal.out.insert c.sess.nextOut (sentFrame c env m) <;> rfl

@[simp] theorem jIn_out : (jIn c f).out = c.journal.out := by
  unfold jIn Journal.persist
  cases c.journal.inb.insert c.sess.nextIn f <;> rfl

theorem jIn_inb : (jIn c f).inb = (c.journal.inb.insert c.sess.nextIn f).getD c.journal.inb := by
  unfold jIn Journal.persist
  cases c.journal.inb.insert c.sess.nextIn f <;> rfl

theorem jIn_inSeq :
    (jIn c f).inSeq = if (c.journal.inb.insert c.sess.nextIn f).isSome then c.sess.nextIn else c.journal.inSeq := by
  unfold jIn Journal.persist
  cases c.journal.inb.insert c.sess.nextIn f <;> rfl

@[simp] theorem afterSend_sess : (afterSend c env m).sess = { c.sess with nextOut := c.sess.nextOut + 1 } := rfl
@[simp] theorem afterSend_nextOut : (afterSend c env m).sess.nextOut = c.sess.nextOut + 1 := rfl
@[simp] theorem afterSend_nextIn : (afterSend c env m).sess.nextIn = c.sess.nextIn := rfl
@[simp] theorem afterSend_journal : (afterSend c env m).journal = jOut c env m := rfl

@[simp] theorem afterIn_sess : (afterIn c env f).sess = { c.sess with nextIn := c.sess.nextIn + 1 } := rfl
@[simp] theorem afterIn_nextIn : (afterIn c env f).sess.nextIn = c.sess.nextIn + 1 := rfl
@[simp] theorem afterIn_nextOut : (afterIn c env f).sess.nextOut = c.sess.nextOut := rfl
@[simp] theorem afterIn_journal : (afterIn c env f).journal = jIn c f := rfl
@[simp] theorem afterIn_lastTime : (afterIn c env f).lastTime = env.now := rfl

end fields

/-! On a journal of the connection's own the row is appended and the stored counter follows. -/

theorem jOut_spec {c : Conn} (env : Env) (m : Msg) (h : JFresh c) :
    c.journal.persist .outbound c.sess.nextOut (sentFrame c env m) = some (jOut c env m) := by
  have hp := persist_out_of_insert c.journal _ (sentFrame c env m) _ (Rows.insert_append _ _ _ ((Rows.below'_iff _ _).1 h.out))
  rw [jOut, hp]; rfl

theorem jOut_fresh {c : Conn} (env : Env) (m : Msg) (h : JFresh c) :
    jOut c env m = { c.journal with out := c.journal.out ++ [(c.sess.nextOut, sentFrame c env m)],
                                    outSeq := c.sess.nextOut } :=
  Option.some.inj ((jOut_spec env m h).symm.trans
    (persist_out_of_insert c.journal _ _ _ (Rows.insert_append _ _ _ ((Rows.below'_iff _ _).1 h.out))))

theorem jIn_spec {c : Conn} (f : Msg) (h : JFresh c) :
    c.journal.persist .inbound c.sess.nextIn f = some (jIn c f) := by
  have hp := persist_in_of_insert c.journal _ f _ (Rows.insert_append _ _ _ ((Rows.below'_iff _ _).1 h.inb))
  rw [jIn, hp]; rfl

theorem jIn_fresh {c : Conn} (f : Msg) (h : JFresh c) :
    jIn c f = { c.journal with inb := c.journal.inb ++ [(c.sess.nextIn, f)], inSeq := c.sess.nextIn } :=
  Option.some.inj ((jIn_spec f h).symm.trans
    (persist_in_of_insert c.journal _ _ _ (Rows.insert_append _ _ _ ((Rows.below'_iff _ _).1 h.inb))))

theorem jfresh_afterSend {c : Conn} (env : Env) (m : Msg) (h : JFresh c) : JFresh (afterSend c env m) :=
  ⟨by rw [afterSend_journal, jOut_fresh env m h]; exact (Rows.below'_iff _ _).2 (Rows.allLt_push ((Rows.below'_iff _ _).1 h.out)),
   by rw [afterSend_journal, jOut_inb]; exact h.inb⟩

theorem jfresh_afterIn {c : Conn} (env : Env) (f : Msg) (h : JFresh c) : JFresh (afterIn c env f) :=
  ⟨by rw [afterIn_journal, jIn_out]; exact h.out,
   by rw [afterIn_journal, jIn_fresh f h]; exact (Rows.below'_iff _ _).2 (Rows.allLt_push ((Rows.below'_iff _ _).1 h.inb))⟩

/-- a connection in the middle of a clean session -/
structure Est (c : Conn) : Prop where
  st : c.state = st_ACTIVE
  was : c.wasActive = true
  sock : c.sock = true
  noreq : c.testReqId = none
  posIn : 0 < c.sess.nextIn
  fresh : JFresh c
  latinS : isLatin1 c.sess.sender = true
  latinT : isLatin1 c.sess.target = true

theorem est_afterSend {c : Conn} (env : Env) (m : Msg) (h : Est c) : Est (afterSend c env m) :=
  ⟨h.st, h.was, h.sock, h.noreq, h.posIn, jfresh_afterSend env m h.fresh, h.latinS, h.latinT⟩

theorem est_afterIn {c : Conn} (env : Env) (f : Msg) (h : Est c) : Est (afterIn c env f) :=
  ⟨h.st, h.was, h.sock, h.noreq, by rw [afterIn_nextIn]; have := h.posIn; omega,
   jfresh_afterIn env f h.fresh, h.latinS, h.latinT⟩

/-- a message the application (or the session layer) sends in a clean script: not a SequenceReset, no
PossDupFlag=Y, single-byte (latin-1) text -/
structure PlainMsg (m : Msg) : Prop where
  notReset : m.mtype ≠ mSequenceReset
  noPossDup : (m.get? tPossDupFlag).getD "N" ≠ "Y"
  latin1 : latin1Msg m = true

theorem sentFrame_latin1 {c : Conn} {env : Env} {m : Msg} (hS : isLatin1 c.sess.sender = true)
    (hT : isLatin1 c.sess.target = true) (henv : isLatin1 env.stamp = true) (hm : latin1Msg m = true) :
    frameLatin1 (sentFrame c env m) = true := by
  rw [latin1Msg, Bool.and_eq_true] at hm
  exact frameLatin1_buildFrame _ _ _ _ hS hT henv hm.1 hm.2

theorem sendable_est {env : Env} {c : Conn} {m : Msg} (h : Est c) (hm : PlainMsg m) (henv : isLatin1 env.stamp = true) :
    Sendable c env m (jOut c env m) :=
  ⟨hm.notReset, hm.noPossDup, sentFrame_latin1 h.latinS h.latinT henv hm.latin1, jOut_spec env m h.fresh, h.sock⟩

theorem appSend_est {env : Env} {c : Conn} {m : Msg} (h : Est c) (hm : PlainMsg m) (henv : isLatin1 env.stamp = true)
    (htr : m.mtype ≠ mTestRequest) :
    appSend env c m = (afterSend c env m, [.write (sentFrame c env m)]) :=
  M.run_ok (sendMsg_sendable (by rw [h.st]; decide) (sendable_est h hm henv) (fun e => absurd e htr))

/-- The expected frame of a type the head does not handle, on an ACTIVE connection: whatever connection `c'` the
dispatch leaves (still ACTIVE, same CompIDs and expectation, its journal its own) is counted, stamped, journaled. -/
theorem recv_est {sr : Msg → Bool} {env : Env} {c c' : Conn} {f : Msg} {e : List Effect}
    (hst : c.state = st_ACTIVE) (hpos : 0 < c.sess.nextIn) (ha : Addressed c f c.sess.nextIn)
    (hA : f.mtype ≠ mLogon) (h4 : f.mtype ≠ mSequenceReset) (h5 : f.mtype ≠ mLogout)
    (hd : processDispatch env sr f true c.sess.nextIn c = ⟨.ok (), c', e⟩)
    (hst' : c'.state = st_ACTIVE) (hk : c'.sess.nextIn = c.sess.nextIn) (h2 : c'.sess.sender = c.sess.sender)
    (h3 : c'.sess.target = c.sess.target) (hf : JFresh c') :
    recv sr env c f = (afterIn c' env f, e) := by
  rw [recv_expected (by rw [hst]; decide) ha hA h4 h5 hd,
    finalize_active (by rw [hk]; exact ha.congr h2 h3) hst' h4 (by rw [hk]; exact hpos) (jIn_spec f hf)]
  simp only [caught, List.append_nil]
  rfl

theorem recv_app_est {sr : Msg → Bool} {env : Env} {c : Conn} {f : Msg} (h : Est c)
    (ha : Addressed c f c.sess.nextIn) (hty : isAppType f.mtype) :
    recv sr env c f = (afterIn c env f, [.deliver f]) := by
  obtain ⟨t1, t2, t3, t4, t5, t6⟩ := hty
  exact recv_est h.st h.posIn ha t3 t2 t6 (by rw [processDispatch_app env sr t1 t2 t3 t4 t5, if_pos ⟨rfl, rfl⟩])
    h.st rfl rfl rfl h.fresh

theorem recv_hb_est {sr : Msg → Bool} {env : Env} {c : Conn} {f : Msg} (h : Est c)
    (ha : Addressed c f c.sess.nextIn) (hty : f.mtype = mHeartbeat) :
    recv sr env c f = (afterIn c env f, []) :=
  recv_est h.st h.posIn ha (by rw [hty]; decide) (by rw [hty]; decide) (by rw [hty]; decide)
    (by rw [dispatch_heartbeat env sr c f _ hty, h.noreq]) h.st rfl rfl rfl h.fresh

theorem recv_logout_est {sr : Msg → Bool} {env : Env} {c : Conn} {f : Msg} (h : Est c)
    (ha : Addressed c f c.sess.nextIn) (hty : f.mtype = mLogout) :
    recv sr env c f =
      ({ c with state := st_DISCONNECTED_WCONN_TODAY, testReqId := none, lastTime := 0, maxResend := 0, sock := false },
       [.onLogout f, .closeSocket, .onState st_DISCONNECTED_WCONN_TODAY, .onDisconnect]) :=
  recv_logout ha h.st h.was hty h.sock

theorem hbReply_plain (f : Msg) (h : isLatin1 ((f.get? tTestReqID).getD "0") = true) : PlainMsg (hbReply f) :=
  ⟨(heartbeatMsg_plain _).1, (heartbeatMsg_plain _).2, by simp [latin1Msg, hbReply, Msg.mk', h]; decide⟩

theorem recv_testreq_est {sr : Msg → Bool} {env : Env} {c : Conn} {f : Msg} (h : Est c)
    (ha : Addressed c f c.sess.nextIn) (hty : f.mtype = mTestRequest) (henv : isLatin1 env.stamp = true)
    (hid : isLatin1 ((f.get? tTestReqID).getD "0") = true) :
    recv sr env c f =
      (afterIn (afterSend c env (hbReply f)) env f, [.write (sentFrame c env (hbReply f))]) :=
  recv_est h.st h.posIn ha (by rw [hty]; decide) (by rw [hty]; decide) (by rw [hty]; decide)
    ((dispatch_testrequest env sr c f _ hty).trans
      (sendMsg_sendable (by rw [h.st]; decide) (sendable_est h (hbReply_plain f hid) henv)
        (fun e => absurd e (by show "0" ≠ "1"; decide))))
    h.st rfl rfl rfl (jfresh_afterSend env (hbReply f) h.fresh)

theorem testReqMsg_eq (env : Env) : testReqMsg env = testReqOut env := rfl

theorem testReqOut_latin1 (env : Env) : latin1Msg (testReqOut env) = true := by
  simp [latin1Msg, testReqOut, Msg.mk', isLatin1_pyStr]; decide

theorem testReqOut_plain (env : Env) : PlainMsg (testReqOut env) :=
  ⟨(testRequestMsg_plain env).1, (testRequestMsg_plain env).2, testReqOut_latin1 env⟩

theorem appTestReq_est {env : Env} {c : Conn} (h : Est c) (henv : isLatin1 env.stamp = true) :
    appTestReq env c = ({ afterSend c env (testReqOut env) with testReqId := some env.secs },
      [.write (sentFrame c env (testReqOut env))]) := by
  refine M.run_ok (a := ()) ?_
  rw [sendTestReq_apply, h.noreq, if_neg (by decide)]
  exact sendMsg_sendable (c := { c with testReqId := some env.secs }) (by rw [h.st]; decide)
    ((sendable_est h (testReqOut_plain env) henv).congr rfl rfl rfl) (fun _ => rfl)

/-- the Heartbeat that answers the TestRequest sent at second `s` -/
theorem recv_answer_est {sr : Msg → Bool} {env : Env} {c : Conn} {g : Msg} {w : String} (s : Int) (h : Est c)
    (ha : Addressed c g c.sess.nextIn) (hty : g.mtype = mHeartbeat)
    (h112 : g.get? tTestReqID = some w) (hw : pyInt w = some s) :
    recv sr env { c with testReqId := some s } g = (afterIn c env g, []) := by
  -- clearing the id gives `c` back, since none was outstanding on it
  have hc : ({ c with testReqId := none } : Conn) = c := by
    obtain ⟨state, role, wasActive, sess, maxResend, testReqId, lastTime, hb, sock, journal⟩ := c
    have := h.noreq
    simp only at this
    subst this
    rfl
  have := recv_est (sr := sr) (env := env) (c := { c with testReqId := some s }) (c' := { c with testReqId := none })
    (e := []) h.st h.posIn (ha.congr rfl rfl) (by rw [hty]; decide) (by rw [hty]; decide) (by rw [hty]; decide)
    (by rw [dispatch_heartbeat env sr _ g _ hty]; simp [h112, hw]) h.st rfl rfl rfl ⟨h.fresh.out, h.fresh.inb⟩
  rwa [hc] at this

theorem sentFrame_testReqID (c : Conn) (env : Env) (m : Msg) :
    (sentFrame c env m).get? tTestReqID = m.get? tTestReqID :=
  buildFrame_get?_other _ _ _ _ (by decide)

/-- the Heartbeat answering the frame of `send_test_req` carries its id -/
theorem answer_frame_id (a b : Conn) (env : Env) :
    (sentFrame a env (hbReply (sentFrame b env (testReqOut env)))).get? tTestReqID = some (pyStr env.secs) := by
  rw [sentFrame_testReqID]
  show some (((sentFrame b env (testReqOut env)).get? tTestReqID).getD "0") = _
  rw [sentFrame_testReqID]
  rfl

theorem testreq_id_latin1 (c : Conn) (env : Env) :
    isLatin1 (((sentFrame c env (testReqOut env)).get? tTestReqID).getD "0") = true := by
  rw [sentFrame_testReqID]; exact isLatin1_pyStr _

end AsyncFix.Tester
