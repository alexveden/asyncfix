/-
The order object under ARBITRARY call sequences (any reports, well-formed or not).

Each method is analysed once – the builders by an equation (`cancelReq_eq`, `replaceReq_eq`), the two
report handlers by the shape of the order they leave (`processCancelRej_shape`,
`processExecReport_shape`) – and everything else is read off these: the local invariant (status in
the enum, `orig_clord_id` only set while a request is pending or after a cancel), the ClOrdID counter,
and that every id built is `<root of the current id>--<counter>`.
-/
import AsyncFix.Props.C16
import AsyncFix.Lemmas.OrderObjText
namespace AsyncFix.Model.OrderObj
open AsyncFix.Model.OrderTable AsyncFix.Props.C16

theorem canRequest_eq (o : Order) (kind rep : String) (hk : kind ∈ requestKinds) :
    canRequest o kind rep = .ok (decide (o.status ∈ live)) := by
  unfold canRequest
  rw [cancel_replace_gate _ _ _ _ _ hk]
  by_cases h1 : o.status ∈ live
  · simp [h1]
  · by_cases h2 : o.status ∈ pendingReq <;> simp [h1, h2]

theorem canCancel_eq (o : Order) : canCancel o = .ok (decide (o.status ∈ live)) :=
  canRequest_eq o "F" "6" (by decide)
theorem canReplace_eq (o : Order) : canReplace o = .ok (decide (o.status ∈ live)) :=
  canRequest_eq o "G" "E" (by decide)

/-- `b` with its own equation, so that `canCancel_eq o` / `canReplace_eq o` can be handed in as `hb` -/
theorem live_of_can {o : Order} {b : Res Bool} (hb : b = .ok (decide (o.status ∈ live)))
    (h : b = .ok true) : o.status ∈ live := by
  rw [hb] at h
  simpa using h

def msgD (o : Order) : Msg :=
  ⟨"D", [(11, .text (nextId o)), (55, .text o.ticker), (1, .text o.account), (40, .text o.ordType),
         (54, .text o.side), (60, .text clock), (44, .num o.price), (38, .num o.qty)]⟩
def msgF (o : Order) : Msg :=
  ⟨"F", [(11, .text (nextId o)), (38, .num o.qty), (41, .text o.clordId), (55, .text o.ticker),
         (54, .text o.side), (60, .text clock)]⟩
def msgG (o : Order) (p q : Int) : Msg :=
  ⟨"G", [(11, .text (nextId o)), (41, .text o.clordId), (40, .text o.ordType), (55, .text o.ticker),
         (44, .num p), (38, .num q), (54, .text o.side), (60, .text clock)]⟩

theorem newReq_eq (o : Order) :
    newReq o = if o.status ≠ "Z" then (o, .raised .assertion)
      else ({ takeNextId o with status := "A" }, .ok (msgD o)) := rfl

theorem cancelReq_eq (o : Order) :
    cancelReq o =
      if o.status ∈ live then
        if truthy o.origClordId then (o, .raised .assertion) else (startRequest o "6", .ok (msgF o))
      else (o, .raised .fixError) := by
  unfold cancelReq
  rw [canCancel_eq]
  by_cases hl : o.status ∈ live <;> simp only [hl, decide_true, decide_false, if_true, if_false] <;> rfl

theorem replaceReq_eq (o : Order) (p q : Option Int) :
    replaceReq o p q =
      if o.status ∈ live then
        if effPrice o p = o.price ∧ effQty o q = o.qty then (o, .raised .fixError)
        else if truthy o.origClordId then (o, .raised .assertion)
        else (startRequest o "E", .ok (msgG o (effPrice o p) (effQty o q)))
      else (o, .raised .fixError) := by
  unfold replaceReq
  rw [canReplace_eq]
  by_cases hl : o.status ∈ live <;> simp only [hl, decide_true, decide_false, if_true, if_false] <;> rfl

theorem newReq_cases (o : Order) :
    (∃ e, newReq o = (o, .raised e)) ∨ newReq o = ({ takeNextId o with status := "A" }, .ok (msgD o)) := by
  rw [newReq_eq]; split
  · exact Or.inl ⟨_, rfl⟩
  · exact Or.inr rfl

theorem cancelReq_cases (o : Order) :
    (∃ e, cancelReq o = (o, .raised e)) ∨
    (o.status ∈ live ∧ cancelReq o = (startRequest o "6", .ok (msgF o))) := by
  rw [cancelReq_eq]
  by_cases hl : o.status ∈ live
  · by_cases ht : truthy o.origClordId = true
    · exact Or.inl ⟨_, by rw [if_pos hl, if_pos ht]⟩
    · exact Or.inr ⟨hl, by rw [if_pos hl, if_neg ht]⟩
  · exact Or.inl ⟨_, if_neg hl⟩

theorem replaceReq_cases (o : Order) (p q : Option Int) :
    (∃ e, replaceReq o p q = (o, .raised e)) ∨
    (o.status ∈ live ∧ replaceReq o p q = (startRequest o "E", .ok (msgG o (effPrice o p) (effQty o q)))) := by
  rw [replaceReq_eq]
  by_cases hl : o.status ∈ live
  · by_cases hc : effPrice o p = o.price ∧ effQty o q = o.qty
    · exact Or.inl ⟨_, by rw [if_pos hl, if_pos hc]⟩
    · by_cases ht : truthy o.origClordId = true
      · exact Or.inl ⟨_, by rw [if_pos hl, if_neg hc, if_pos ht]⟩
      · exact Or.inr ⟨hl, by rw [if_pos hl, if_neg hc, if_neg ht]⟩
  · exact Or.inl ⟨_, if_neg hl⟩

theorem not_live_refuses {o : Order} (h : o.status ∉ live) :
    cancelReq o = (o, .raised .fixError) ∧ ∀ p q, replaceReq o p q = (o, .raised .fixError) :=
  ⟨by rw [cancelReq_eq, if_neg h], fun p q => by rw [replaceReq_eq, if_neg h]⟩

theorem finished_facts : ∀ s ∈ finished, s ∉ live ∧ (s == "2" || s == "4" || s == "8" || s == "C") = true := by
  decide

/-- `orig`: only a cancel reject and a Replaced report clear `orig_clord_id`, so it stays set once a
cancel is confirmed; hence CANCELED in `sticky` -/
structure LocalInv (o : Order) : Prop where
  enum : o.status ∈ statusValues
  orig : truthy o.origClordId = true → o.status ∈ sticky
  clord : o.clordId ≠ []

theorem named_statusValues : ∀ s ∈ ["Z", "A", "6", "E"], s ∈ statusValues := by decide +kernel

theorem init_ok {root : Str} {p q : Int} {t s ot a : Str} {o : Order}
    (h : Order.init root p q t s ot a = .ok o) : root ≠ [] ∧
      o = { clordId := root, price := p, qty := q, ticker := t, side := s, ordType := ot, account := a } := by
  unfold Order.init at h
  split at h
  · cases h
  · rename_i hr
    cases h
    exact ⟨hr, rfl⟩

theorem init_inv {root : Str} {p q : Int} {t s ot a : Str} {o : Order}
    (h : Order.init root p q t s ot a = .ok o) : LocalInv o := by
  obtain ⟨hr, rfl⟩ := init_ok h
  exact ⟨named_statusValues "Z" (by decide), by simp [truthy], hr⟩

theorem nextId_ne_nil (o : Order) : nextId o ≠ [] := by
  simp [nextId]

theorem not_truthy_of_live {o : Order} (h : LocalInv o) (hl : o.status ∈ live) :
    truthy o.origClordId = false := by
  cases ht : truthy o.origClordId with
  | false => rfl
  | true => exact absurd hl ((by decide : ∀ s ∈ sticky, s ∉ live) _ (h.orig ht))

theorem startRequest_inv (o : Order) {s : String} (hs : s = "6" ∨ s = "E") : LocalInv (startRequest o s) :=
  ⟨named_statusValues s (by rcases hs with rfl | rfl <;> decide),
   fun _ => show s ∈ sticky by rcases hs with rfl | rfl <;> decide, nextId_ne_nil o⟩

theorem newReq_inv (o : Order) (h : LocalInv o) : LocalInv (newReq o).1 := by
  rw [newReq_eq]
  split
  · exact h
  · rename_i hz
    have hz : o.status = "Z" := by simpa using hz
    refine ⟨named_statusValues "A" (by decide), fun ht => ?_, nextId_ne_nil o⟩
    have := h.orig ht
    rw [hz] at this; exact absurd this (by decide)

theorem cancelReq_inv (o : Order) (h : LocalInv o) : LocalInv (cancelReq o).1 := by
  rcases cancelReq_cases o with ⟨e, hr⟩ | ⟨-, hr⟩ <;> rw [hr]
  · exact h
  · exact startRequest_inv o (Or.inl rfl)

theorem replaceReq_inv (o : Order) (p q : Option Int) (h : LocalInv o) : LocalInv (replaceReq o p q).1 := by
  rcases replaceReq_cases o p q with ⟨e, hr⟩ | ⟨-, hr⟩ <;> rw [hr]
  · exact h
  · exact startRequest_inv o (Or.inr rfl)

theorem truthy_getD {x : Option Str} (h : truthy x = true) : x.getD [] ≠ [] := by
  match x, h with
  | some (_ :: _), _ => simp

theorem revertId_status (o : Order) : (revertId o).status = o.status := by
  unfold revertId; split <;> rfl

theorem revertId_cnt (o : Order) : (revertId o).clordCnt = o.clordCnt := by
  unfold revertId; split <;> rfl

theorem revertId_facts (o : Order) (hc : o.clordId ≠ []) :
    (revertId o).clordId ≠ [] ∧ truthy (revertId o).origClordId = false := by
  unfold revertId
  by_cases ht : truthy o.origClordId = true
  · rw [if_pos ht]
    exact ⟨truthy_getD ht, rfl⟩
  · rw [if_neg ht]
    exact ⟨hc, by simpa using ht⟩

theorem revertId_leaves (o : Order) (lv : Int) :
    revertId { o with leavesQty := lv } = { revertId o with leavesQty := lv } := by
  unfold revertId
  by_cases ht : truthy o.origClordId = true
  · rw [if_pos ht, if_pos (by exact ht)]
  · rw [if_neg ht, if_neg (by exact ht)]

theorem processCancelRej_shape (o : Order) (r : Report) :
    (processCancelRej o r).1 = o ∨ ∃ (lv : Int) (s : String),
      (s = o.status ∨ (s ∈ statusValues ∧ ∃ st, changeStatus spec o.status "9" omitted st false = .to s)) ∧
      (processCancelRej o r).1 = { revertId o with leavesQty := lv, status := s } := by
  have hst := revertId_status o
  unfold processCancelRej
  by_cases hm : r.msgType ≠ "9"
  · rw [if_pos hm]; exact Or.inl rfl
  rw [if_neg hm]
  rcases r.ordStatus with _ | st
  · exact Or.inl rfl
  have hx : (if st = "8" then { o with leavesQty := 0 } else o) =
      { o with leavesQty := if st = "8" then 0 else o.leavesQty } := by split <;> rfl
  dsimp only
  rw [hx, revertId_leaves]
  cases hs : changeStatus spec o.status "9" omitted st false with
  | raised => exact Or.inl rfl
  | none => exact Or.inr ⟨_, o.status, Or.inl rfl, by rw [← hst]⟩
  | to s =>
    dsimp only [setStatus]
    by_cases hv : s ∈ statusValues
    · rw [if_pos hv]; exact Or.inr ⟨_, s, Or.inr ⟨hv, st, hs⟩, rfl⟩
    · rw [if_neg hv]; exact Or.inr ⟨_, o.status, Or.inl rfl, by rw [← hst]⟩

theorem processCancelRej_inv (o : Order) (r : Report) (h : LocalInv o) :
    LocalInv (processCancelRej o r).1 := by
  rcases processCancelRej_shape o r with hr | ⟨lv, s, hs, hr⟩ <;> rw [hr]
  · exact h
  · obtain ⟨k2, k3⟩ := revertId_facts o h.clord
    refine ⟨?_, fun ht => absurd (show truthy (revertId o).origClordId = true from ht) (by simp [k3]), k2⟩
    rcases hs with rfl | ⟨hv, _⟩
    · exact h.enum
    · exact hv

theorem processCancelRej_status (o : Order) (r : Report) :
    (processCancelRej o r).1.status = o.status ∨
    ∃ st, changeStatus spec o.status "9" omitted st false = .to (processCancelRej o r).1.status := by
  rcases processCancelRej_shape o r with hr | ⟨lv, s, hs, hr⟩ <;> rw [hr]
  · exact Or.inl rfl
  · rcases hs with rfl | ⟨_, hst⟩
    · exact Or.inl rfl
    · exact Or.inr hst

theorem processCancelRej_cnt (o : Order) (r : Report) :
    (processCancelRej o r).1.clordCnt = o.clordCnt := by
  rcases processCancelRej_shape o r with hr | ⟨lv, s, _, hr⟩ <;> rw [hr]
  exact revertId_cnt o

theorem finishExec_shape (res : OrderTable.Res) (o : Order) :
    (finishExec res o).1 = o ∨
    ∃ s, res = .to s ∧ s ∈ statusValues ∧ (finishExec res o).1 = { o with status := s } := by
  unfold finishExec
  split
  · rename_i s
    split
    · unfold setStatus
      split
      · rename_i hs; exact Or.inr ⟨s, rfl, hs, rfl⟩
      · exact Or.inl rfl
    · exact Or.inl rfl
  · exact Or.inl rfl

/-- the order after a call of `process_execution_report`, up to the fields no invariant mentions -/
structure ExecShape (res : OrderTable.Res) (ex : String) (o o' : Order) : Prop where
  clord : o'.clordId = o.clordId
  cnt : o'.clordCnt = o.clordCnt
  status : o'.status = o.status ∨ (res = .to o'.status ∧ o'.status ∈ statusValues)
  orig : o'.origClordId = o.origClordId ∨ (o'.origClordId = none ∧ ex = "5")
  orig5 : o'.status ≠ o.status → ex = "5" → o'.origClordId = none

theorem ExecShape.of_unchanged (res : OrderTable.Res) (ex : String) (o o' : Order)
    (h1 : o'.clordId = o.clordId) (h2 : o'.clordCnt = o.clordCnt) (h3 : o'.status = o.status)
    (h4 : o'.origClordId = o.origClordId) : ExecShape res ex o o' :=
  ⟨h1, h2, Or.inl h3, Or.inl h4, fun h => absurd h3 h⟩

theorem finishExec_execShape (res : OrderTable.Res) (ex : String) (o o3 : Order)
    (h1 : o3.clordId = o.clordId) (h2 : o3.clordCnt = o.clordCnt) (h3 : o3.status = o.status)
    (h4 : o3.origClordId = o.origClordId ∨ (o3.origClordId = none ∧ ex = "5"))
    (h5 : ex = "5" → o3.origClordId = none) :
    ExecShape res ex o (finishExec res o3).1 := by
  rcases finishExec_shape res o3 with h | ⟨s, hs, hv, h⟩
  · rw [h]; exact ⟨h1, h2, Or.inl h3, h4, fun _ => h5⟩
  · rw [h]; exact ⟨h1, h2, Or.inr ⟨hs, hv⟩, h4, fun _ => h5⟩

theorem applyReplaced_execShape (res : OrderTable.Res) (o o2 : Order) (r : Report)
    (h1 : o2.clordId = o.clordId) (h2 : o2.clordCnt = o.clordCnt) (h3 : o2.status = o.status)
    (h4 : o2.origClordId = o.origClordId) :
    ExecShape res "5" o (applyReplaced res o2 r).1 := by
  unfold applyReplaced
  repeat' split
  all_goals first
    | exact ExecShape.of_unchanged _ _ _ _ h1 h2 h3 h4
    | exact finishExec_execShape _ _ _ _ h1 h2 h3 (Or.inr ⟨rfl, rfl⟩) (fun _ => rfl)

theorem processExecReport_shape (o : Order) (r : Report) :
    ExecShape (changeStatus spec o.status "8" (r.execType.getD "") (r.ordStatus.getD "") false)
      (r.execType.getD "") o (processExecReport o r).1 := by
  -- every early exit leaves the fields `ExecShape` speaks of untouched
  have keep : ∀ {res ex} {o' : Order}, o'.clordId = o.clordId → o'.clordCnt = o.clordCnt → o'.status = o.status →
      o'.origClordId = o.origClordId → ExecShape res ex o o' := fun h1 h2 h3 h4 => .of_unchanged _ _ _ _ h1 h2 h3 h4
  rcases r with ⟨mt, cl, ocl, oid, et, os, cum, lv, avg, px, oq⟩
  unfold processExecReport
  by_cases hm : mt ≠ "8"
  · rw [if_pos hm]; exact keep rfl rfl rfl rfl
  rw [if_neg hm]
  rcases cl with _ | cl
  · exact keep rfl rfl rfl rfl
  rcases cum with _ | _ | cum
  · exact keep rfl rfl rfl rfl
  · exact keep rfl rfl rfl rfl
  rcases os with _ | st
  · exact keep rfl rfl rfl rfl
  dsimp only
  by_cases hid : cl ≠ o.clordId ∧ some cl ≠ o.origClordId
  · rw [if_pos hid]; exact keep rfl rfl rfl rfl
  rw [if_neg hid]
  rcases et with _ | ex
  · exact keep rfl rfl rfl rfl
  rcases lv with _ | _ | leaves
  · exact keep rfl rfl rfl rfl
  · exact keep rfl rfl rfl rfl
  dsimp only
  by_cases hr : changeStatus spec o.status "8" ex st false = .raised
  · rw [if_pos hr]; exact keep rfl rfl rfl rfl
  rw [if_neg hr]
  rcases oid with _ | oid
  · exact keep rfl rfl rfl rfl
  rcases avg with _ | _ | avg
  · exact keep rfl rfl rfl rfl
  · exact keep rfl rfl rfl rfl
  dsimp only
  by_cases h5 : ex = "5"
  · subst h5; rw [if_pos rfl]; exact applyReplaced_execShape _ _ _ _ rfl rfl rfl rfl
  · rw [if_neg h5]; exact finishExec_execShape _ _ _ _ rfl rfl rfl (Or.inl rfl) (fun h => absurd h h5)

theorem processExecReport_inv (o : Order) (r : Report) (h : LocalInv o) :
    LocalInv (processExecReport o r).1 := by
  have sh := processExecReport_shape o r
  generalize r.execType.getD "" = ex at sh
  generalize r.ordStatus.getD "" = st at sh
  refine ⟨?_, ?_, sh.clord ▸ h.clord⟩
  · rcases sh.status with hs | ⟨_, hv⟩
    · rw [hs]; exact h.enum
    · exact hv
  · intro ht
    rcases sh.orig with ho | ⟨ho, _⟩
    · rw [ho] at ht
      have hst := h.orig ht
      rcases sh.status with hs | ⟨hres, _⟩
      · rw [hs]; exact hst
      · by_cases h5 : ex = "5"
        · by_cases hne : (processExecReport o r).1.status = o.status
          · rw [hne]; exact hst
          · have := sh.orig5 hne h5
            rw [this] at ho; rw [← ho] at ht; cases ht
        · have := sticky_exec _ _ _ _ _ hst h5 hres
          rw [this]; decide
    · rw [ho] at ht; cases ht

theorem applyOp_fst (o : Order) (op : Op) :
    (applyOp o op).1 = match op with
      | .newReq => (newReq o).1
      | .cancelReq => (cancelReq o).1
      | .replaceReq p q => (replaceReq o p q).1
      | .execReport r => (processExecReport o r).1
      | .cancelRej r => (processCancelRej o r).1 := by
  cases op <;> rfl

theorem applyOp_inv (o : Order) (op : Op) (h : LocalInv o) : LocalInv (applyOp o op).1 := by
  rw [applyOp_fst]
  cases op with
  | newReq => exact newReq_inv o h
  | cancelReq => exact cancelReq_inv o h
  | replaceReq p q => exact replaceReq_inv o p q h
  | execReport r => exact processExecReport_inv o r h
  | cancelRej r => exact processCancelRej_inv o r h

theorem runOps_inv (o : Order) (ops : List Op) (h : LocalInv o) : LocalInv (runOps o ops) := by
  induction ops generalizing o with
  | nil => exact h
  | cons op rest ih => exact ih _ (applyOp_inv o op h)

theorem builtOps_cons (o : Order) (op : Op) (rest : List Op) :
    ((applyOp o op).1.clordCnt = o.clordCnt ∧ builtOps o (op :: rest) = builtOps (applyOp o op).1 rest) ∨
    ∃ m, m.clOrdId = some (nextId o) ∧ (applyOp o op).1.clordCnt = o.clordCnt + 1 ∧
      builtOps o (op :: rest) = (o.clordCnt + 1, m) :: builtOps (applyOp o op).1 rest := by
  have hret : ∀ b : Order × Res Bool, b.1.clordCnt = o.clordCnt → applyOp o op = liftRet b →
      (applyOp o op).1.clordCnt = o.clordCnt ∧ builtOps o (op :: rest) = builtOps (applyOp o op).1 rest := by
    intro b hb hop
    rw [builtOps, hop]
    refine ⟨hb, ?_⟩
    unfold liftRet
    cases b.2 <;> rfl
  have hbuild : ∀ (b : Order × Res Msg) (o' : Order) (m : Msg), applyOp o op = liftBuild b →
      (∃ e, b = (o, .raised e)) ∨ b = (o', .ok m) → o'.clordCnt = o.clordCnt + 1 →
      m.clOrdId = some (nextId o) →
      ((applyOp o op).1.clordCnt = o.clordCnt ∧ builtOps o (op :: rest) = builtOps (applyOp o op).1 rest) ∨
      ∃ m, m.clOrdId = some (nextId o) ∧ (applyOp o op).1.clordCnt = o.clordCnt + 1 ∧
        builtOps o (op :: rest) = (o.clordCnt + 1, m) :: builtOps (applyOp o op).1 rest := by
    intro b o' m hop hb hcnt hid
    rw [builtOps, hop]
    rcases hb with ⟨e, rfl⟩ | rfl
    · exact Or.inl ⟨rfl, rfl⟩
    · exact Or.inr ⟨m, hid, hcnt, by simp only [liftBuild, hcnt]⟩
  cases op with
  | newReq => exact hbuild _ _ _ rfl (newReq_cases o) rfl rfl
  | cancelReq => exact hbuild _ _ _ rfl ((cancelReq_cases o).imp_right And.right) rfl rfl
  | replaceReq p q => exact hbuild _ _ _ rfl ((replaceReq_cases o p q).imp_right And.right) rfl rfl
  | execReport r => exact Or.inl (hret _ (processExecReport_shape o r).cnt rfl)
  | cancelRej r => exact Or.inl (hret _ (processCancelRej_cnt o r) rfl)

/-- `P` travels along the run to the order `o'` that built the request: `builtOps_good` needs `IdInv`
there, `builtOps_spec` nothing -/
theorem builtOps_mem {P : Order → Prop} (hP : ∀ o op, P o → P (applyOp o op).1) (o : Order) (ops : List Op)
    (h : P o) : ∀ cm ∈ builtOps o ops, ∃ o', P o' ∧ o.clordCnt ≤ o'.clordCnt ∧ cm.1 = o'.clordCnt + 1 ∧
      cm.2.clOrdId = some (nextId o') := by
  induction ops generalizing o with
  | nil => intro cm h; simp [builtOps] at h
  | cons op rest ih =>
    intro cm hcm
    rcases builtOps_cons o op rest with ⟨hcnt, hb⟩ | ⟨m, hid, hcnt, hb⟩ <;> rw [hb] at hcm
    · obtain ⟨o', h1, h2, h3⟩ := ih _ (hP o op h) cm hcm
      exact ⟨o', h1, by omega, h3⟩
    · rcases List.mem_cons.mp hcm with rfl | hcm
      · exact ⟨o, h, Nat.le_refl _, rfl, hid⟩
      · obtain ⟨o', h1, h2, h3⟩ := ih _ (hP o op h) cm hcm
        exact ⟨o', h1, by omega, h3⟩

theorem builtOps_spec (o : Order) (ops : List Op) :
    ∀ cm ∈ builtOps o ops, o.clordCnt < cm.1 ∧ ∃ x, cm.2.clOrdId = some (x ++ [45, 45] ++ dec cm.1) := by
  intro cm hcm
  obtain ⟨o', _, hle, hc, hid⟩ := builtOps_mem (P := fun _ => True) (fun _ _ _ => trivial) o ops trivial cm hcm
  exact ⟨by omega, clordRoot o'.clordId, by rw [hid, hc]; rfl⟩

theorem builtOps_sorted (o : Order) (ops : List Op) :
    (builtOps o ops).Pairwise (fun a b => a.1 < b.1) := by
  induction ops generalizing o with
  | nil => simp [builtOps]
  | cons op rest ih =>
    rcases builtOps_cons o op rest with ⟨_, hb⟩ | ⟨m, _, hcnt, hb⟩ <;> rw [hb]
    · exact ih _
    · exact List.Pairwise.cons (fun cm hcm => hcnt ▸ (builtOps_spec _ rest cm hcm).1) (ih _)

/-- the counters strictly increase, hence no ClOrdID is ever built twice, whatever the root looks like -/
theorem builtOps_fresh (o : Order) (ops : List Op) :
    (builtOps o ops).Pairwise (fun a b => a.2.clOrdId ≠ b.2.clOrdId) :=
  (builtOps_sorted o ops).imp_of_mem fun {a b} ha hb hlt heq => by
    obtain ⟨_, x, hx⟩ := builtOps_spec o ops a ha
    obtain ⟨_, y, hy⟩ := builtOps_spec o ops b hb
    rw [hx, hy] at heq
    have := chain_id_inj (Option.some.inj heq)
    omega

/-- non-empty, not itself ending in the chaining suffix -/
structure GoodRoot (root : Str) : Prop where
  ne : root ≠ []
  bare : ¬ ChainForm root

def IdOf (root : Str) (x : Str) : Prop := x = root ∨ ∃ j, x = root ++ [45, 45] ++ dec j

structure IdInv (root : Str) (o : Order) : Prop where
  clord : IdOf root o.clordId
  orig : ∀ x, o.origClordId = some x → IdOf root x

theorem clordRoot_idOf {root x : Str} (g : GoodRoot root) (h : IdOf root x) : clordRoot x = root := by
  rcases h with rfl | ⟨j, rfl⟩
  · exact clordRoot_bare _ g.bare
  · exact clordRoot_chain_dec root j g.ne

theorem nextId_good {root : Str} {o : Order} (g : GoodRoot root) (h : IdInv root o) :
    nextId o = root ++ [45, 45] ++ dec (o.clordCnt + 1) := by
  unfold nextId; rw [clordRoot_idOf g h.clord]

theorem revertId_idInv {root : Str} {o : Order} (h : IdInv root o) : IdInv root (revertId o) := by
  unfold revertId
  split
  · refine ⟨?_, fun x hx => by cases hx⟩
    cases ho : o.origClordId with
    | none => simp [ho, truthy] at *
    | some x => exact h.orig x ho
  · exact h

theorem applyOp_idInv {root : Str} (g : GoodRoot root) (o : Order) (op : Op) (h : IdInv root o) :
    IdInv root (applyOp o op).1 := by
  have hn : IdOf root (nextId o) := Or.inr ⟨_, nextId_good g h⟩
  have hreq : ∀ s, IdInv root (startRequest o s) := fun s =>
    ⟨hn, fun x hx => by cases hx; exact h.clord⟩
  rw [applyOp_fst]
  cases op with
  | newReq =>
    rcases newReq_cases o with ⟨e, h'⟩ | h' <;> simp only [h']
    · exact h
    · exact ⟨hn, h.orig⟩
  | cancelReq =>
    rcases cancelReq_cases o with ⟨e, h'⟩ | ⟨-, h'⟩ <;> simp only [h']
    · exact h
    · exact hreq _
  | replaceReq p q =>
    rcases replaceReq_cases o p q with ⟨e, h'⟩ | ⟨-, h'⟩ <;> simp only [h']
    · exact h
    · exact hreq _
  | execReport r =>
    have sh := processExecReport_shape o r
    refine ⟨sh.clord ▸ h.clord, fun x hx => ?_⟩
    rcases sh.orig with ho | ⟨ho, _⟩
    · exact h.orig x (ho ▸ hx)
    · rw [ho] at hx; cases hx
  | cancelRej r =>
    rcases processCancelRej_shape o r with h' | ⟨lv, s, _, h'⟩ <;> simp only [h']
    · exact h
    · exact ⟨(revertId_idInv h).clord, (revertId_idInv h).orig⟩

theorem builtOps_good {root : Str} (g : GoodRoot root) (o : Order) (ops : List Op) (h : IdInv root o) :
    ∀ cm ∈ builtOps o ops, cm.2.clOrdId = some (root ++ [45, 45] ++ dec cm.1) := by
  intro cm hcm
  obtain ⟨o', hinv, _, hc, hid⟩ := builtOps_mem (applyOp_idInv g) o ops h cm hcm
  rw [hid, hc, nextId_good g hinv]

end AsyncFix.Model.OrderObj
