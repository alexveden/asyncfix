import AsyncFix.Lemmas.LinkRun

/-!
Link family, termination of the recovery handshake (liveness flavour) on the abstract model.

* `quiescent_of_empty` – empty queues + invariant + a transport ⇒ both ACTIVE;
* `fcost` – cost of a frame in flight: one, plus for a ResendRequest the length bound of its answer; one delivery
  in the "both logged on" phase strictly decreases the total cost `mu3` (`step3`);
* `settle3` – both logged on, invariants: the schedule "deliver towards A while `toA ≠ []`, else towards I" empties
  both queues and ends both-ACTIVE;
* `recover_from_logon` – Logon in flight (`sent` / `conn`): two deliveries (Logon, Logon reply) reach "both logged
  on", then `settle3`;
* `recover_quiescent_safe` – from any state satisfying `SafeInv`, two numbers of slack per side: break, reconnect,
  deliveries only ⇒ quiescent; `recover_quiescent` – the same under both invariants and a slack of four.
-/
namespace AsyncFix.Link

open AsyncFix.Session

def onlyDeliveries (evs : List AEv) : Prop := ∀ e ∈ evs, e = .deliverNext .A ∨ e = .deliverNext .I

/-- with both queues empty and a transport, the coverage invariant forces both endpoints ACTIVE -/
theorem quiescent_of_empty (l : ALink) (h : SyncInv' l) (hA : l.toA = []) (hI : l.toI = [])
    (hc : l.i.st ≠ .disc) : l.quiescent = true := by
  rcases h.phases with ⟨h1, _⟩ | ⟨_, _, _, _, h5, _⟩ | ⟨p2, _⟩ | ⟨p3, _, _⟩
  · exact absurd h1 hc
  · simp [hA] at h5
  · obtain ⟨f, rest, heq, _⟩ := p2.reply
    simp [hI] at heq
  · have d1 := p3.fwd
    have d2 := p3.bwd
    rw [hA, hI] at d1 d2
    have ha : l.a.st = .active := by
      rcases p3.estY with h | h
      · exact h
      · have := (d1.2 h).2.2
        simp [requests] at this
    have hi : l.i.st = .active := by
      rcases p3.estX with h | h
      · exact h
      · have := (d2.2 h).2.2
        simp [requests] at this
    simp [ALink.quiescent, ha, hi, hA, hI]

theorem chain_length : ∀ {Q : List AFrame} {a b : Int}, chain a Q b → (Q.length : Int) ≤ b - a
  | [], a, b, h => by simp [chain] at h; simp; omega
  | f :: r, a, b, h => by
    obtain ⟨h1, h2, h3⟩ := h
    have := chain_length h3
    simp only [List.length_cons]
    omega

/-- cost of a frame in flight towards an endpoint whose next outbound number is `o`: the frame itself plus, for a
ResendRequest, (a bound on) the number of frames of the answer -/
def fcost (o : Int) (f : AFrame) : Nat :=
  match f.kind with
  | .resend b => (o - b).toNat + 1
  | _ => 1

def qcost (o : Int) (Q : List AFrame) : Nat := (Q.map (fcost o)).sum

theorem qcost_nil (o : Int) : qcost o [] = 0 := rfl

theorem qcost_cons (o : Int) (f : AFrame) (Q : List AFrame) : qcost o (f :: Q) = fcost o f + qcost o Q := by
  simp [qcost]

theorem qcost_append (o : Int) (Q R : List AFrame) : qcost o (Q ++ R) = qcost o Q + qcost o R := by
  simp [qcost]

theorem qcost_data (o : Int) {Q : List AFrame} (h : ∀ f ∈ Q, isData f) : qcost o Q = Q.length := by
  induction Q with
  | nil => rfl
  | cons f r ih =>
    rw [qcost_cons, ih fun g hg => h g (by simp [hg])]
    have hf := h f (by simp)
    have : fcost o f = 1 := by
      unfold isData at hf; unfold fcost
      cases hk : f.kind <;> simp_all
    simp only [this, List.length_cons]
    omega

/-- the answer to a frame costs less than the frame -/
theorem served_cost (c : AConn) (f : AFrame) (hk : keysOK c.o c.out) (hmax : c.o ≤ sysMaxsize + 1) :
    (served c f).2.length + 1 ≤ fcost c.o f ∧ ∀ g ∈ (served c f).2, isData g := by
  unfold served fcost
  cases hkd : f.kind with
  | resend b =>
    simp only
    by_cases hb : 1 ≤ b ∧ b < c.o
    · obtain ⟨s1, s2, _⟩ := serve_spec c b hb.1 hb.2 hk hmax
      have := chain_length s1
      exact ⟨by omega, s2⟩
    · rw [serve_skip c b hb]
      simp
  | _ => simp

/-- total cost of the frames in flight -/
def mu3 (l : ALink) : Nat := qcost l.a.o l.toA + qcost l.i.o l.toI

theorem est_phase3 {l : ALink} (h : SyncInv' l) (hi : est l.i.st) :
    P3 l.i l.a l.toA l.toI ∧ l.i.ini = true ∧ l.a.ini = false := by
  rcases h.phases with ⟨h1, _⟩ | ⟨h1, _⟩ | ⟨p2, _⟩ | h3
  · rcases hi with h | h <;> simp [h] at h1
  · rcases hi with h | h <;> simp [h] at h1
  · have h1 := p2.sent
    rcases hi with h | h <;> simp [h] at h1
  · exact h3

/-- `Y` takes the head of `X → Y` while both are logged on: it stays logged on, its counter stays, and what it
writes costs less than the frame it took -/
theorem recv3_cost {X Y : AConn} {f : AFrame} {rest Q' : List AFrame} (h : P3 X Y (f :: rest) Q') (he1 : 1 ≤ X.e)
    (hk : keysOK Y.o Y.out) (hmax : Y.o ≤ sysMaxsize + 1) :
    est (arecv Y f).c.st ∧ (arecv Y f).c.o = Y.o ∧
    qcost (arecv Y f).c.o rest + qcost X.o (Q' ++ (arecv Y f).wr) < qcost Y.o (f :: rest) + qcost X.o Q' := by
  obtain ⟨r1, _, w2, w1⟩ := recv3 h he1 hk hmax
  obtain ⟨c1, c2⟩ := served_cost Y f hk hmax
  refine ⟨r1.estY, w2, ?_⟩
  rw [w1, w2, qcost_cons, qcost_append, qcost_data _ c2]
  omega

/-- both logged on, a delivery: still both logged on, the counters `o` stay, the cost decreases -/
theorem step3 {l : ALink} {s : Side} {f : AFrame} {rest : List AFrame} (hs : SafeInv l) (h : SyncInv' l)
    (hi : est l.i.st) (hq : l.queueTo s = f :: rest) (hb : Bounded l) :
    est (astep l (.deliverNext s)).i.st ∧ est (astep l (.deliverNext s)).a.st ∧
    (astep l (.deliverNext s)).i.o = l.i.o ∧ (astep l (.deliverNext s)).a.o = l.a.o ∧
    mu3 (astep l (.deliverNext s)) < mu3 l := by
  obtain ⟨h3, _, _⟩ := est_phase3 h hi
  have ha := h3.estY
  cases s with
  | A =>
    have hq' : l.toA = f :: rest := hq
    rw [astep_deliver hq ha.ne_disc]
    rw [hq'] at h3
    obtain ⟨c1, c2, c3⟩ := recv3_cost h3 hs.2.e1 hs.2.keys hb.2
    refine ⟨hi, c1, rfl, c2, ?_⟩
    show qcost (arecv l.a f).c.o l.toA.tail + qcost l.i.o (l.toI ++ (arecv l.a f).wr) <
      qcost l.a.o l.toA + qcost l.i.o l.toI
    rw [hq']
    exact c3
  | I =>
    have hq' : l.toI = f :: rest := hq
    rw [astep_deliver hq hi.ne_disc]
    have h3' := h3.symm
    rw [hq'] at h3'
    obtain ⟨c1, c2, c3⟩ := recv3_cost h3' hs.1.e1 hs.1.keys hb.1
    refine ⟨c1, ha, c2, rfl, ?_⟩
    show qcost l.a.o (l.toA ++ (arecv l.i f).wr) + qcost (arecv l.i f).c.o l.toI.tail <
      qcost l.a.o l.toA + qcost l.i.o l.toI
    rw [hq', List.tail_cons]
    omega

theorem settle3_aux : ∀ (n : Nat) (l : ALink), mu3 l < n → SafeInv l → SyncInv' l → est l.i.st → est l.a.st →
    Bounded l → ∃ evs : List AEv, onlyDeliveries evs ∧ (arun l evs).quiescent = true := by
  intro n
  induction n with
  | zero => intro l h; omega
  | succ n ih =>
    intro l hmu hs h hi ha hb
    -- one delivery towards `s`, then the induction hypothesis
    have deliver : ∀ s f rest, l.queueTo s = f :: rest →
        ∃ evs : List AEv, onlyDeliveries evs ∧ (arun l evs).quiescent = true := by
      intro s f rest hq
      obtain ⟨s1, s2, s3, s4, s5⟩ := step3 hs h hi hq hb
      have hb' : Bounded (astep l (.deliverNext s)) := by
        unfold Bounded; rw [s3, s4]; exact hb
      obtain ⟨evs, he1, he2⟩ := ih (astep l (.deliverNext s)) (by omega) (safeInv_step l _ hs hb')
        (syncInv'_step l _ hs h hb) s1 s2 hb'
      refine ⟨.deliverNext s :: evs, fun e he => ?_, he2⟩
      rcases List.mem_cons.1 he with rfl | he
      · cases s
        · exact Or.inr rfl
        · exact Or.inl rfl
      · exact he1 e he
    cases hA : l.toA with
    | cons f rest => exact deliver .A f rest hA
    | nil =>
      cases hI : l.toI with
      | cons f rest => exact deliver .I f rest hI
      | nil =>
        exact ⟨[], by intro e he; simp at he, quiescent_of_empty l h hA hI hi.ne_disc⟩

/-- both logged on: delivering the frames in flight (no application sends) reaches both-ACTIVE with empty queues -/
theorem settle3 (l : ALink) (hs : SafeInv l) (h : SyncInv' l) (hi : est l.i.st) (ha : est l.a.st) (hb : Bounded l) :
    ∃ evs : List AEv, onlyDeliveries evs ∧ (arun l evs).quiescent = true :=
  settle3_aux (mu3 l + 1) l (by omega) hs h hi ha hb

/-- Logon in flight: the Logon, then the Logon reply, then everything else -/
theorem recover_from_logon (l : ALink) (hs : SafeInv l) (h : SyncInv' l) (hi : l.i.st = .sent) (ha : l.a.st = .conn)
    (hb : l.i.o + 1 ≤ sysMaxsize + 1 ∧ l.a.o + 2 ≤ sysMaxsize + 1) :
    ∃ evs : List AEv, onlyDeliveries evs ∧ (arun l evs).quiescent = true := by
  rcases h.phases with ⟨h1, _⟩ | ⟨h1, h2, h3, hI, hA, hlt⟩ | ⟨p2, _⟩ | ⟨p3, _⟩
  · simp [hi] at h1
  · obtain ⟨p2, eA, ei, eo⟩ := deliver_p1 h1 h2 h3 hI hA hlt hs
    have hb1 : Bounded (astep l (.deliverNext .A)) := ⟨by rw [ei]; omega, by omega⟩
    have hs1 := safeInv_step l _ hs hb1
    obtain ⟨f, rest, hq, _⟩ := p2.reply
    obtain ⟨p3, hini, ea, eo2⟩ := deliver_p2 p2 eA hq hs1.2.e1
    rw [ei] at eo2
    have hb2 : Bounded (astep (astep l (.deliverNext .A)) (.deliverNext .I)) := ⟨by omega, by rw [ea]; omega⟩
    have hs2 := safeInv_step _ _ hs1 hb2
    have hy2 := SyncInv'.of_up p3 hini (by rw [ea]; exact p2.iniA)
    obtain ⟨evs, he1, he2⟩ := settle3 _ hs2 hy2 p3.estX p3.estY hb2
    refine ⟨.deliverNext .A :: .deliverNext .I :: evs, fun e he => ?_, he2⟩
    simp only [List.mem_cons] at he
    rcases he with rfl | rfl | he
    · exact Or.inl rfl
    · exact Or.inr rfl
    · exact he1 e he
  · rcases p2.estA with h | h <;> simp [ha] at h
  · rcases p3.estX with h | h <;> simp [hi] at h

theorem break_reconnect (l : ALink) :
    (astep (astep l .breakConn) .reconnect).i.st = .sent ∧ (astep (astep l .breakConn) .reconnect).a.st = .conn ∧
    (astep (astep l .breakConn) .reconnect).i.o = l.i.o + 1 ∧ (astep (astep l .breakConn) .reconnect).a.o = l.a.o := by
  rw [astep_reconnect (l := astep l .breakConn) (eof_st _) (eof_st _)]
  exact ⟨rfl, rfl, congrArg (· + 1) (eof_o l.i), eof_o l.a⟩

/-- After a break the coverage invariant is re-established from scratch, so only `SafeInv` of the
pre-state is needed, and a slack of 2 numbers per side suffices (Logon + ResendRequest on I's side, Logon reply +
ResendRequest on A's side). -/
theorem recover_quiescent_safe (l : ALink) (hs : SafeInv l)
    (hb : l.i.o + 2 ≤ sysMaxsize + 1 ∧ l.a.o + 2 ≤ sysMaxsize + 1) :
    ∃ evs : List AEv, onlyDeliveries evs ∧
      (arun (astep (astep l .breakConn) .reconnect) evs).quiescent = true := by
  obtain ⟨b1, b2, b3, b4⟩ := break_reconnect l
  have hm := astep_o_mono (astep l .breakConn) .reconnect
  have hbd1 : Bounded (astep l .breakConn) := ⟨by omega, by omega⟩
  have hbd2 : Bounded (astep (astep l .breakConn) .reconnect) := ⟨by omega, by omega⟩
  have hs1 := safeInv_step l .breakConn hs hbd1
  have hy1 := step_break l
  have hs2 := safeInv_step _ .reconnect hs1 hbd2
  have hy2 := step_reconnect _ hs1 hy1
  exact recover_from_logon _ hs2 hy2 b1 b2 ⟨by omega, by omega⟩

/-- From any state satisfying the invariants, a break followed by a reconnect and delivery of the frames in flight
(no further application sends) reaches both-ACTIVE with empty queues. -/
theorem recover_quiescent (l : ALink) (hs : SafeInv l) (h : SyncInv' l)
    (hb : l.i.o + 4 ≤ sysMaxsize + 1 ∧ l.a.o + 4 ≤ sysMaxsize + 1) :
    ∃ evs : List AEv, onlyDeliveries evs ∧
      (arun (astep (astep l .breakConn) .reconnect) evs).quiescent = true :=
  have _ := h
  recover_quiescent_safe l hs ⟨by omega, by omega⟩

end AsyncFix.Link
