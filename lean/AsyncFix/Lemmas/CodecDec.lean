/-
The byte-string facts the codec proofs (C01, C02, the bridge) share, for arbitrary inputs:
decimal rendering and Python `int()` (`natToDec`, `dec3`, `pyInt`, `ckParse`), and cutting a byte
string at SOH / `=` (`findSub cksumPat`, `splitEq`), on top of the list lemmas of CodecDecodeBytes.
-/
import AsyncFix.Model.Codec.Frame
import AsyncFix.Lemmas.CodecDecodeBytes
import AsyncFix.Lemmas.Decimal
namespace AsyncFix.Model.Codec

theorem isDigit_iff (c : Nat) : isDigit c = true ↔ 48 ≤ c ∧ c ≤ 57 := by
  simp [isDigit]

theorem natToDec_renders : Dec.Renders natToDec := fun n => by rw [natToDec]

theorem natToDec_lt10 {n : Nat} (h : n < 10) : natToDec n = [48 + n] := natToDec_renders.lt10 h

theorem natToDec_ge10 {n : Nat} (h : ¬ n < 10) : natToDec n = natToDec (n / 10) ++ [48 + n % 10] :=
  natToDec_renders.ge10 h

theorem natToDec_ne_nil (n : Nat) : natToDec n ≠ [] := natToDec_renders.ne_nil n

theorem natToDec_all_digit (n : Nat) : (natToDec n).all isDigit = true :=
  List.all_eq_true.2 fun c hc => (isDigit_iff c).2 (natToDec_renders.digit n c hc)

theorem val_natToDec (n : Nat) : Dec.val 0 (natToDec n) = n := natToDec_renders.val_eq n

theorem natToDec_inj {a b : Nat} (h : natToDec a = natToDec b) : a = b := natToDec_renders.inj h

theorem natToDec_length_lt (n : Nat) (h : n < 1000) :
    (natToDec n).length = if n < 10 then 1 else if n < 100 then 2 else 3 := by
  by_cases h1 : n < 10
  · simp [natToDec_lt10 h1, h1]
  · by_cases h2 : n < 100
    · simp [natToDec_ge10 h1, natToDec_lt10 (show n / 10 < 10 by omega), h1, h2]
    · simp [natToDec_ge10 h1, natToDec_ge10 (show ¬ n / 10 < 10 by omega),
        natToDec_lt10 (show n / 10 / 10 < 10 by omega), h1, h2]

theorem natToDec_length_lt1000 (n : Nat) (h : n < 1000) : (natToDec n).length ≤ 3 :=
  natToDec_renders.length_le 2 n h

theorem digitsVal_digits (l : Bytes) (hd : l.all isDigit = true) (a n : Nat) :
    digitsVal l a n true = some (Dec.val a l, n + l.length) := by
  induction l generalizing a n with
  | nil => simp [digitsVal, Dec.val]
  | cons c cs ih =>
    simp only [List.all_cons, Bool.and_eq_true] at hd
    simp only [digitsVal, hd.1, if_true, ih hd.2, Dec.val, List.foldl_cons, List.length_cons]
    congr 2; omega

theorem digitsVal_digits_ne_nil (l : Bytes) (hne : l ≠ []) (hd : l.all isDigit = true) :
    digitsVal l 0 0 false = some (Dec.val 0 l, l.length) := by
  cases l with
  | nil => exact absurd rfl hne
  | cons c cs =>
    simp only [List.all_cons, Bool.and_eq_true] at hd
    simp only [digitsVal, hd.1, if_true, digitsVal_digits cs hd.2, Dec.val, List.foldl_cons,
      List.length_cons]
    congr 2; omega

theorem digit_not_space (c : Nat) (h : isDigit c = true) : isSpaceAscii c = false := by
  simp only [isDigit, Bool.and_eq_true, decide_eq_true_eq] at h
  simp [isSpaceAscii]; omega

theorem all_digit_lt128 (l : Bytes) (hd : l.all isDigit = true) : l.all (· < 128) = true := by
  simp only [List.all_eq_true, isDigit, Bool.and_eq_true, decide_eq_true_eq] at hd ⊢
  intro c hc; have := hd c hc; omega

theorem dropWhile_space_digits (l : Bytes) (hd : l.all isDigit = true) :
    l.dropWhile isSpaceAscii = l := by
  cases l with
  | nil => rfl
  | cons c cs =>
    simp only [List.all_cons, Bool.and_eq_true] at hd
    simp [List.dropWhile, digit_not_space c hd.1]

theorem dropWhileEnd_space_digits (l : Bytes) (hd : l.all isDigit = true) :
    dropWhileEnd isSpaceAscii l = l := by
  unfold dropWhileEnd
  rw [dropWhile_space_digits _ (by simpa using hd), List.reverse_reverse]

/-- the sign `match` of `pyInt`, in the form it has after `unfold pyInt`, on a first character that is no sign -/
theorem signMatch_digit (c : Nat) (cs : Bytes) (h45 : c ≠ 45) (h43 : c ≠ 43) :
    pyInt.match_1 (fun _ => Bool × List Nat) (c :: cs) (fun r => (true, r)) (fun r => (false, r))
      (fun r => (false, r)) = (false, c :: cs) := by
  split
  · next r heq => cases heq; exact absurd rfl h45
  · next r heq => cases heq; exact absurd rfl h43
  · rfl

theorem pyInt_digits (t : Bytes) (hne : t ≠ []) (hd : t.all isDigit = true)
    (hl : t.length ≤ maxStrDigits) : pyInt t = some (Dec.val 0 t : Int) := by
  unfold pyInt
  simp only [all_digit_lt128 t hd, if_true, dropWhile_space_digits t hd,
    dropWhileEnd_space_digits t hd]
  cases t with
  | nil => exact absurd rfl hne
  | cons c cs =>
    have hc : isDigit c = true := by
      simp only [List.all_cons, Bool.and_eq_true] at hd; exact hd.1
    have hc' := (isDigit_iff c).mp hc
    rw [signMatch_digit c cs (by omega) (by omega)]
    simp only [digitsVal_digits_ne_nil _ hne hd, gt_iff_lt]
    rw [if_neg (by omega)]
    simp

theorem pyInt_natToDec (n : Nat) (h : (natToDec n).length ≤ maxStrDigits) :
    pyInt (natToDec n) = some (n : Int) := by
  rw [pyInt_digits _ (natToDec_ne_nil n) (natToDec_all_digit n) h, val_natToDec]

theorem dec3_all_digit (k : Nat) : (dec3 k).all isDigit = true := by
  simp only [dec3, List.all_append, natToDec_all_digit, Bool.and_true, List.all_replicate]
  simp [isDigit]

theorem dec3_ne_nil (k : Nat) : dec3 k ≠ [] := by
  simp [dec3, natToDec_ne_nil]

theorem val_replicate_zero (m : Nat) : Dec.val 0 (List.replicate m 48) = 0 := by
  induction m with
  | zero => rfl
  | succ m ih => rw [List.replicate_succ', Dec.val_append, ih]; rfl

theorem val_dec3 (k : Nat) : Dec.val 0 (dec3 k) = k := by
  simp [dec3, Dec.val_append, val_replicate_zero, val_natToDec]

theorem dec3_length (k : Nat) (h : k < 1000) : (dec3 k).length = 3 := by
  have h1 := natToDec_length_lt1000 k h
  have h2 := List.length_pos_iff.mpr (natToDec_ne_nil k)
  simp only [dec3, List.length_append, List.length_replicate]; omega

theorem pyInt_dec3 (k : Nat) (h : k < 1000) : pyInt (dec3 k) = some (k : Int) := by
  rw [pyInt_digits _ (dec3_ne_nil k) (dec3_all_digit k)
    (by rw [dec3_length k h]; simp [maxStrDigits]), val_dec3]

theorem ckParse_dec3 (k : Nat) (h : k < 1000) : ckParse (dec3 k) = some k := by
  have hd := dec3_all_digit k
  have hv := val_dec3 k
  match hk : dec3 k, dec3_length k h with
  | [a, b, c], _ =>
    rw [hk] at hd hv
    simp only [List.all_cons, List.all_nil, Bool.and_true, Bool.and_eq_true] at hd
    simp only [Dec.val, List.foldl_cons, List.foldl_nil] at hv
    simp only [ckParse, hd.1, hd.2.1, hd.2.2, Bool.and_self, if_true, Option.some.injEq]
    omega

theorem okTag_iff (t : Bytes) :
    okTag t = true ↔ t ≠ [] ∧ t.all isDigit = true ∧ t.length ≤ maxStrDigits := by
  cases t <;> simp [okTag, and_assoc]

theorem pyInt_okTag (t : Bytes) (h : okTag t = true) : pyInt t = some (Dec.val 0 t : Int) := by
  obtain ⟨h1, h2, h3⟩ := (okTag_iff t).mp h
  exact pyInt_digits t h1 h2 h3

theorem short_tag (n : Nat) (h : n < 1000) : (natToDec n).length ≤ maxStrDigits :=
  Nat.le_trans (natToDec_length_lt1000 n h) (by decide)

theorem digits_no_SOH (t : Bytes) (h : t.all isDigit = true) : SOH ∉ t := by
  intro hm
  have := List.all_eq_true.mp h SOH hm
  simp [isDigit, SOH] at this

theorem digits_no_EQS (t : Bytes) (h : t.all isDigit = true) : EQS ∉ t := by
  intro hm
  have := List.all_eq_true.mp h EQS hm
  simp [isDigit, EQS] at this

theorem natToDec_no_SOH (n : Nat) : (natToDec n).contains SOH = false := by
  simpa using digits_no_SOH _ (natToDec_all_digit n)

theorem intToDec_no_SOH (i : Int) : SOH ∉ intToDec i := by
  have hn : ∀ n, SOH ∉ natToDec n := fun n => digits_no_SOH _ (natToDec_all_digit n)
  cases i with
  | ofNat n => exact hn n
  | negSucc n =>
    intro h
    rcases List.mem_cons.mp h with e | e
    · simp [SOH] at e
    · exact hn _ e

theorem findSub_cksum_skip (a rest : Bytes) (ha : SOH ∉ a) :
    findSub cksumPat (a ++ rest) = (findSub cksumPat rest).map (· + a.length) :=
  findSub_skip (c := SOH) (pat' := [49, 48, 61]) ha

theorem splitEq_fieldBytes (t v : Bytes) (ht : EQS ∉ t) : splitEq (fieldBytes t v) = some (t, v) := by
  induction t with
  | nil => simp [fieldBytes, splitEq]
  | cons c cs ih =>
    simp only [List.mem_cons, not_or] at ht
    have hc : ¬ c = EQS := fun h => ht.1 h.symm
    simp only [fieldBytes, List.cons_append, splitEq, hc, if_false]
    have := ih ht.2
    simp only [fieldBytes] at this
    simp [this]

/-- `chr(1).join(fields) + chr(1)` is every field followed by SOH -/
theorem join_map_bodyBytes (fs : List Fld) (h : fs ≠ []) :
    join SOH (fs.map fun f => fieldBytes f.tag f.val) ++ [SOH] = bodyBytes fs := by
  induction fs with
  | nil => contradiction
  | cons f rest ih =>
    cases rest with
    | nil => simp [join, bodyBytes]
    | cons g rest' =>
      have := ih (by simp)
      simp only [List.map_cons, join, bodyBytes, List.append_assoc, List.cons_append] at this ⊢
      rw [this]

end AsyncFix.Model.Codec
