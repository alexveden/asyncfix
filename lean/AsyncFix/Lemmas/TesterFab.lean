import AsyncFix.Model.TesterDict
import AsyncFix.Props.C16

/-!
C20 helper lemmas about the fabrication model: `fix_exec_report_msg` as one equation and what an accepted
call implies, how the counters and the OrderID map move, what a fabricated report holds at each tag and
what `process_execution_report` makes of it.
-/
namespace AsyncFix.Tester

open AsyncFix.Model.OrderTable

theorem firstFail_none_iff {cs : List (Site × Bool)} : firstFail cs = none ↔ ∀ p ∈ cs, p.2 = true := by
  induction cs with
  | nil => simp [firstFail]
  | cons c r ih =>
    obtain ⟨s, ok⟩ := c
    cases ok <;> simp [firstFail, ih]

theorem mem_mainChecks {o : OrderView} {a : Args} (h : firstFail (mainChecks o a) = none) (s : Site) (b : Bool)
    (hm : (s, b) ∈ mainChecks o a) : b = true := firstFail_none_iff.mp h (s, b) hm

theorem check_sumLeOrderQty {o : OrderView} {a : Args} (hm : firstFail (mainChecks o a) = none) :
    (effOf o a).cum.e + (effOf o a).leaves.e ≤ (effOf o a).orderQty.e := by
  -- `sumLeOrderQty` is the seventh entry of `mainChecks`
  simpa using mem_mainChecks hm .sumLeOrderQty _ (List.mem_of_getElem? (i := 6) rfl)

theorem check_finished {o : OrderView} {a : Args} (hm : firstFail (mainChecks o a) = none)
    (hf : a.ordStatus ∈ finished) : (effOf o a).leaves.e = 0 := by
  -- `finishedLeavesZero` is the last (nineteenth) entry of `mainChecks`
  simpa [hf] using mem_mainChecks hm .finishedLeavesZero _ (List.mem_of_getElem? (i := 18) rfl)

theorem orderIdOf_execCtr (st : TState) (o : OrderView) : (orderIdOf st o).1.execCtr = st.execCtr := by
  unfold orderIdOf
  cases o.orderId with
  | some x => rfl
  | none => simp only; cases lookupRoot (rootOf o) st.orderIds <;> rfl

/-- the tester state after the two counters were consumed -/
def bumped (st : TState) (o : OrderView) : TState :=
  { (orderIdOf st o).1 with execCtr := st.execCtr + 1 }

theorem fabricate_eq (sc : Option (RMsg → Bool)) (st : TState) (o : OrderView) (a : Args) :
    fabricate sc st o a =
      match firstFail (preChecks st o a) with
      | some s => (st, .error (.assertion s))
      | none =>
        (bumped st o,
          match firstFail (mainChecks o a) with
          | some s => .error (.assertion s)
          | none => schemaGate sc (buildReport o a (orderIdOf st o).2 (st.execCtr + 1))) := by
  unfold fabricate schemaGate bumped
  cases firstFail (preChecks st o a) with
  | some s => rfl
  | none =>
    simp only [orderIdOf_execCtr]
    cases firstFail (mainChecks o a) with
    | some s => rfl
    | none =>
      cases sc with
      | none => rfl
      | some ok => simp only; split <;> rfl

theorem schemaGate_ok {sc : Option (RMsg → Bool)} {m m' : RMsg} (h : schemaGate sc m = .ok m') :
    m' = m ∧ ∀ ok, sc = some ok → ok m = true := by
  unfold schemaGate at h
  cases sc with
  | none => cases h; exact ⟨rfl, fun _ e => nomatch e⟩
  | some ok =>
    simp only at h
    split at h
    · cases h; exact ⟨rfl, fun _ e => by cases e; assumption⟩
    · cases h

theorem fabricate_ok {sc : Option (RMsg → Bool)} {st st' : TState} {o : OrderView} {a : Args} {m : RMsg}
    (h : fabricate sc st o a = (st', .ok m)) :
    firstFail (preChecks st o a) = none ∧ firstFail (mainChecks o a) = none ∧
    st' = bumped st o ∧ m = buildReport o a (orderIdOf st o).2 (st.execCtr + 1) ∧
    (∀ ok, sc = some ok → ok m = true) := by
  rw [fabricate_eq] at h
  cases hp : firstFail (preChecks st o a) with
  | some s => rw [hp] at h; cases h
  | none =>
    cases hm : firstFail (mainChecks o a) with
    | some s => rw [hp, hm] at h; cases h
    | none =>
      rw [hp, hm] at h
      obtain ⟨rfl, hg⟩ := Prod.mk.inj h
      obtain ⟨rfl, hok⟩ := schemaGate_ok hg
      exact ⟨rfl, rfl, rfl, rfl, hok⟩

theorem fabricate_fst (sc : Option (RMsg → Bool)) (st : TState) (o : OrderView) (a : Args) :
    (fabricate sc st o a).1 = st ∨ (fabricate sc st o a).1 = bumped st o := by
  rw [fabricate_eq]
  cases firstFail (preChecks st o a)
  · exact Or.inr rfl
  · exact Or.inl rfl

theorem fabricate_execCtr_le (sc : Option (RMsg → Bool)) (st : TState) (o : OrderView) (a : Args) :
    st.execCtr ≤ (fabricate sc st o a).1.execCtr := by
  rcases fabricate_fst sc st o a with e | e <;> rw [e]
  · exact Nat.le_refl _
  · exact Nat.le_succ _

theorem orderIdOf_none {st : TState} {o : OrderView} (h : o.orderId = none) :
    ∃ k, (orderIdOf st o).2 = .c k ∧ lookupRoot (rootOf o) (orderIdOf st o).1.orderIds = some k := by
  unfold orderIdOf
  rw [h]
  simp only
  cases hl : lookupRoot (rootOf o) st.orderIds with
  | some k => exact ⟨k, rfl, hl⟩
  | none => exact ⟨st.orderCtr + 1, rfl, by simp [lookupRoot]⟩

/-- an entry of `_order_ids` is never overwritten or dropped -/
theorem knows_orderIdOf {st : TState} {r : List Nat} {k : Nat} (o : OrderView)
    (h : lookupRoot r st.orderIds = some k) : lookupRoot r (orderIdOf st o).1.orderIds = some k := by
  unfold orderIdOf
  cases o.orderId with
  | some x => exact h
  | none =>
    simp only
    cases hl : lookupRoot (rootOf o) st.orderIds with
    | some k' => exact h
    | none =>
      simp only [lookupRoot]
      by_cases e : r = rootOf o
      · rw [e, hl] at h; cases h
      · simp [e, h]

theorem knows_fabricate {st : TState} {r : List Nat} {k : Nat} (sc : Option (RMsg → Bool)) (o : OrderView) (a : Args)
    (h : lookupRoot r st.orderIds = some k) : lookupRoot r (fabricate sc st o a).1.orderIds = some k := by
  rcases fabricate_fst sc st o a with e | e <;> rw [e]
  · exact h
  · exact knows_orderIdOf o h

theorem knows_runCalls {r : List Nat} {k : Nat} (sc : Option (RMsg → Bool)) (calls : List (OrderView × Args)) :
    ∀ {st : TState}, lookupRoot r st.orderIds = some k → lookupRoot r (runCalls sc st calls).1.orderIds = some k := by
  induction calls with
  | nil => intro st h; exact h
  | cons c rest ih =>
    intro st h
    obtain ⟨o, a⟩ := c
    simp only [runCalls]
    exact ih (knows_fabricate sc o a h)

theorem RMsg.lookup_append (t : Nat) (a b : List (Nat × Val)) :
    RMsg.lookup t (a ++ b) = (RMsg.lookup t a).or (RMsg.lookup t b) := by
  induction a with
  | nil => rfl
  | cons p r ih =>
    obtain ⟨k, v⟩ := p
    by_cases h : k = t <;> simp [RMsg.lookup, h, ih]

theorem RMsg.lookup_absent {t : Nat} {a : List (Nat × Val)} (h : ∀ p ∈ a, p.1 ≠ t) : RMsg.lookup t a = none := by
  induction a with
  | nil => rfl
  | cons p r ih =>
    rw [RMsg.lookup, if_neg (h p (List.mem_cons_self ..)), ih fun q hq => h q (List.mem_cons_of_mem _ hq)]

/-- apart from the two optional tags (OrigClOrdID, LastQty) a fabricated report holds what its thirteen
fixed entries say -/
theorem buildReport_get? (o : OrderView) (a : Args) (oid : Val) (eid : Nat) {t : Nat} (ht : t ≠ 41 ∧ t ≠ 32) :
    (buildReport o a oid eid).get? t =
      RMsg.lookup t ([(11, .s a.clordId), (37, oid), (17, .c eid)]
        ++ [(150, .s a.execType), (39, .s a.ordStatus), (54, .s o.side), (14, .q (effOf o a).cum), (151, .q (effOf o a).leaves)]
        ++ [(55, .s o.ticker), (44, .q (effOf o a).price), (38, .q (effOf o a).orderQty), (6, .q a.avgPrice),
            (1, .s (o.account.getD ""))]) := by
  simp only [buildReport, RMsg.get?, RMsg.lookup_append]
  rw [RMsg.lookup_absent (a := ite _ _ _) (by split <;> simp [ht.1.symm]), Option.or_none]
  split
  · rw [RMsg.lookup_absent (a := [_]) (by simp [ht.2.symm]), Option.or_none]
  · rw [RMsg.lookup_absent (a := []) (by simp), Option.or_none]

/-- the documented tag list of a fabricated ExecutionReport, in the order the helper sets the tags -/
def documentedTags (a : Args) : List Nat :=
  [11, 37, 17] ++ (if truthy a.origClordId then [41] else []) ++ [150, 39, 54, 14, 151]
    ++ (if a.lastQty.isSome then [32] else []) ++ [55, 44, 38, 6, 1]

theorem buildReport_tagList (o : OrderView) (a : Args) (oid : Val) (eid : Nat) :
    (buildReport o a oid eid).tagList = documentedTags a := by
  unfold buildReport RMsg.tagList documentedTags
  cases truthy a.origClordId <;> cases a.lastQty <;> rfl

theorem buildReport_mtype (o : OrderView) (a : Args) (oid : Val) (eid : Nat) :
    (buildReport o a oid eid).mtype = "8" := rfl

theorem buildReport_str11 (o : OrderView) (a : Args) (oid : Val) (eid : Nat) :
    (buildReport o a oid eid).str? 11 = some a.clordId := by
  rw [RMsg.str?, buildReport_get? o a oid eid (by decide)]; rfl

/-- what `process_execution_report` reads from a fabricated report -/
theorem buildReport_reads (o : OrderView) (a : Args) (oid : Val) (eid : Nat) :
    let m := buildReport o a oid eid
    getS m 11 = .ok a.clordId ∧ getF m 14 = .ok (effOf o a).cum.toFloat ∧ getS m 39 = .ok a.ordStatus ∧
    getS m 150 = .ok a.execType ∧ getF m 151 = .ok (effOf o a).leaves.toFloat ∧ getS m 37 = .ok oid.render ∧
    getF m 6 = .ok a.avgPrice.toFloat ∧ getFOpt m 44 = .ok (some (effOf o a).price.toFloat) ∧
    getFOpt m 38 = .ok (some (effOf o a).orderQty.toFloat) := by
  simp (disch := decide) only [getS, getF, getFOpt, buildReport_get?]
  exact ⟨rfl, rfl, rfl, rfl, rfl, rfl, rfl, rfl, rfl⟩

/-- `change_status` in non-raising mode, for a kind that has a table: the reported status or no change -/
theorem changeStatus_soft (status kind exec rep : String) (hk : kind ∈ AsyncFix.Generated.OrderTable.spec.map Prod.fst) :
    changeStatus AsyncFix.Generated.OrderTable.spec status kind exec rep false = .to rep ∨
    changeStatus AsyncFix.Generated.OrderTable.spec status kind exec rep false = .none := by
  rcases AsyncFix.Props.C16.trichotomy_partial status kind exec rep false hk with h | h | h
  · exact Or.inl h
  · exact Or.inr h
  · exact absurd h.2 (by decide)

theorem not_raised_of_soft {r : Res} {rep : String} (h : r = .to rep ∨ r = .none) : (r == Res.raised) = false := by
  rcases h with rfl | rfl <;> rfl

theorem applyStatus_ok (o : OrderView) {r : Res} {rep : String} (hrep : rep ∈ stVals)
    (hr : r = .to rep ∨ r = .none) : ∃ o' b, applyStatus o r = .ok (o', b) := by
  rcases hr with rfl | rfl
  · unfold applyStatus
    have hc : stVals.contains rep = true := by simpa using hrep
    by_cases he : (rep == "") = true
    · simp [he]
    · simp [he, hrep]
  · exact ⟨o, false, rfl⟩

theorem applyStatus_orderId {o o' : OrderView} {r : Res} {b : Bool} (h : applyStatus o r = .ok (o', b)) :
    o'.orderId = o.orderId := by
  unfold applyStatus at h
  split at h
  · cases h
  · cases h; rfl
  · split at h
    · cases h; rfl
    · split at h
      · cases h; rfl
      · cases h

/-- `process_execution_report` of the order a report was fabricated for: the ClOrdID check, `change_status` and
`FOrdStatus(new_status)` (inside `applyStatus`) are the only raising branches left; the order that reaches the
status assignment has adopted the report's OrderID -/
theorem processExecReport_buildReport (o : OrderView) (a : Args) (oid : Val) (eid : Nat) :
    ∃ o2 : OrderView, o2.orderId = some oid.render ∧
      processExecReport o (buildReport o a oid eid) =
        if (a.clordId != o.clordId && some a.clordId != o.origClordId) = true then .error .fixError
        else if (changeStatus AsyncFix.Generated.OrderTable.spec o.status "8" a.execType a.ordStatus false == .raised) = true
          then .error .fixError
        else applyStatus o2 (changeStatus AsyncFix.Generated.OrderTable.spec o.status "8" a.execType a.ordStatus false) := by
  obtain ⟨r11, r14, r39, r150, r151, r37, r6, r44, r38⟩ := buildReport_reads o a oid eid
  unfold processExecReport
  simp only [buildReport_mtype, r11, r14, r39, r150, r151, r37, r6, r44, r38, bne_self_eq_false,
    Bool.false_eq_true, if_false, bind, Except.bind, pure, Except.pure, throw, throwThe, MonadExceptOf.throw]
  by_cases hx : (a.execType == exReplaced) = true <;> simp only [hx, if_true] <;> exact ⟨_, rfl, rfl⟩

end AsyncFix.Tester
