import AsyncFix.Lemmas.SessionRel
import AsyncFix.Lemmas.SessionData

/-!
C06 – SPECIFICATION of a correct reply to a ResendRequest (definitions only, no algorithm).

Nothing here mentions `_process_resend`, its loop or its variables: `Chain` says what a list of
written frames has to look like for a journal `J`, a replay filter `sr` and a range of numbers.
`Props/C06.lean` states the theorems with these definitions; `harness/c06.py` implements the same
relation in Python on frames decoded from the bytes the real connection wrote.

A frame / journal row is a `Msg` as the decoder reads it back (`tags` = all fields in wire order).
-/
namespace AsyncFix.Session.C06

open AsyncFix.Generated

/-- header and trailer fields that `Codec.encode` writes itself, plus the two duplicate markers
PossDupFlag(43) and OrigSendingTime(122): everything else is the message's own content. -/
def envelopeTags : List Nat :=
  [tBeginString, tBodyLength, tMsgType, tSenderCompID, tTargetCompID, tMsgSeqNum, tSendingTime,
   tCheckSum, tPossDupFlag, tOrigSendingTime]

/-- the content fields of a frame, in wire order -/
def appBody (f : Msg) : List (Nat × String) := f.tags.filter fun p => !envelopeTags.contains p.1

/-- an application-level row which the application agrees to replay -/
def Replayable (sr : Msg → Bool) (row : Msg) : Prop :=
  ConnEnum.noReplay.contains row.mtype = false ∧ sr row = true

instance (sr : Msg → Bool) (row : Msg) : Decidable (Replayable sr row) := by
  unfold Replayable; infer_instance

/-- the time the message was FIRST sent: the row's OrigSendingTime when the row is itself a
retransmitted copy (left by an earlier resend), its SendingTime otherwise -/
def origTime (row : Msg) : Option String :=
  match row.get? tOrigSendingTime with
  | some t => some t
  | none => row.get? tSendingTime

/-- `g` is a retransmission of journal row `row` (number `n`) on session `s` -/
structure IsRetransmission (s : Session) (n : Int) (row g : Msg) : Prop where
  mtype : g.mtype = row.mtype
  tag35 : g.get? tMsgType = some row.mtype
  seq : g.get? tMsgSeqNum = some (pyStr n)
  possDup : g.get? tPossDupFlag = some "Y"
  orig : ∃ t, origTime row = some t ∧ g.get? tOrigSendingTime = some t
  body : appBody g = appBody row
  begin_ : g.get? tBeginString = some Proto.beginString
  sender : g.get? tSenderCompID = some s.sender
  target : g.get? tTargetCompID = some s.target

/-- `g` is a SequenceReset-GapFill numbered `a` that moves the receiver to `z` -/
structure IsGapFill (s : Session) (a z : Int) (g : Msg) : Prop where
  mtype : g.mtype = mSequenceReset
  tag35 : g.get? tMsgType = some mSequenceReset
  seq : g.get? tMsgSeqNum = some (pyStr a)
  newSeq : g.get? tNewSeqNo = some (pyStr z)
  gapFill : g.get? tGapFillFlag = some "Y"
  body : appBody g = [(tGapFillFlag, "Y"), (tNewSeqNo, pyStr z)]
  begin_ : g.get? tBeginString = some Proto.beginString
  sender : g.get? tSenderCompID = some s.sender
  target : g.get? tTargetCompID = some s.target

/-- `Chain s J sr a z frames`: the frames cover the numbers `[a, z)` exactly once, in ascending order
and abutting: each frame is either the retransmission of the replayable row numbered `a` (then the
rest starts at `a + 1`), or a GapFill `[a, a')` over numbers none of which is a replayable row
(then the rest starts at `a'`). -/
inductive Chain (s : Session) (J : Rows) (sr : Msg → Bool) : Int → Int → List Msg → Prop
  | nil (a : Int) : Chain s J sr a a []
  | replay {a z : Int} {row g : Msg} {rest : List Msg} :
      J.find a = some row → Replayable sr row → IsRetransmission s a row g →
      Chain s J sr (a + 1) z rest → Chain s J sr a z (g :: rest)
  | gap {a a' z : Int} {g : Msg} {rest : List Msg} :
      a < a' → IsGapFill s a a' g →
      (∀ n row, a ≤ n → n < a' → J.find n = some row → ¬ Replayable sr row) →
      Chain s J sr a' z rest → Chain s J sr a z (g :: rest)

/-- the reply to a request for `[b, last]` -/
def ReplyChain (s : Session) (J : Rows) (sr : Msg → Bool) (b last : Int) (frames : List Msg) : Prop :=
  Chain s J sr b (last + 1) frames

/-- the frames written, in order -/
def writes : List Effect → List Msg
  | [] => []
  | .write f :: r => f :: writes r
  | _ :: r => writes r

/-- nothing went wrong and the application saw nothing: only writes and state notifications -/
def Quiet (effs : List Effect) : Prop :=
  ∀ e ∈ effs, (∃ f, e = .write f) ∨ (∃ s, e = .onState s)

/-! ### the outbound invariant (property C05) as far as the resend needs it -/

/-- what `send_msg` leaves in the journal under number `n`: a complete frame carrying `n` -/
structure RowOK (n : Int) (f : Msg) : Prop where
  seq : ∃ v, f.get? tMsgSeqNum = some v ∧ pyInt v = some n
  tag35 : f.get? tMsgType = some f.mtype
  has8 : f.has tBeginString = true
  has9 : f.has tBodyLength = true
  has52 : f.has tSendingTime = true
  has49 : f.has tSenderCompID = true
  has56 : f.has tTargetCompID = true
  has10 : f.has tCheckSum = true
  latin : frameLatin1 f = true

/-- outbound rows strictly ascending, row `n` carries MsgSeqNum `n`, all rows below the next number,
stored counter = next number − 1 -/
structure OutInv (c : Conn) : Prop where
  sorted : Rows.Sorted c.journal.out
  lt : Rows.AllLt c.sess.nextOut c.journal.out
  rows : ∀ p ∈ c.journal.out, RowOK p.1 p.2
  stored : c.journal.outSeq + 1 = c.sess.nextOut

end AsyncFix.Session.C06
