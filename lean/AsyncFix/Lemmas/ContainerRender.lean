/-
Texts made of pieces joined by a separator (`FIXContainer.__str__`: fields by `|`, group items by `, `).  A piece is
bracket-balanced with no separator outside brackets (`scan stop 0 piece = some 0`), so it ends at the first
top-level separator (`split_unique`) and the joined text determines the list of pieces (`joinSep_inj`).
-/
import AsyncFix.Model.Container
namespace AsyncFix.Model.Container
open AsyncFix.Py

/-- walk over `s` starting at bracket depth `d`; fail (`none`) on a `]` at depth 0 or on a depth-0
character satisfying `stop`; otherwise the final depth -/
def scan (stop : Nat → Bool) : Nat → Str → Option Nat
  | d, [] => some d
  | d, c :: cs =>
    if c = 91 then scan stop (d + 1) cs
    else if c = 93 then (match d with
      | 0 => none
      | d' + 1 => scan stop d' cs)
    else if d = 0 ∧ stop c = true then none
    else scan stop d cs

def noStop : Nat → Bool := fun _ => false
def isComma : Nat → Bool := fun c => c == 44
def isBarComma : Nat → Bool := fun c => c == 124 || c == 44

theorem scan_append (stop : Nat → Bool) (x y : Str) (d : Nat) :
    scan stop d (x ++ y) = (scan stop d x).bind fun e => scan stop e y := by
  fun_induction scan stop d x <;> simp_all [scan]

/-- a successful scan succeeds again with fewer stop characters, and with any stop characters `k > 0`
levels deeper, where nothing stops it -/
theorem scan_lift (stop stop' : Nat → Bool) (k : Nat) (hm : ∀ c, stop' c = true → stop c = true ∨ 0 < k)
    (x : Str) (d e : Nat) (h : scan stop d x = some e) : scan stop' (d + k) x = some (e + k) := by
  fun_induction scan stop d x with
  | case1 d => simpa [scan] using h
  | case2 d cs ih => simpa [scan, Nat.add_right_comm] using ih h
  | case3 cs => cases h
  | case4 cs d _ ih => simpa [scan, Nat.add_right_comm] using ih h
  | case5 d c cs h91 h93 hs => cases h
  | case6 d c cs h91 h93 hs ih =>
    have hs' : ¬ (d + k = 0 ∧ stop' c = true) := fun ⟨h0, hc⟩ =>
      (hm c hc).elim (fun hc' => hs ⟨by omega, hc'⟩) (fun hk => by omega)
    simp only [scan, h91, h93, hs', if_false]
    exact ih h

theorem scan_mono (stop stop' : Nat → Bool) (hm : ∀ c, stop' c = true → stop c = true) (x : Str) (d e : Nat)
    (h : scan stop d x = some e) : scan stop' d x = some e :=
  scan_lift stop stop' 0 (fun c hc => Or.inl (hm c hc)) x d e h

theorem scan_plain (stop : Nat → Bool) (x : Str) (d : Nat)
    (h : ∀ c ∈ x, c ≠ 91 ∧ c ≠ 93 ∧ stop c = false) : scan stop d x = some d := by
  induction x with
  | nil => rfl
  | cons c cs ih =>
    obtain ⟨h1, h2, h3⟩ := h c (by simp)
    simpa [scan, h1, h2, h3] using ih (fun x hx => h x (by simp [hx]))

/-- the text is empty or begins with a stop character (other than `[`) -/
def Term (stop : Nat → Bool) (y : Str) : Prop := ∀ a ∈ y.head?, stop a = true ∧ a ≠ 91

/-- if two texts, each a balanced piece followed by a terminator, are equal, the pieces are equal: one
piece is a prefix of the other, and a proper prefix would make the longer piece run into the
terminator at depth 0 -/
theorem split_unique (stop : Nat → Bool) (x x' y y' : Str)
    (hx : scan stop 0 x = some 0) (hx' : scan stop 0 x' = some 0)
    (hy : Term stop y) (hy' : Term stop y') (h : x ++ y = x' ++ y') : x = x' ∧ y = y' := by
  have key : ∀ x w y : Str, scan stop 0 x = some 0 → scan stop 0 (x ++ w) = some 0 → Term stop (w ++ y) →
      w = [] := by
    intro x w y hx hxw ht
    cases w with
    | nil => rfl
    | cons a u =>
      obtain ⟨hs, h91⟩ := ht a (by simp)
      have : scan stop 0 (a :: u) = none := by simp [scan, h91, hs]
      rw [scan_append, hx, Option.bind_some, this] at hxw
      cases hxw
  rcases List.append_eq_append_iff.1 h with ⟨w, rfl, rfl⟩ | ⟨w, rfl, rfl⟩
  · have := key x w y' hx hx' hy; subst this; simp
  · have := key x' w y hx' hx hy'; subst this; simp

theorem split_first (m : Nat) (a b x y : Str) (ha : m ∉ a) (hb : m ∉ b) (h : a ++ m :: x = b ++ m :: y) :
    a = b ∧ x = y := by
  have key : ∀ a w x y : Str, m ∉ a ++ w → m :: x = w ++ m :: y → w = [] := by
    intro a w x y hm e
    cases w with
    | nil => rfl
    | cons c u => exact absurd (by simp [(List.cons.inj e).1]) hm
  rcases List.append_eq_append_iff.1 h with ⟨w, rfl, e⟩ | ⟨w, rfl, e⟩
  · have := key a w x y hb e; subst this; simpa using e
  · have := key b w y x ha e; subst this; simpa [eq_comm] using e

/-- what follows the first piece of a join -/
def sepTail (sep : Str) : List Str → Str
  | [] => []
  | y :: ys => sep ++ joinSep sep (y :: ys)

theorem joinSep_cons (sep x : Str) (xs : List Str) : joinSep sep (x :: xs) = x ++ sepTail sep xs := by
  cases xs <;> simp [joinSep, sepTail]

theorem scan_joinSep (stop : Nat → Bool) (sep : Str) (hsep : scan stop 0 sep = some 0) (ps : List Str)
    (hp : ∀ p ∈ ps, scan stop 0 p = some 0) : scan stop 0 (joinSep sep ps) = some 0 := by
  induction ps with
  | nil => rfl
  | cons p ps ih =>
    have ih := ih fun q hq => hp q (by simp [hq])
    rw [joinSep_cons, scan_append, hp p (by simp), Option.bind_some]
    cases ps with
    | nil => rfl
    | cons q qs => rw [sepTail, scan_append, hsep, Option.bind_some, ih]

/-- a join of balanced pieces by a separator that begins with a stop character determines the pieces
(given whether there are any: `joinSep sep [] = joinSep sep [[]]`) -/
theorem joinSep_inj (stop : Nat → Bool) (a : Nat) (u : Str) (hs : stop a = true) (h91 : a ≠ 91)
    (xs ys : List Str) (hx : ∀ p ∈ xs, scan stop 0 p = some 0) (hy : ∀ p ∈ ys, scan stop 0 p = some 0)
    (hnil : xs = [] ↔ ys = []) (h : joinSep (a :: u) xs = joinSep (a :: u) ys) : xs = ys := by
  have term : ∀ zs, Term stop (sepTail (a :: u) zs) := fun zs => by
    cases zs <;> simp [sepTail, Term, hs, h91]
  have tail : ∀ xs ys, sepTail (a :: u) xs = sepTail (a :: u) ys →
      (xs = [] ↔ ys = []) ∧ joinSep (a :: u) xs = joinSep (a :: u) ys := by
    intro xs ys e
    cases xs <;> cases ys
    · exact ⟨Iff.rfl, rfl⟩
    · simp [sepTail] at e
    · simp [sepTail] at e
    · exact ⟨by simp, List.append_cancel_left e⟩
  induction xs generalizing ys with
  | nil => exact (hnil.1 rfl).symm
  | cons x xs ih =>
    cases ys with
    | nil => exact absurd (hnil.2 rfl) (by simp)
    | cons y ys =>
      rw [joinSep_cons, joinSep_cons] at h
      obtain ⟨e, et⟩ := split_unique stop _ _ _ _ (hx x (by simp)) (hy y (by simp)) (term xs) (term ys) h
      obtain ⟨en, ej⟩ := tail xs ys et
      rw [e, ih ys (fun p hp => hx p (by simp [hp])) (fun p hp => hy p (by simp [hp])) en ej]

end AsyncFix.Model.Container
