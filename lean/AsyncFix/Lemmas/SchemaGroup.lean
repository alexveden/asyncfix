/-
C15 core: the group validator accepts exactly the items that are `ItemOk` (mutual induction over the message
tree, all nesting depths). The specification side is decomposed first (`loopSpec_cons`, `itemOk_iff`), so that
the induction itself only rewrites.
-/
import AsyncFix.Lemmas.Schema
namespace AsyncFix.Model.Schema

/-- what the entry loop of one item establishes, with the order bound `prev` -/
structure LoopSpec (vv : Tag → String → Bool) (gm : List Member) (prev : Nat) (it : List Node) : Prop where
  node : ∀ n, n ∈ it → ∃ mem, mem ∈ gm ∧ NodeOk vv mem n
  lower : ∀ n, n ∈ it → prev ≤ idxOf gm n.tag
  sorted : it.Pairwise (fun a b => idxOf gm a.tag ≤ idxOf gm b.tag)

theorem loopSpec_nil {vv : Tag → String → Bool} {gm : List Member} {prev : Nat} : LoopSpec vv gm prev [] :=
  ⟨nofun, nofun, .nil⟩

theorem loopSpec_cons {vv : Tag → String → Bool} {gm : List Member} {prev : Nat} {n : Node}
    {rest : List Node} :
    LoopSpec vv gm prev (n :: rest) ↔
      (∃ mem, mem ∈ gm ∧ NodeOk vv mem n) ∧ prev ≤ idxOf gm n.tag ∧
        LoopSpec vv gm (idxOf gm n.tag) rest := by
  constructor
  · rintro ⟨h1, h2, h3⟩
    obtain ⟨hle, hpw⟩ := List.pairwise_cons.mp h3
    exact ⟨h1 n (List.mem_cons_self ..), h2 n (List.mem_cons_self ..),
      fun n' hn' => h1 n' (List.mem_cons_of_mem _ hn'), hle, hpw⟩
  · rintro ⟨hn, hp, hr⟩
    exact ⟨List.forall_mem_cons.mpr ⟨hn, hr.node⟩,
      List.forall_mem_cons.mpr ⟨hp, fun n' hn' => Nat.le_trans hp (hr.lower n' hn')⟩,
      List.pairwise_cons.mpr ⟨hr.lower, hr.sorted⟩⟩

theorem itemOk_iff {vv : Tag → String → Bool} {gm : List Member} (hnd : membersND gm = true)
    {it : List Node} :
    ItemOk vv gm it ↔ LoopSpec vv gm 0 it ∧ (∃ m0 rest, gm = m0 :: rest ∧ m0.tag ∈ nodeTags it) ∧
      ∀ mem, mem ∈ gm → mem.req = true → mem.tag ∈ nodeTags it := by
  constructor
  · rintro ⟨h1, h2, h3, h4, h5⟩
    refine ⟨⟨fun n hn => ?_, fun _ _ => Nat.zero_le _, h3⟩, h4, h5⟩
    obtain ⟨mem, hm, ht⟩ := List.mem_map.mp (h1 n hn)
    exact ⟨mem, hm, h2 n hn mem hm ht⟩
  · rintro ⟨hl, h4, h5⟩
    refine .mk (fun n hn' => ?_) (fun n hn' mem hm ht => (nodeOk_of_mem hnd hm ht).mp (hl.node n hn'))
      hl.sorted h4 h5
    obtain ⟨mem, hm, hok⟩ := hl.node n hn'
    exact hok.tag_eq ▸ List.mem_map.mpr ⟨mem, hm, rfl⟩

theorem group_mutual (vv : Tag → String → Bool) :
    (∀ gm items, membersND gm = true →
      (validateGroup vv gm items = .ok ↔ ∀ it, it ∈ items → ItemOk vv gm it)) ∧
    (∀ gm prev it, membersND gm = true →
      (validateItemLoop vv gm prev it = .ok ↔ LoopSpec vv gm prev it)) ∧
    (∀ mem n, mem.tag = n.tag → memberND mem = true →
      (validateMember vv mem n = .ok ↔ NodeOk vv mem n)) := by
  apply validateGroup.mutual_induct
  · -- field / plain
    rintro t s ft r ⟨⟩ _
    rw [validateMember, strOutcome_ok]
    exact ⟨fun ⟨h1, h2⟩ => .field h1 h2, fun | .field h1 h2 => ⟨h1, h2⟩⟩
  · -- group / plain
    intro t s gt r gm _ _
    rw [validateMember]; exact ⟨nofun, nofun⟩
  · -- cls
    intro mem t k _ _
    rw [validateMember]; exact ⟨nofun, nofun⟩
  · -- field / group
    intro t items ft r _ _
    rw [validateMember]; exact ⟨nofun, nofun⟩
  · -- group / group
    rintro t items gt r gm ih ⟨⟩ hnd
    rw [memberND] at hnd
    rw [validateMember, ih hnd]
    exact ⟨.group, fun | .group h => h⟩
  · -- no items
    intro gm _
    simp [validateGroup]
  · -- item :: rest
    intro gm it rest ihLoop ihRest hnd
    rw [validateGroup, andThen_ok, andThen_ok, ihLoop hnd, ihRest hnd, ite_not_ok, hasFirst_iff,
      checkRequired_ok, List.forall_mem_cons, itemOk_iff hnd]
    simp only [and_assoc]
  · -- empty item
    intro gm prev _
    rw [validateItemLoop]
    exact iff_of_true rfl loopSpec_nil
  · -- unsupported tag
    intro gm prev n rest hl _
    rw [validateItemLoop, hl, loopSpec_cons]
    refine iff_of_false nofun fun ⟨⟨mem, hm, hok⟩, _⟩ => ?_
    exact lookupMem_none.mp hl (hok.tag_eq ▸ List.mem_map.mpr ⟨mem, hm, rfl⟩)
  · -- wrong order
    intro gm prev n rest i x hl hgt _
    rw [validateItemLoop, hl, loopSpec_cons, ← (lookupMem_some hl).2.2]
    exact iff_of_false (by simp [hgt]) fun h => Nat.not_lt.mpr h.2.1 hgt
  · -- regular step
    intro gm prev n rest i x hl hle ihNode ihRest hnd
    obtain ⟨hx, hxt, rfl⟩ := lookupMem_some hl
    rw [validateItemLoop, hl]
    simp only [hle, if_false]
    rw [andThen_ok, ihNode hxt (membersND_mem hnd hx), ihRest hnd, loopSpec_cons,
      nodeOk_of_mem hnd hx hxt]
    exact ⟨fun ⟨a, b⟩ => ⟨a, Nat.le_of_not_gt hle, b⟩, fun ⟨a, _, b⟩ => ⟨a, b⟩⟩

theorem validateGroup_iff {vv : Tag → String → Bool} {gm : List Member} {items : List (List Node)}
    (h : membersND gm = true) :
    validateGroup vv gm items = .ok ↔ ∀ it, it ∈ items → ItemOk vv gm it :=
  (group_mutual vv).1 gm items h

theorem validateMember_iff {vv : Tag → String → Bool} {mem : Member} {n : Node}
    (ht : mem.tag = n.tag) (h : memberND mem = true) :
    validateMember vv mem n = .ok ↔ NodeOk vv mem n :=
  (group_mutual vv).2.2 mem n ht h

theorem group_kind (vv : Tag → String → Bool) :
    (∀ gm items, (validateGroup vv gm items).NoForeign) ∧
    (∀ gm prev it, (validateItemLoop vv gm prev it).NoForeign) ∧
    (∀ mem n, (validateMember vv mem n).NoForeign) := by
  apply validateGroup.mutual_induct
  · intro t s ft r; rw [validateMember]; exact strOutcome_kind vv ft s
  · intro t s gt r gm; exact .err
  · intro mem t c; exact .err
  · intro t items ft r; exact .err
  · intro t items gt r gm ih; rw [validateMember]; exact ih
  · intro gm; exact .ok
  · intro gm it rest ihLoop ihRest
    rw [validateGroup]
    exact ihLoop.andThen ((Outcome.NoForeign.ite .err (checkRequired_kind it gm)).andThen ihRest)
  · intro gm prev; exact .ok
  · intro gm prev n rest hl; rw [validateItemLoop, hl]; exact .err
  · intro gm prev n rest i x hl hgt; rw [validateItemLoop, hl]; simp only [hgt, if_true]; exact .err
  · intro gm prev n rest i x hl hle ihNode ihRest
    rw [validateItemLoop, hl]; exact .ite .err (ihNode.andThen ihRest)

theorem validateMember_kind (vv : Tag → String → Bool) (mem : Member) (n : Node) : (validateMember vv mem n).NoForeign :=
  (group_kind vv).2.2 mem n

end AsyncFix.Model.Schema
