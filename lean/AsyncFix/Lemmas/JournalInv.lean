/-
C13: what the three writing methods return on each class of input (most later proofs rewrite with
these equations instead of unfolding the methods), and the invariant `JInv`: it holds for the
empty journal and is preserved by every statement and every public method.
-/
import AsyncFix.Lemmas.JournalSpec
namespace AsyncFix.Model.Journal

theorem isPair_iff (r : SessRow) (t s : String) : r.isPair t s = true ↔ r.target = t ∧ r.sender = s := by
  simp [SessRow.isPair]

theorem isKey_iff (r : MsgRow) (seq key : Int) (dir : Dir) :
    r.isKey seq key dir = true ↔ r.seq = seq ∧ r.sid = key ∧ r.dir = dir := by
  simp [MsgRow.isKey, and_assoc]

theorem createOrLoad_new {j : Journal} {t s : String} (hno : j.sessions.find? (·.isPair t s) = none) :
    createOrLoad j t s =
      ({ j with sessions := j.sessions ++ [⟨j.nextSid, t, s, 0, 0⟩], nextSid := j.nextSid + 1 },
        .handle ⟨j.nextSid, t, s, 1, 1⟩) := by
  have hany : j.sessions.any (·.isPair t s) = false := List.any_eq_false.mpr (List.find?_eq_none.mp hno)
  simp only [createOrLoad, insSession, hany, Bool.false_eq_true, if_false]

/-- the load path: the INSERT fails on UNIQUE and the SELECT returns the row of that pair -/
theorem createOrLoad_found {j : Journal} {t s : String} {r : SessRow}
    (hf : j.sessions.find? (·.isPair t s) = some r) : createOrLoad j t s = (j, .handle (handleOf r)) := by
  have hany : j.sessions.any (·.isPair t s) = true :=
    List.any_eq_true.mpr ⟨r, List.mem_of_find?_eq_some hf, List.find?_some (p := fun x : SessRow => x.isPair t s) hf⟩
  have hhead : (selSession j t s).head? = some r := by rw [selSession, List.head?_filter, hf]
  cases hsel : selSession j t s with
  | nil => rw [hsel] at hhead; cases hhead
  | cons x xs =>
    rw [hsel] at hhead; cases hhead
    simp only [createOrLoad, insSession, hany, hsel, if_true]

theorem persist_noSeq {j : Journal} {msg : Bytes} {h : Handle} {dir : Dir} (hn : findSeqNo msg = none) :
    persist j msg h dir = (j, .raised .fixMessage) := by
  simp only [persist, hn]

theorem persist_eq {j : Journal} {msg : Bytes} {h : Handle} {dir : Dir} {n : Int}
    (hn : findSeqNo msg = some n) :
    persist j msg h dir =
      if !(fits n && fits h.key) then (j, .raised .overflow)
      else if j.msgs.any (·.isKey n h.key dir) then (j, .raised .duplicateSeqNo)
      else (updCounter { j with msgs := j.msgs ++ [⟨maxRowid j.msgs + 1, n, h.key, dir, msg⟩] } dir n h.key,
        .none) := by
  simp only [persist, hn, insMsg]
  split
  · rfl
  · by_cases hany : j.msgs.any (·.isKey n h.key dir) = true <;> simp [hany]

theorem persist_ok {j : Journal} {msg : Bytes} {h : Handle} {dir : Dir} {n : Int}
    (hn : findSeqNo msg = some n) (hres : (persist j msg h dir).2 = .none) :
    fits n = true ∧ fits h.key = true ∧ j.msgs.any (·.isKey n h.key dir) = false ∧
    (persist j msg h dir).1 =
      updCounter { j with msgs := j.msgs ++ [⟨maxRowid j.msgs + 1, n, h.key, dir, msg⟩] } dir n h.key := by
  rw [persist_eq hn] at hres ⊢
  by_cases hf : (!(fits n && fits h.key)) = true
  · rw [if_pos hf] at hres; cases hres
  by_cases hany : j.msgs.any (·.isKey n h.key dir) = true
  · rw [if_neg hf, if_pos hany] at hres; cases hres
  · rw [if_neg hf, if_neg hany]
    have hf' : fits n = true ∧ fits h.key = true := by simpa using hf
    exact ⟨hf'.1, hf'.2, by simpa using hany, rfl⟩

/-- the four ways through `set_seq_num`, each with the tests that lead to it -/
theorem setSeqNum_cases (j : Journal) (h : Handle) (out inn : Option Int) :
    (out.any (· ≤ 0) = true ∧ setSeqNum j h out inn = (j, .set h (some .assertion))) ∨
    (out.any (· ≤ 0) = false ∧ inn.any (· ≤ 0) = true ∧
      setSeqNum j h out inn = (j, .set { h with nextOut := effOut h out } (some .assertion))) ∨
    (out.any (· ≤ 0) = false ∧ inn.any (· ≤ 0) = false ∧
      (fits (effIn h inn - 1) && fits (effOut h out - 1) && fits h.key && fits (effIn h inn) &&
        fits (effOut h out)) = false ∧
      setSeqNum j h out inn =
        (j, .set { h with nextOut := effOut h out, nextIn := effIn h inn } (some .overflow))) ∨
    (out.any (· ≤ 0) = false ∧ inn.any (· ≤ 0) = false ∧
      fits (effIn h inn) = true ∧ fits (effOut h out) = true ∧
      fits (effIn h inn - 1) = true ∧ fits (effOut h out - 1) = true ∧ fits h.key = true ∧
      setSeqNum j h out inn =
        (delFrom (delFrom (updBoth j (effIn h inn - 1) (effOut h out - 1) h.key) h.key (effIn h inn) .inbound)
            h.key (effOut h out) .outbound,
          .set { h with nextOut := effOut h out, nextIn := effIn h inn } none)) := by
  unfold setSeqNum
  cases h1 : out.any (· ≤ 0)
  case true => exact .inl ⟨rfl, by simp⟩
  cases h2 : inn.any (· ≤ 0)
  case true => exact .inr (.inl ⟨rfl, rfl, by simp⟩)
  cases h3 : (fits (effIn h inn - 1) && fits (effOut h out - 1) && fits h.key &&
      fits (effIn h inn) && fits (effOut h out))
  case false => exact .inr (.inr (.inl ⟨rfl, rfl, rfl, by simp⟩))
  have h3' := h3
  simp only [Bool.and_eq_true] at h3'
  exact .inr (.inr (.inr ⟨rfl, rfl, h3'.1.2, h3'.2, h3'.1.1.1.1, h3'.1.1.1.2, h3'.1.1.2, by simp⟩))

theorem jinv_empty : JInv {} := by
  constructor <;> simp

theorem le_maxRowid {l : List MsgRow} {r : MsgRow} (h : r ∈ l) : r.rowid ≤ maxRowid l := by
  induction l with
  | nil => cases h
  | cons x xs ih =>
    simp only [maxRowid]
    rcases List.mem_cons.mp h with rfl | h
    · omega
    · have := ih h; omega

theorem pairwise_snoc {α} {R : α → α → Prop} {l : List α} {a : α} (hl : l.Pairwise R)
    (ha : ∀ x ∈ l, R x a) : (l ++ [a]).Pairwise R :=
  List.pairwise_append.mpr
    ⟨hl, List.pairwise_singleton R a, fun x hx y hy => by rw [List.mem_singleton.mp hy]; exact ha x hx⟩

theorem insSession_inv {j : Journal} {t s : String} (hinv : JInv j)
    (hno : j.sessions.find? (·.isPair t s) = none) :
    JInv { j with sessions := j.sessions ++ [⟨j.nextSid, t, s, 0, 0⟩], nextSid := j.nextSid + 1 } where
  pairUnique := pairwise_snoc hinv.pairUnique fun r hr hc =>
    List.find?_eq_none.mp hno r hr ((isPair_iff r t s).mpr hc)
  sidAsc := pairwise_snoc hinv.sidAsc hinv.sidLt
  sidLt r hr := by
    rcases List.mem_append.mp hr with hr | hr
    · exact Nat.lt_succ_of_lt (hinv.sidLt r hr)
    · rw [List.mem_singleton.mp hr]; exact Nat.lt_succ_self _
  keyUnique := hinv.keyUnique
  rowidAsc := hinv.rowidAsc

theorem insMsg_inv {j : Journal} {seq key : Int} {dir : Dir} (msg : Bytes) (hinv : JInv j)
    (hno : j.msgs.any (·.isKey seq key dir) = false) :
    JInv { j with msgs := j.msgs ++ [⟨maxRowid j.msgs + 1, seq, key, dir, msg⟩] } where
  pairUnique := hinv.pairUnique
  sidAsc := hinv.sidAsc
  sidLt := hinv.sidLt
  keyUnique := pairwise_snoc hinv.keyUnique fun r hr hc =>
    List.any_eq_false.mp hno r hr ((isKey_iff r seq key dir).mpr hc)
  rowidAsc := pairwise_snoc hinv.rowidAsc fun _ hr => Nat.lt_succ_of_le (le_maxRowid hr)

/-- an UPDATE of counter columns keeps ids and CompIDs -/
theorem map_sessions_inv {j : Journal} (f : SessRow → SessRow)
    (hf : ∀ r, (f r).sid = r.sid ∧ (f r).target = r.target ∧ (f r).sender = r.sender) (hinv : JInv j) :
    JInv { j with sessions := j.sessions.map f } where
  pairUnique := List.pairwise_map.mpr <| hinv.pairUnique.imp fun {a b} h => by
    rw [(hf a).2.1, (hf a).2.2, (hf b).2.1, (hf b).2.2]; exact h
  sidAsc := List.pairwise_map.mpr <| hinv.sidAsc.imp fun {a b} h => by rw [(hf a).1, (hf b).1]; exact h
  sidLt r hr := by
    obtain ⟨a, ha, rfl⟩ := List.mem_map.mp hr
    rw [(hf a).1]; exact hinv.sidLt a ha
  keyUnique := hinv.keyUnique
  rowidAsc := hinv.rowidAsc

theorem updCounter_inv {j : Journal} (dir : Dir) (seq key : Int) (hinv : JInv j) :
    JInv (updCounter j dir seq key) := by
  apply map_sessions_inv _ _ hinv
  intro r; split
  · cases dir <;> simp
  · simp

theorem updBoth_inv {j : Journal} (i o key : Int) (hinv : JInv j) : JInv (updBoth j i o key) := by
  apply map_sessions_inv _ _ hinv
  intro r; split <;> simp

theorem delFrom_inv {j : Journal} (key seq : Int) (dir : Dir) (hinv : JInv j) :
    JInv (delFrom j key seq dir) :=
  { hinv with keyUnique := hinv.keyUnique.filter _, rowidAsc := hinv.rowidAsc.filter _ }

theorem createOrLoad_inv {j : Journal} (t s : String) (hinv : JInv j) : JInv (createOrLoad j t s).1 := by
  cases hf : j.sessions.find? (·.isPair t s) with
  | none => rw [createOrLoad_new hf]; exact insSession_inv hinv hf
  | some r => rw [createOrLoad_found hf]; exact hinv

theorem persist_inv {j : Journal} (msg : Bytes) (h : Handle) (dir : Dir) (hinv : JInv j) :
    JInv (persist j msg h dir).1 := by
  cases hn : findSeqNo msg with
  | none => rw [persist_noSeq hn]; exact hinv
  | some n =>
    rw [persist_eq hn]
    split
    · exact hinv
    · split
      · exact hinv
      · rename_i hno
        exact updCounter_inv _ _ _ (insMsg_inv msg hinv (by simpa using hno))

theorem applyOp_inv {j : Journal} (op : Op) (hinv : JInv j) : JInv (applyOp j op).1 := by
  cases op with
  | createOrLoad t s => exact createOrLoad_inv t s hinv
  | persist msg h dir => exact persist_inv msg h dir hinv
  | setSeqNum h out inn =>
    rcases setSeqNum_cases j h out inn with ⟨-, he⟩ | ⟨-, -, he⟩ | ⟨-, -, -, he⟩ | ⟨-, -, -, -, -, -, -, he⟩ <;> simp only [applyOp, he]
    · exact hinv
    · exact hinv
    · exact hinv
    · exact delFrom_inv _ _ _ (delFrom_inv _ _ _ (updBoth_inv _ _ _ hinv))
  | sessions => exact hinv
  | recover => exact hinv
  | recoverMsg => exact hinv
  | getAll => exact hinv

theorem applyOps_cons (j : Journal) (op : Op) (ops : List Op) :
    applyOps j (op :: ops) = applyOps (applyOp j op).1 ops := rfl

theorem applyOps_append (j : Journal) (a b : List Op) : applyOps j (a ++ b) = applyOps (applyOps j a) b := by
  simp only [applyOps, List.foldl_append]

theorem applyOps_inv {j : Journal} (ops : List Op) (hinv : JInv j) : JInv (applyOps j ops) := by
  induction ops generalizing j with
  | nil => exact hinv
  | cons op ops ih => exact ih (applyOp_inv op hinv)

end AsyncFix.Model.Journal
