/-
int(): what CPython's `int()` (model `pyInt`) does on the strings of the FIX int lexical space
`-?[0-9]+`, `_validate_value_number(…, int, …)` as a chain of checks, and the resulting
characterisations of the INT / SEQNUM / NUMINGROUP / DAYOFMONTH validators.
-/
import AsyncFix.Lemmas.LexTok
import AsyncFix.Model.LexSpec
import AsyncFix.Model.LexClass
namespace AsyncFix.Lemmas.LexInt
open AsyncFix.Py AsyncFix.Model AsyncFix.Model.Lexical AsyncFix.Model.LexClass AsyncFix.Lemmas.LexTok

def numChar (c : Nat) : Bool := isAsciiDigit c || c == 45 || c == 46

/-- such characters pass int()'s and float()'s preprocessing unchanged: no Unicode translation, not a space,
not an underscore -/
theorem numChar_facts {c : Nat} (h : numChar c = true) :
    xform c = c ∧ isAsciiSpace c = false ∧ c ≠ 95 := by
  simp only [numChar, Bool.or_eq_true, beq_iff_eq, digit_iff] at h
  refine ⟨?_, ?_, ?_⟩
  · simp [xform]; omega
  · simp [isAsciiSpace]; omega
  · omega

theorem numChar_digit {c : Nat} (h : isAsciiDigit c = true) : numChar c = true := by
  simp [numChar, h]

theorem numChars_digits {ds : Str} (h : ds.all isAsciiDigit = true) : ds.all numChar = true :=
  List.all_eq_true.2 fun c hc => numChar_digit (List.all_eq_true.1 h c hc)

theorem map_xform_numChars {t : Str} (h : t.all numChar = true) : t.map xform = t :=
  (List.map_congr_left fun c hc => (numChar_facts (List.all_eq_true.1 h c hc)).1).trans (List.map_id' t)

theorem head_of_digits {ds : Str} (hne : ds ≠ []) (h : ds.all isAsciiDigit = true) :
    ∃ c cs, ds = c :: cs ∧ 48 ≤ c ∧ c ≤ 57 := by
  obtain ⟨c, cs, rfl⟩ := List.exists_cons_of_ne_nil hne
  exact ⟨c, cs, rfl, digit_iff.1 (all_digit_cons.1 h).1⟩

theorem scanDigits_digits {ds : Str} (h : ds.all isAsciiDigit = true) :
    ∀ prev, prev ≠ 95 → scanDigits prev ds = some (ds.map (· - 48), []) := by
  induction ds with
  | nil => intro prev hp; simp [scanDigits, hp]
  | cons c cs ih =>
    intro prev hp
    obtain ⟨h1, h2⟩ := all_digit_cons.1 h
    have hc95 : c ≠ 95 := (numChar_facts (numChar_digit h1)).2.2
    simp [scanDigits, hc95, h1, ih h2 c hc95]

/-- `PyLong_FromString` on a buffer `t` that starts without blanks and is, after the optional sign,
a run of digits `ds` -/
theorem pyIntAscii_digits (m : Nat) {t ds : Str} (hne : ds ≠ []) (h : ds.all isAsciiDigit = true)
    (hsp : t.dropWhile isAsciiSpace = t) (hsign : stripSign t = ds) :
    pyIntAscii m t = if digitLimitOk m ds.length then
      some (if t.head? == some 45 then - (decVal (ds.map (· - 48)) : Int) else decVal (ds.map (· - 48)))
      else none := by
  have h95 : (ds.head? == some 95) = false := by
    obtain ⟨c, cs, rfl, hc⟩ := head_of_digits hne h
    simp; omega
  have hemp : (ds.map (· - 48)).isEmpty = false := by cases ds <;> simp_all
  unfold pyIntAscii
  simp only [hsp, hsign, scanDigits_digits h 0 (by decide), h95, hemp, List.length_map, digitLimitOk,
    Bool.false_eq_true, if_false, List.dropWhile_nil, List.isEmpty_nil, if_true]
  by_cases hl : (decide (640 < ds.length) && decide (0 < m) && decide (m < ds.length)) = true <;> simp [hl]

theorem pyInt_digits (m : Nat) {ds : Str} (hne : ds ≠ []) (h : ds.all isAsciiDigit = true) :
    pyInt m ds = if digitLimitOk m ds.length then some (decVal (ds.map (· - 48)) : Int) else none := by
  obtain ⟨c, cs, rfl, hc⟩ := head_of_digits hne h
  have hsp : (c :: cs).dropWhile isAsciiSpace = c :: cs := by
    simp [List.dropWhile, not_space_digit (all_digit_cons.1 h).1]
  have hsign : stripSign (c :: cs) = c :: cs := by
    unfold stripSign; split <;> first | rfl | (rename_i heq; injection heq with h1 _; omega)
  have h45 : ((c :: cs).head? == some 45) = false := by simp; omega
  rw [pyInt, map_xform_numChars (numChars_digits h), pyIntAscii_digits m hne h hsp hsign, h45]
  rfl

theorem pyInt_neg_digits (m : Nat) {ds : Str} (hne : ds ≠ []) (h : ds.all isAsciiDigit = true) :
    pyInt m (45 :: ds) =
      if digitLimitOk m ds.length then some (- (decVal (ds.map (· - 48)) : Int)) else none := by
  have hall : (45 :: ds).all numChar = true := by simp [numChars_digits h, numChar]
  rw [pyInt, map_xform_numChars hall, pyIntAscii_digits m hne h (by simp [List.dropWhile, isAsciiSpace]) rfl]
  rfl

theorem spec_digits_iff {s : Str} : LexSpec.digits s = true ↔ s ≠ [] ∧ s.all isAsciiDigit = true := by
  unfold LexSpec.digits
  have : LexSpec.digit = isAsciiDigit := rfl
  rw [this]
  cases s <;> simp

theorem value_eq_decVal (s : Str) (acc : Nat) :
    LexSpec.value s acc = (s.map (· - 48)).foldl (fun a d => 10 * a + d) acc := by
  induction s generalizing acc with
  | nil => rfl
  | cons c cs ih => simp [LexSpec.value, ih]

theorem spec_value (s : Str) : LexSpec.value s 0 = decVal (s.map (· - 48)) := value_eq_decVal s 0

/-- a recogniser of the shape `| 45 :: r => g r | s => g s` is `g` after the sign is dropped -/
theorem signed_eq {α : Type} {f g : Str → α} (h1 : ∀ r, f (45 :: r) = g r)
    (h2 : ∀ s, (∀ r, s ≠ 45 :: r) → f s = g s) (s : Str) : f s = g (dropMinus s) := by
  unfold dropMinus
  split
  · exact h1 _
  · rename_i hne; exact h2 _ fun r h => hne r h

theorem sign_cases (s : Str) : s = dropMinus s ∨ s = 45 :: dropMinus s := by
  unfold dropMinus; split
  · exact Or.inr rfl
  · exact Or.inl rfl

theorem isInt_sign (s : Str) : LexSpec.isInt s = LexSpec.digits (dropMinus s) :=
  signed_eq (fun _ => rfl) (fun s hs => by unfold LexSpec.isInt; split; exact absurd rfl (hs _); rfl) s

theorem reInt_sign (s : Str) : reIntLexical s = digits1 (dropMinus s) :=
  signed_eq (fun _ => rfl) (fun s hs => by unfold reIntLexical; split; exact absurd rfl (hs _); rfl) s

theorem reInt_eq (s : Str) : reIntLexical s = LexSpec.isInt s := by
  rw [reInt_sign, isInt_sign]; rfl

theorem isInt_form {s : Str} (h : LexSpec.isInt s = true) :
    ∃ b, (s = b ∨ s = 45 :: b) ∧ b ≠ [] ∧ b.all isAsciiDigit = true := by
  rw [isInt_sign, spec_digits_iff] at h
  exact ⟨_, sign_cases s, h⟩

/-- `int()` of a member of the int lexical space: the value, unless the digit limit is exceeded -/
def specIntVal : Str → Int
  | 45 :: r => - (LexSpec.value r 0 : Int)
  | s => (LexSpec.value s 0 : Int)

theorem specIntVal_digits {s : Str} (hne : s ≠ []) (hd : s.all isAsciiDigit = true) :
    specIntVal s = (LexSpec.value s 0 : Int) := by
  obtain ⟨c, cs, rfl, hc⟩ := head_of_digits hne hd
  unfold specIntVal; split
  · rename_i heq; injection heq with h1 _; omega
  · rfl

theorem dropMinus_digits {s : Str} (hne : s ≠ []) (hd : s.all isAsciiDigit = true) : dropMinus s = s := by
  obtain ⟨c, cs, rfl, hc⟩ := head_of_digits hne hd
  unfold dropMinus; split
  · rename_i heq; injection heq with h1 _; omega
  · rfl

theorem pyInt_of_isInt (cfg : Cfg) {s : Str} (h : LexSpec.isInt s = true) :
    pyInt cfg.maxStrDigits s = if overDigitLimit cfg s = false then some (specIntVal s) else none := by
  obtain ⟨b, (rfl | rfl), hne, hd⟩ := isInt_form h
  · rw [pyInt_digits _ hne hd]
    simp [overDigitLimit, dropMinus_digits hne hd, specIntVal_digits hne hd, spec_value]
  · rw [pyInt_neg_digits _ hne hd]
    simp [overDigitLimit, dropMinus, specIntVal, spec_value]

/-- a member of the int space whose value satisfies a condition that forces positivity is an unsigned
digit string with that value -/
theorem int_pos_iff {s : Str} {P : Int → Prop} (hP : ∀ v, P v → 0 < v) :
    (LexSpec.isInt s = true ∧ P (specIntVal s)) ↔ (LexSpec.digits s = true ∧ P (LexSpec.value s 0 : Int)) := by
  constructor
  · rintro ⟨hl, hp⟩
    obtain ⟨b, (rfl | rfl), hne, hd⟩ := isInt_form hl
    · rw [specIntVal_digits hne hd] at hp
      exact ⟨spec_digits_iff.2 ⟨hne, hd⟩, hp⟩
    · have := hP _ hp
      have e : specIntVal (45 :: b) = -(LexSpec.value b 0 : Int) := rfl
      omega
  · rintro ⟨hd, hp⟩
    obtain ⟨hne, hd⟩ := spec_digits_iff.1 hd
    rw [isInt_sign, dropMinus_digits hne hd, specIntVal_digits hne hd]
    exact ⟨spec_digits_iff.2 ⟨hne, hd⟩, hp⟩

/-- `_validate_value_number(value, int, …)` without the finiteness test, on a non-empty value: a
chain of checks that each end in an error text; any other outcome is `pass` -/
theorem validateNumber_int_eq_iff (cfg : Cfg) {nz nn : Bool} {range : Option (Int × Int)} {s : Str} {r : VRes}
    (hs : s ≠ []) (hr : r ≠ .err) :
    validateNumber cfg .int nz nn false range s = r ↔
      ∃ v, pyInt cfg.maxStrDigits s = some v ∧ (nz = true → v ≠ 0) ∧ (nn = true → ¬ v < 0) ∧
        reIntLexical s = true ∧ (∀ lo hi, range = some (lo, hi) → lo ≤ v ∧ v ≤ hi) ∧ r = .pass := by
  have he : s.isEmpty = false := by cases s <;> simp_all
  unfold validateNumber
  rw [he, if_neg Bool.false_ne_true]
  cases pyInt cfg.maxStrDigits s with
  | none => simp [hr.symm]
  | some v =>
    simp only [Bool.false_and, Bool.false_eq_true, if_false, ite_err_eq hr, Option.some.injEq, exists_eq_left']
    rcases range with _ | ⟨lo, hi⟩
    · simp [eq_comm (a := VRes.pass)]
    · simp only [Bool.and_eq_true, decide_eq_true_eq, Option.some.injEq, Prod.mk.injEq, and_imp]
      by_cases hb : lo ≤ v ∧ v ≤ hi
      · simp [hb, eq_comm (a := VRes.pass)]
      · simp [hb, hr.symm]

theorem validateNumber_int_not_raised (cfg : Cfg) (nz nn : Bool) (range : Option (Int × Int)) {s : Str}
    (hs : s ≠ []) (k : String) : validateNumber cfg .int nz nn false range s ≠ .raised k := by
  simp [validateNumber_int_eq_iff cfg hs]

/-- what the int-type validators see: the value of a member of the int lexical space -/
theorem int_core (cfg : Cfg) (nz nn : Bool) (range : Option (Int × Int)) (s : Str) :
    validateNumber cfg .int nz nn false range s = .pass ↔
      LexSpec.isInt s = true ∧ overDigitLimit cfg s = false ∧ (nz = true → specIntVal s ≠ 0) ∧
        (nn = true → ¬ specIntVal s < 0) ∧ (∀ lo hi, range = some (lo, hi) → lo ≤ specIntVal s ∧ specIntVal s ≤ hi) := by
  by_cases hs : s = []
  · subst hs; simp [validateNumber, LexSpec.isInt, LexSpec.digits]
  rw [validateNumber_int_eq_iff cfg hs (by simp), reInt_eq]
  constructor
  · rintro ⟨v, hp, h1, h2, hl, h3, -⟩
    have := pyInt_of_isInt cfg hl
    rw [hp] at this
    cases ho : overDigitLimit cfg s
    · rw [ho] at this; simp at this; subst this
      exact ⟨hl, rfl, h1, h2, h3⟩
    · rw [ho] at this; simp at this
  · rintro ⟨hl, ho, h1, h2, h3⟩
    refine ⟨specIntVal s, ?_, h1, h2, hl, h3, rfl⟩
    rw [pyInt_of_isInt cfg hl, ho]; rfl

theorem int_pass_iff (cfg : Cfg) (s : Str) :
    validateTyped cfg .int s = .pass ↔ LexSpec.isInt s = true ∧ overDigitLimit cfg s = false := by
  show validateNumber cfg .int false false false none s = .pass ↔ _
  rw [int_core]
  simp

theorem posInt_pass_iff (cfg : Cfg) (s : Str) :
    validateTyped cfg .posInt s = .pass ↔ LexSpec.isPositiveInt s = true ∧ overDigitLimit cfg s = false := by
  show validateNumber cfg .int true true false none s = .pass ↔ _
  rw [int_core]
  have := int_pos_iff (s := s) (P := fun v => v ≠ 0 ∧ ¬ v < 0) (fun v h => by omega)
  simp only [LexSpec.isPositiveInt, Bool.and_eq_true, decide_eq_true_eq, forall_const, reduceCtorEq, false_implies,
    and_true]
  constructor
  · rintro ⟨hl, ho, h1, h2⟩
    obtain ⟨hd, h1, h2⟩ := this.1 ⟨hl, h1, h2⟩
    exact ⟨⟨hd, by omega⟩, ho⟩
  · rintro ⟨⟨hd, hv⟩, ho⟩
    obtain ⟨hl, h1, h2⟩ := this.2 ⟨hd, by omega, by omega⟩
    exact ⟨hl, ho, h1, h2⟩

theorem dayOfMonth_pass_iff (cfg : Cfg) (s : Str) :
    validateTyped cfg .dayOfMonth s = .pass ↔ LexSpec.isDayOfMonth s = true ∧ overDigitLimit cfg s = false := by
  show validateNumber cfg .int false false false (some (1, 31)) s = .pass ↔ _
  rw [int_core]
  have := int_pos_iff (s := s) (P := fun v => 1 ≤ v ∧ v ≤ 31) (fun v h => by omega)
  simp only [LexSpec.isDayOfMonth, Bool.false_eq_true, false_implies, true_and, Option.some.injEq, Prod.mk.injEq, and_imp,
    Bool.and_eq_true, decide_eq_true_eq]
  constructor
  · rintro ⟨hl, ho, h3⟩
    obtain ⟨hd, h1, h2⟩ := this.1 ⟨hl, h3 1 31 rfl rfl⟩
    exact ⟨⟨⟨hd, by omega⟩, by omega⟩, ho⟩
  · rintro ⟨⟨⟨hd, hv1⟩, hv2⟩, ho⟩
    obtain ⟨hl, h1, h2⟩ := this.2 ⟨hd, by omega, by omega⟩
    refine ⟨hl, ho, ?_⟩
    rintro lo hi rfl rfl
    exact ⟨h1, h2⟩

end AsyncFix.Lemmas.LexInt
