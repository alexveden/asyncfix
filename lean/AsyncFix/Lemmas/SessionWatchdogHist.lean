import AsyncFix.Lemmas.SessionWatchdogGap

/-!
C12, histories: tick sequences with bounded gaps (`Spaced`) and the first tick beyond a time, and the vocabulary
of the liveness statements: histories of ticks and frames (`WEv`, `XEv`) and what is assumed of them (`Live`,
`Fresh`, `Paced`, `BenignRun`, …).  The induction over a history is `Session.run_induct`.
-/
namespace AsyncFix.Session.Watchdog

open AsyncFix.Generated AsyncFix.Generated.ConnEnum

def ticks (envs : List Env) : List Event := envs.map Event.tick

theorem ticks_append (a b : List Env) : ticks (a ++ b) = ticks a ++ ticks b := by simp [ticks]

theorem run_ticks_cons (sr : Msg → Bool) (c : Conn) (e : Env) (r : List Env) :
    run sr c (ticks (e :: r)) =
      ((run sr (tick e c).1 (ticks r)).1, (tick e c).2 ++ (run sr (tick e c).1 (ticks r)).2) :=
  run_cons sr c (.tick e) (ticks r)

theorem run_ticks_cons_silent (sr : Msg → Bool) {c c2 : Conn} {e : Env} {r : List Env} {es : List Effect}
    (h1 : tick e c = (c, [])) (h2 : run sr c (ticks r) = (c2, es)) :
    run sr c (ticks (e :: r)) = (c2, es) := by
  rw [run_ticks_cons, h1]
  simp [h2]

theorem run_ticks_nosock (sr : Msg → Bool) (c : Conn) (envs : List Env) (hs : c.sock = false) :
    run sr c (ticks envs) = (c, []) := by
  induction envs with
  | nil => rfl
  | cons e r ih => exact run_ticks_cons_silent sr (tick_nosock e c hs) ih

/-- consecutive ticks are in time order and at most `δ` ms apart; `p` = the previous tick
(or the moment the observation starts) -/
def Spaced (δ : Int) : Int → List Env → Prop
  | _, [] => True
  | p, e :: r => p ≤ e.now ∧ e.now ≤ p + δ ∧ Spaced δ e.now r

theorem Spaced.tail {δ p : Int} {pre : List Env} {e : Env} {post : List Env}
    (h : Spaced δ p (pre ++ e :: post)) : Spaced δ e.now post := by
  induction pre generalizing p with
  | nil => exact h.2.2
  | cons x r ih => exact ih h.2.2

/-- When every tick up to time `T` leaves `c` alone and some tick of a `δ`-spaced sequence is later than `T`:
the ticks before the first such one do nothing, and it comes at most `δ` after `T` (or after the start
`p`, if that is later than `T` already). -/
theorem first_tick_after (sr : Msg → Bool) (δ T : Int) (c : Conn) (hq : ∀ e : Env, e.now ≤ T → tick e c = (c, []))
    (p : Int) (envs : List Env) (hsp : Spaced δ p envs) (hex : ∃ e ∈ envs, T < e.now) :
    ∃ pre e post, envs = pre ++ e :: post ∧ run sr c (ticks pre) = (c, []) ∧ (∀ x ∈ pre, x.now ≤ T) ∧
      T < e.now ∧ (e.now ≤ p + δ ∨ e.now ≤ T + δ) := by
  induction envs generalizing p with
  | nil => obtain ⟨e, he, _⟩ := hex; cases he
  | cons e r ih =>
    obtain ⟨h1, h2, h3⟩ := hsp
    by_cases hlate : T < e.now
    · exact ⟨[], e, r, rfl, rfl, (by intro x hx; cases hx), hlate, Or.inl h2⟩
    · have hex' : ∃ e' ∈ r, T < e'.now := by
        obtain ⟨e', he', hb⟩ := hex
        rcases List.mem_cons.mp he' with rfl | hm
        · exact absurd hb hlate
        · exact ⟨e', hm, hb⟩
      obtain ⟨pre, e1, post, hsplit, hrun, hpre, hb1, hb2⟩ := ih e.now h3 hex'
      refine ⟨e :: pre, e1, post, by rw [hsplit]; rfl, run_ticks_cons_silent sr (hq e (by omega)) hrun, ?_, hb1,
        Or.inr (by omega)⟩
      intro x hx
      rcases List.mem_cons.mp hx with rfl | hm
      · omega
      · exact hpre x hm

/-- phase 1 of dead-peer detection: the first tick beyond the idle threshold -/
theorem first_idle_tick (sr : Msg → Bool) (h δ : Int) (c : Conn) (hu : Up h c) (hh : 1 ≤ h)
    (p : Int) (envs : List Env) (hsp : Spaced δ p envs)
    (hp : p - c.lastTime ≤ (h - 1) * 1000)
    (hex : ∃ e ∈ envs, (h - 1) * 1000 < e.now - c.lastTime) :
    ∃ pre e post, envs = pre ++ e :: post ∧ run sr c (ticks pre) = (c, []) ∧
      (∀ x ∈ pre, x.now - c.lastTime ≤ (h - 1) * 1000) ∧
      (h - 1) * 1000 < e.now - c.lastTime ∧ e.now ≤ c.lastTime + (h - 1) * 1000 + δ := by
  obtain ⟨pre, e, post, hsplit, hrun, hpre, hb1, hb2⟩ :=
    first_tick_after sr δ (c.lastTime + (h - 1) * 1000) c
      (fun e he => tick_quiet e c hu.sock hu.active (by rw [hu.hb]; exact hh) (by rw [hu.hb]; omega))
      p envs hsp (by obtain ⟨e, he, hb⟩ := hex; exact ⟨e, he, by omega⟩)
  exact ⟨pre, e, post, hsplit, hrun, fun x hx => by have := hpre x hx; omega, by omega, by omega⟩

/-- phase 2: a TestRequest is outstanding and nothing arrives.  Silent ticks do not touch `lastTime` while an id is
outstanding (fix e3d9663), so the connection is dropped by the first tick more than `2·h·1000`
ms after `lastTime` (= the later of the last inbound frame and the moment the TestRequest went out). -/
theorem expiry_tick (sr : Msg → Bool) (h δ id : Int) (h0 : id ≠ 0) (c : Conn)
    (ha : Armed h id c) (hL : c.lastTime ≠ 0) (p : Int) (envs : List Env) (hsp : Spaced δ p envs)
    (hex : ∃ e ∈ envs, c.lastTime + h * 2 * 1000 < e.now) :
    ∃ pre e post, envs = pre ++ e :: post ∧ run sr c (ticks pre) = (c, []) ∧
      tick e c = (dropped c, dropEff) ∧
      c.lastTime + h * 2 * 1000 < e.now ∧ (e.now ≤ p + δ ∨ e.now ≤ c.lastTime + h * 2 * 1000 + δ) := by
  have ht := fun e => tick_outstanding e c id ha.sock ha.active ha.tid h0
  have hb := ha.hb
  obtain ⟨pre, e, post, hsplit, hrun, _, hb1, hb2⟩ :=
    first_tick_after sr δ (c.lastTime + h * 2 * 1000) c
      (fun e he => by rw [ht e, if_neg (fun hc => by have := hc.1; omega)]) p envs hsp hex
  exact ⟨pre, e, post, hsplit, hrun, by rw [ht e, if_pos ⟨by omega, Or.inl hL⟩], hb1, hb2⟩

inductive WEv
  | tick (env : Env)
  | recv (env : Env) (m : Msg)

def WEv.toEvent : WEv → Event
  | .tick env => .tick env
  | .recv env m => .recv env m

def WEv.now : WEv → Int
  | .tick env => env.now
  | .recv env _ => env.now

def hist (evs : List WEv) : List Event := evs.map WEv.toEvent

/-- the frame is a Heartbeat whose TestReqID reads as `id` (non-numeric reads as 0) -/
def isEcho (id : Int) (m : Msg) : Bool :=
  m.mtype == mHeartbeat &&
    match m.get? tTestReqID with
    | some v => (pyInt v).getD 0 == id
    | none => false

theorem isEcho_cases {id : Int} {m : Msg} (h : isEcho id m = true) :
    m.mtype = mHeartbeat ∧ ∃ v, m.get? tTestReqID = some v ∧ (pyInt v).getD 0 = id := by
  unfold isEcho at h
  cases hv : m.get? tTestReqID with
  | none => simp [hv] at h
  | some v => simp [hv] at h; exact ⟨h.1, v, rfl, h.2⟩

/-- "the TestRequest with this id is answered in time": no tick later than the deadline `dl` happens
before a Heartbeat echoing `id` is received (or before the history ends) -/
def Answered (id dl : Int) : List WEv → Prop
  | [] => True
  | .tick env :: rest => env.now ≤ dl ∧ Answered id dl rest
  | .recv _ m :: rest => isEcho id m = true ∨ Answered id dl rest

theorem Answered.mono {id dl dl' : Int} (hd : dl ≤ dl') : ∀ {evs : List WEv}, Answered id dl evs → Answered id dl' evs
  | [], _ => trivial
  | .tick _ :: _, h => ⟨Int.le_trans h.1 hd, Answered.mono hd h.2⟩
  | .recv _ _ :: _, h => h.elim Or.inl fun h' => Or.inr (Answered.mono hd h')

/-- the peer is live in the "answers every TestRequest" sense, relative to the run of the model:
events are in time order (`p` = time of the previous event), every inbound frame is benign, the clock is
past 1970-01-01 00:00:01 (ids are non-zero), and whenever a step records a new TestReqID at time `t`, the
TestRequest really went out (a frame was written) and that id is `Answered` by deadline `D t` in the rest. -/
def Live (sr : Msg → Bool) (D : Int → Int) : Int → Conn → List WEv → Prop
  | _, _, [] => True
  | p, c, ev :: rest =>
    p ≤ ev.now ∧
    (match ev with
      | .recv _ m => Benign c m
      | .tick env => 1000 ≤ env.now) ∧
    (c.testReqId = none → ∀ id, (step sr c ev.toEvent).1.testReqId = some id →
      writes (step sr c ev.toEvent).2 ≠ [] ∧ Answered id (D ev.now) rest) ∧
    Live sr D ev.now (step sr c ev.toEvent).1 rest

/-- every tick finds the latest inbound frame (or the start, `last`) at most `(h − 1)·1000` ms old -/
def Fresh (h : Int) : Int → List WEv → Prop
  | _, [] => True
  | last, .tick env :: rest => env.now - last ≤ (h - 1) * 1000 ∧ Fresh h last rest
  | _, .recv env _ :: rest => Fresh h env.now rest

/-- every inbound frame of the history is benign where it arrives -/
def BenignRun (sr : Msg → Bool) : Conn → List WEv → Prop
  | _, [] => True
  | c, ev :: rest =>
    (match ev with
      | .recv _ m => Benign c m
      | .tick _ => True) ∧
    BenignRun sr (step sr c ev.toEvent).1 rest

/-- traffic at least every `g` ms, in time order: every tick happens at most `g` ms after the latest
inbound frame before it (`last`; initially the connection's `lastTime`), nothing runs backwards -/
def Paced (g : Int) : Int → List WEv → Prop
  | _, [] => True
  | last, .tick env :: rest => last ≤ env.now ∧ env.now - last ≤ g ∧ Paced g last rest
  | last, .recv env _ :: rest => last ≤ env.now ∧ Paced g env.now rest

/-- events of a wide watchdog history: `stray` = an inbound frame numbered too high -/
inductive XEv
  | tick (env : Env)
  | recv (env : Env) (m : Msg)
  | stray (env : Env) (m : Msg)

def XEv.toEvent : XEv → Event
  | .tick env => .tick env
  | .recv env m => .recv env m
  | .stray env m => .recv env m

def xhist (evs : List XEv) : List Event := evs.map XEv.toEvent

/-- every tick happens at most `g` ms after the latest ACCEPTED frame before it (`last`), accepted frames and
ticks in time order; frames numbered too high do not count and may come at any time -/
def PacedX (g : Int) : Int → List XEv → Prop
  | _, [] => True
  | last, .tick env :: rest => last ≤ env.now ∧ env.now - last ≤ g ∧ PacedX g last rest
  | last, .recv env _ :: rest => last ≤ env.now ∧ PacedX g env.now rest
  | last, .stray _ _ :: rest => PacedX g last rest

/-- accepted frames are benign, the others are routine frames numbered too high – judged where they arrive -/
def TolerableRun (sr : Msg → Bool) : Conn → List XEv → Prop
  | _, [] => True
  | c, ev :: rest =>
    (match ev with
      | .recv _ m => Benign c m
      | .stray _ m => GapFrame c m
      | .tick _ => True) ∧
    TolerableRun sr (step sr c ev.toEvent).1 rest

end AsyncFix.Session.Watchdog
