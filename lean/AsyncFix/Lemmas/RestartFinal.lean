import AsyncFix.Lemmas.RestartSend

/-!
Restart family: `_finalize_message` – the live inbound counter moves (`set_next_num_in`), then the frame
is journaled under its own MsgSeqNum.  For an ordinary frame both agree afterwards; for a SequenceReset
the stored counter is the frame's MsgSeqNum, the live one its NewSeqNo (`lagBy`).
-/

namespace AsyncFix.Restart

open AsyncFix.Session AsyncFix.Generated AsyncFix.Generated.ConnEnum

variable {g : List Effect → Bool}

theorem setNextNumIn_ok {m : Msg} {c c1 : Conn} {n : Int} {e1 : List Effect}
    (h : setNextNumIn m c = ⟨.ok n, c1, e1⟩) :
    e1 = [] ∧
    ((m.mtype = mSequenceReset ∧
        ((n = 0 ∧ c1 = c) ∨
         (∃ nw, newSeqOf m = some nw ∧ n = nw - 1 ∧
            c1 = { c with sess := { c.sess with nextIn := nw - 1 + 1 } })))
     ∨ (m.mtype ≠ mSequenceReset ∧
        ((n ≤ 0 ∧ c1 = c) ∨
         (seqOf m = some n ∧ n = c.sess.nextIn ∧ c1 = { c with sess := { c.sess with nextIn := n + 1 } })))) := by
  unfold setNextNumIn at h
  simp only [M.get_bind_apply, M.ite_apply] at h
  split at h
  · rename_i h4
    have h4' : m.mtype = mSequenceReset := by simpa using h4
    split at h
    · cases h; exact ⟨rfl, Or.inl ⟨h4', Or.inl ⟨rfl, rfl⟩⟩⟩
    · cases hw : m.get tNewSeqNo with
      | error ex => rw [hw, M.liftE_error_bind_apply] at h; cases h
      | ok w =>
        rw [hw, M.liftE_ok_bind_apply] at h
        cases hn : pyInt w with
        | none => rw [M.int_none_bind_apply hn] at h; cases h
        | some nw =>
          rw [M.int_some_bind_apply hn, M.modify_bind_apply] at h
          cases h
          refine ⟨rfl, Or.inl ⟨h4', Or.inr ⟨nw, ?_, rfl, rfl⟩⟩⟩
          exact newSeqOf_of_get hw hn
  · rename_i h4
    have h4' : m.mtype ≠ mSequenceReset := by simpa using h4
    split at h
    · cases h; exact ⟨rfl, Or.inr ⟨h4', Or.inl ⟨Int.le_refl _, rfl⟩⟩⟩
    · cases hv : m.get tMsgSeqNum with
      | error ex => rw [hv, M.liftE_error_bind_apply] at h; cases h
      | ok v =>
        rw [hv, M.liftE_ok_bind_apply] at h
        cases hn : pyInt v with
        | none => rw [M.int_none_bind_apply hn] at h; cases h
        | some k =>
          rw [M.int_some_bind_apply hn] at h
          simp only [M.ite_apply] at h
          split at h
          · cases h; exact ⟨rfl, Or.inr ⟨h4', Or.inl ⟨by omega, rfl⟩⟩⟩
          · rename_i hk
            rw [M.modify_bind_apply] at h
            cases h
            have hk' : n = c.sess.nextIn := by simpa using hk
            refine ⟨rfl, Or.inr ⟨h4', Or.inr ⟨?_, hk', rfl⟩⟩⟩
            exact seqOf_of_get hv hn

/-- `persist_msg(INBOUND)`: the key is the frame's own number; a refusal changes nothing -/
theorem persistInbound_apply (m : Msg) (c : Conn) :
    persistInbound m c = match seqOf m with
      | none => ⟨.error .fixMessage, c, []⟩
      | some seq => match c.journal.persist .inbound seq m with
        | none => ⟨.error .duplicateSeqNo, c, []⟩
        | some j => ⟨.ok (), { c with journal := j }, []⟩ := by
  unfold persistInbound seqOf
  cases hv : m.get? tMsgSeqNum with
  | none => simp only [Option.bind_none, M.throw_bind_apply]
  | some v =>
    cases hn : pyInt v with
    | none => simp only [Option.bind_some, hn, M.throw_bind_apply]
    | some seq =>
      simp only [Option.bind_some, hn, pure_bind, M.get_bind_apply]
      cases c.journal.persist .inbound seq m <;> rfl

theorem persistInbound_ok {m : Msg} {c c' : Conn} {e : List Effect}
    (h : persistInbound m c = ⟨.ok (), c', e⟩) :
    e = [] ∧ ∃ seq j, seqOf m = some seq ∧ c.journal.persist .inbound seq m = some j ∧
      c' = { c with journal := j } := by
  rw [persistInbound_apply] at h
  split at h
  · cases h
  · rename_i seq hs
    split at h
    · cases h
    · rename_i j hj; cases h; exact ⟨rfl, seq, j, hs, hj, rfl⟩

theorem persistInbound_err {m : Msg} {c c' : Conn} {e : List Effect} {ex : Exc}
    (h : persistInbound m c = ⟨.error ex, c', e⟩) : c' = c := by
  rw [persistInbound_apply] at h
  split at h
  · cases h; rfl
  · split at h <;> cases h; rfl

/-- `_finalize_message` between `set_next_num_in` and `persist_msg` -/
def finalizeMid (env : Env) (n : Int) : M Unit := do
  let c ← M.get
  if c.state == st_RESENDREQ_AWAITING then do
    M.assert (decide (c.maxResend > 0))
    if n ≥ c.maxResend then do
      M.modify fun c => { c with maxResend := 0 }
      stateSet st_ACTIVE
    else pure ()
  else pure ()
  let c' ← M.get
  if c'.state > st_DISCONNECTED_BROKEN_CONN then M.modify fun c => { c with lastTime := env.now }
  else pure ()

attribute [local irreducible] stateSet M.bind' M.pure' M.throw M.tryCatch M.get M.modify M.emit M.liftE M.assert M.int in
theorem finalizeMid_quietly (env : Env) (n : Int) : M.Rel Quietly (finalizeMid env n) := by
  unfold finalizeMid
  rel_tac [stateSet_quietly, Quietly.modify]
  all_goals exact ⟨rfl, rfl, rfl⟩

theorem finalizeMessage_eq (env : Env) (m : Msg) :
    finalizeMessage env m = (do
      let n ← setNextNumIn m
      if n ≤ 0 then pure ()
      else do
        finalizeMid env n
        persistInbound m) := by
  simp only [finalizeMessage, finalizeMid, bind_assoc, M.ite_bind, pure_bind]

/-- counted (`nextIn := x`), marked and journaled (`journal := j`): what is left to show is the inbound side -/
theorem Good.of_counted {m : Msg} {c c2 : Conn} {e : List Effect} {j : Journal} {x : Int}
    (hfr : Frame { c with sess := { c.sess with nextIn := x } } c2 e) (hjo : j.outSeq = c2.journal.outSeq)
    (hx : 0 < x) (hin : InExact { c2 with journal := j } ∨ lagBy m { c2 with journal := j } = true) :
    Good (some m) c { c2 with journal := j } e := by
  have hs2 : c2.sess = { c.sess with nextIn := x } := hfr.sess
  refine ⟨fun ho => ?_, ?_, hfr.nw.below _,
    hin.elim (fun h => Or.inr (Or.inl h)) (fun h => Or.inr (Or.inr ⟨m, rfl, h⟩)), ?_, fun _ => ?_⟩
  · show j.outSeq + 1 = c2.sess.nextOut
    rw [hjo, hfr.journal, hs2]; exact ho
  · show c.sess.nextOut ≤ c2.sess.nextOut; rw [hs2]; exact Int.le_refl _
  · show c2.sess.sender = c.sess.sender ∧ c2.sess.target = c.sess.target ∧ c2.hb = c.hb
    rw [hs2]; exact ⟨rfl, rfl, hfr.hb⟩
  · show 0 < c2.sess.nextIn; rw [hs2]; exact hx

theorem finalize_good (env : Env) (m : Msg) :
    OkSpec g (finalizeMessage env m)
      (fun c _ c' e => ResetCaughtUp m c → 0 < c.sess.nextIn → Good (some m) c c' e) := by
  constructor
  intro c a c' e h _ hp2 hpos
  rw [finalizeMessage_eq] at h
  rcases hs : setNextNumIn m c with ⟨r, c1, e1⟩
  cases r with
  | error ex => rw [M.bind_err hs] at h; cases h
  | ok n =>
    obtain ⟨e2, hF, he⟩ := M.bind_ok_inv hs h
    obtain ⟨he1, hcases⟩ := setNextNumIn_ok hs
    subst he1 he
    rw [M.ite_apply] at hF
    by_cases hn : n ≤ 0
    · rw [if_pos hn] at hF
      cases hF
      rcases hcases with ⟨h4, hA⟩ | ⟨_, hB⟩
      · rcases hA with ⟨_, hc1⟩ | ⟨nw, hnw, _, hc1⟩
        · subst hc1; exact Compositional.refl _
        · have hnw' : nw = c.sess.nextIn := by
            have := hp2 h4; rw [hnw] at this; exact Option.some.inj this
          subst hc1
          refine ⟨id, Int.le_refl _, NewWritesBelow.nil _, Or.inl ⟨?_, rfl, rfl⟩, ⟨rfl, rfl, rfl⟩, ?_⟩
          · show nw - 1 + 1 = c.sess.nextIn; omega
          · intro _; show 0 < nw - 1 + 1; omega
      · rcases hB with ⟨_, hc1⟩ | ⟨_, hk, _⟩
        · subst hc1; exact Compositional.refl _
        · omega
    · rw [if_neg hn] at hF
      rcases hm : finalizeMid env n c1 with ⟨r2, c2, e3⟩
      have hfr := ((finalizeMid_quietly env n).out c1).frame
      rw [hm] at hfr
      cases r2 with
      | error ex => rw [M.bind_err hm] at hF; cases hF
      | ok u =>
        obtain ⟨e4, hP, he⟩ := M.bind_ok_inv hm hF
        obtain ⟨he4, seq, j, hseq, hj, hc'⟩ := persistInbound_ok hP
        subst he4 he hc'
        obtain ⟨r, hr, rfl⟩ := persist_in_inv hj
        simp only [List.append_nil]
        rcases hcases with ⟨h4, hA⟩ | ⟨_, hB⟩
        · rcases hA with ⟨hn0, _⟩ | ⟨nw, hnw, hnn, hc1⟩
          · omega
          · subst hc1
            refine Good.of_counted hfr rfl (by omega) (Or.inr ?_)
            have hnin : c2.sess.nextIn = nw := by rw [hfr.sess]; show nw - 1 + 1 = nw; omega
            simp only [lagBy, Bool.and_eq_true, beq_iff_eq]
            refine ⟨⟨⟨h4, ?_⟩, ?_⟩, ?_⟩
            · exact Rows.find_insert hr
            · exact hseq
            · show newSeqOf m = some c2.sess.nextIn; rw [hnin]; exact hnw
        · rcases hB with ⟨hn0, _⟩ | ⟨hsq, hk, hc1⟩
          · omega
          · subst hc1
            have hsn : seq = n := by rw [hsq] at hseq; exact (Option.some.inj hseq).symm
            refine Good.of_counted hfr rfl (by omega) (Or.inl ?_)
            show seq + 1 = c2.sess.nextIn
            rw [hfr.sess, hsn]

end AsyncFix.Restart
