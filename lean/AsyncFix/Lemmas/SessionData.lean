import AsyncFix.Model.Session

/-!
Facts about the data the session handlers work on, for every family over the session model: Python
numerals (`int(str(n)) = n`, decimal strings are latin-1), the ordered tag map of a `Msg` under
`set` / `del` / `filter` (with `prepareReplay`, a chain of them, as one fold), ascending journal rows (`insert`,
`find`, `below`, `range`), and the fields of the frame `buildFrame` produces.
-/
namespace AsyncFix.Session

theorem isAsciiDigit_of_isDigit {c : Char} (h : c.isDigit = true) : isAsciiDigit c = true := by
  simp only [Char.isDigit, Bool.and_eq_true, decide_eq_true_eq] at h
  have h1 : 48 ≤ c.toNat := by
    have := h.1; simp only [UInt32.le_iff_toNat_le] at this; simpa using this
  have h2 : c.toNat ≤ 57 := by
    have := h.2; simp only [UInt32.le_iff_toNat_le] at this; simpa using this
  simp [isAsciiDigit, h1, h2]

theorem digits_all (n : Nat) : ∀ c ∈ Nat.toDigits 10 n, isAsciiDigit c = true := fun _ hc =>
  isAsciiDigit_of_isDigit (Nat.isDigit_of_mem_toDigits (by decide) (by decide) hc)

theorem pyDigits_digits (cs : List Char) (h : ∀ c ∈ cs, isAsciiDigit c = true) (acc : Nat) (prev : Bool)
    (hne : cs ≠ [] ∨ prev = true) : pyDigits acc prev cs = some (Nat.ofDigitChars 10 cs acc) := by
  induction cs generalizing acc prev with
  | nil =>
    cases hne with
    | inl h => exact absurd rfl h
    | inr h => simp [pyDigits, h]
  | cons c r ih =>
    have hc := h c (by simp)
    rw [pyDigits, if_pos hc, ih (fun d hd => h d (by simp [hd])) _ true (Or.inr rfl),
      Nat.ofDigitChars_cons]
    simp [Nat.mul_comm]

theorem isPyWs_of_digit {c : Char} (h : isAsciiDigit c = true) : isPyWs c = false := by
  simp only [isAsciiDigit, Bool.and_eq_true, decide_eq_true_eq] at h
  have hne : c ≠ ' ' := by
    intro e; subst e; revert h; decide
  simp only [isPyWs, Bool.or_eq_false_iff, decide_eq_false_iff_not, Bool.and_eq_false_iff]
  refine ⟨hne, Or.inr ?_⟩
  omega

theorem dropWhile_ws_digits (cs : List Char) (h : ∀ c ∈ cs, isAsciiDigit c = true) :
    cs.dropWhile isPyWs = cs := by
  cases cs with
  | nil => rfl
  | cons c r => simp [List.dropWhile, isPyWs_of_digit (h c (by simp))]

theorem stripWs_digits (cs : List Char) (h : ∀ c ∈ cs, isAsciiDigit c = true) : stripWs cs = cs := by
  unfold stripWs
  rw [dropWhile_ws_digits cs h, dropWhile_ws_digits cs.reverse (fun c hc => h c (by simpa using hc))]
  simp

theorem stripWs_minus_digits (cs : List Char) (h : ∀ c ∈ cs, isAsciiDigit c = true) (hne : cs ≠ []) :
    stripWs ('-' :: cs) = '-' :: cs := by
  unfold stripWs
  have h1 : ('-' :: cs).dropWhile isPyWs = '-' :: cs := by
    simp [List.dropWhile, isPyWs]
  rw [h1]
  have h2 : ('-' :: cs).reverse = cs.reverse ++ ['-'] := by simp
  rw [h2]
  obtain ⟨d, r, hr⟩ : ∃ d r, cs.reverse = d :: r := by
    cases hcs : cs.reverse with
    | nil => simp at hcs; exact absurd hcs hne
    | cons d r => exact ⟨d, r, rfl⟩
  have hd : isAsciiDigit d = true := h d (by
    have : d ∈ cs.reverse := by rw [hr]; simp
    simpa using this)
  rw [hr]
  simp only [List.cons_append, List.dropWhile, isPyWs_of_digit hd]
  rw [← List.cons_append, ← hr]
  simp

theorem pyIntChars_digits (cs : List Char) (h : ∀ c ∈ cs, isAsciiDigit c = true) (hne : cs ≠ []) :
    pyIntChars cs = some ((Nat.ofDigitChars 10 cs 0 : Nat) : Int) := by
  unfold pyIntChars
  rw [stripWs_digits cs h]
  have key := pyDigits_digits cs h 0 false (Or.inl hne)
  split
  · have hc := h '-' (by simp)
    exact absurd hc (by decide)
  · have hc := h '+' (by simp)
    exact absurd hc (by decide)
  · rw [key]; rfl

theorem pyIntChars_minus_digits (cs : List Char) (h : ∀ c ∈ cs, isAsciiDigit c = true) (hne : cs ≠ []) :
    pyIntChars ('-' :: cs) = some (- ((Nat.ofDigitChars 10 cs 0 : Nat) : Int)) := by
  unfold pyIntChars
  rw [stripWs_minus_digits cs h hne]
  simp only
  rw [pyDigits_digits cs h 0 false (Or.inl hne)]
  rfl

/-- `int(str(n)) == n` for every Python int -/
theorem pyInt_pyStr (n : Int) : pyInt (pyStr n) = some n := by
  unfold pyInt pyStr
  rw [Int.toString_eq_repr, Int.repr_eq_if]
  by_cases h0 : 0 ≤ n
  · rw [if_pos h0, Nat.toList_repr, pyIntChars_digits _ (digits_all _) Nat.toDigits_ne_nil,
      Nat.ofDigitChars_ten_toDigits]
    simp [Int.toNat_of_nonneg h0]
  · rw [if_neg h0]
    have hl : ("-" ++ (-n).toNat.repr).toList = '-' :: Nat.toDigits 10 (-n).toNat := by
      simp [String.toList_append]
    rw [hl, pyIntChars_minus_digits _ (digits_all _) Nat.toDigits_ne_nil,
      Nat.ofDigitChars_ten_toDigits]
    congr 1
    have : ((-n).toNat : Int) = -n := Int.toNat_of_nonneg (by omega)
    omega

theorem isLatin1_of_digits (s : String) (h : ∀ c ∈ s.toList, isAsciiDigit c = true ∨ c = '-') :
    isLatin1 s = true := by
  unfold isLatin1
  rw [List.all_eq_true]
  intro c hc
  rcases h c hc with h | h
  · simp only [isAsciiDigit, Bool.and_eq_true, decide_eq_true_eq] at h
    simp only [decide_eq_true_eq]; omega
  · subst h; decide

theorem isLatin1_natStr (n : Nat) : isLatin1 (toString n) = true := by
  apply isLatin1_of_digits
  intro c hc
  rw [Nat.toString_eq_repr, Nat.toList_repr] at hc
  exact Or.inl (digits_all n c hc)

theorem isLatin1_pyStr (n : Int) : isLatin1 (pyStr n) = true := by
  apply isLatin1_of_digits
  intro c hc
  unfold pyStr at hc
  rw [Int.toString_eq_repr, Int.repr_eq_if] at hc
  split at hc
  · rw [Nat.toList_repr] at hc; exact Or.inl (digits_all _ c hc)
  · rw [String.toList_append] at hc
    simp only [List.mem_append, Nat.toList_repr] at hc
    rcases hc with hc | hc
    · right; simpa using hc
    · exact Or.inl (digits_all _ c hc)

theorem isLatin1_append (a b : String) : isLatin1 (a ++ b) = (isLatin1 a && isLatin1 b) := by
  simp [isLatin1, String.toList_append, List.all_append]

theorem isLatin1_pad3 (n : Nat) : isLatin1 (pad3 n) = true := by
  unfold pad3
  simp only
  split
  · rw [isLatin1_append, isLatin1_natStr]; decide
  · split
    · rw [isLatin1_append, isLatin1_natStr]; decide
    · exact isLatin1_natStr n

namespace Msg

theorem lookup_append (t : Nat) (a b : List (Nat × String)) :
    lookup t (a ++ b) = match lookup t a with | some v => some v | none => lookup t b := by
  induction a with
  | nil => rfl
  | cons p r ih =>
    obtain ⟨k, v⟩ := p
    simp only [List.cons_append, lookup]
    split
    · rfl
    · exact ih

theorem lookup_mem {t : Nat} {v : String} {l : List (Nat × String)} (h : lookup t l = some v) :
    (t, v) ∈ l := by
  induction l with
  | nil => simp [lookup] at h
  | cons p r ih =>
    obtain ⟨k, w⟩ := p
    simp only [lookup] at h
    split at h
    · rename_i hk; cases h; subst hk; simp
    · simp [ih h]

theorem lookup_filter (t : Nat) (q : Nat × String → Bool) (l : List (Nat × String)) (b : Bool)
    (h : ∀ v, q (t, v) = b) : lookup t (l.filter q) = if b then lookup t l else none := by
  induction l with
  | nil => cases b <;> rfl
  | cons p r ih =>
    obtain ⟨k, w⟩ := p
    by_cases hk : k = t
    · subst hk; cases b <;> simp [List.filter, h w, lookup, ih]
    · cases hq : q (k, w) <;> simp [List.filter, hq, lookup, hk, ih]

theorem lookup_replaceVal (t t' : Nat) (v : String) (l : List (Nat × String)) :
    lookup t (replaceVal t' v l) =
      if t = t' then (lookup t l).map (fun _ => v) else lookup t l := by
  induction l with
  | nil => simp [replaceVal, lookup]
  | cons p r ih =>
    obtain ⟨k, w⟩ := p
    by_cases hk : k = t'
    · subst hk
      by_cases ht : t = k
      · subst ht; simp [replaceVal, lookup]
      · have : ¬ k = t := fun h => ht h.symm
        simp [replaceVal, lookup, ht, this]
    · by_cases ht : t = t'
      · subst ht
        simp only [replaceVal, hk, if_false, lookup, if_true] at ih ⊢
        exact ih
      · by_cases hkt : k = t
        · simp [replaceVal, lookup, ht, hkt]
        · simp only [replaceVal, hk, if_false, lookup, hkt, ht] at ih ⊢
          exact ih

theorem mem_replaceVal {t : Nat} {v : String} {l : List (Nat × String)} {p : Nat × String}
    (h : p ∈ replaceVal t v l) : p ∈ l ∨ p = (t, v) := by
  induction l with
  | nil => simp [replaceVal] at h
  | cons q r ih =>
    obtain ⟨k, w⟩ := q
    simp only [replaceVal] at h
    split at h
    · rename_i hk
      rcases List.mem_cons.mp h with h | h
      · right; rw [h, hk]
      · left; simp [h]
    · rcases List.mem_cons.mp h with h | h
      · left; simp [h]
      · rcases ih h with h | h
        · left; simp [h]
        · right; exact h

theorem filter_replaceVal (q : Nat × String → Bool) (t : Nat) (v : String) (l : List (Nat × String))
    (h : ∀ w, q (t, w) = false) : (replaceVal t v l).filter q = l.filter q := by
  induction l with
  | nil => rfl
  | cons p r ih =>
    obtain ⟨k, w⟩ := p
    by_cases hk : k = t
    · subst hk; simp [replaceVal, h]
    · simp [replaceVal, hk, List.filter_cons, ih]

theorem all_replaceVal (f : Nat × String → Bool) (t : Nat) (v : String) (l : List (Nat × String))
    (hl : l.all f = true) (hv : f (t, v) = true) : (replaceVal t v l).all f = true := by
  induction l with
  | nil => rfl
  | cons p r ih =>
    obtain ⟨k, w⟩ := p
    simp only [List.all_cons, Bool.and_eq_true] at hl
    by_cases hk : k = t
    · subst hk; simp [replaceVal, hv, hl.2]
    · simp [replaceVal, hk, hl.1, ih hl.2]

theorem filter_filter_of_imp (q q' : Nat × String → Bool) (l : List (Nat × String))
    (h : ∀ p, q p = true → q' p = true) : (l.filter q').filter q = l.filter q := by
  rw [List.filter_filter]
  congr 1
  funext p
  by_cases hq : q p = true
  · simp [hq, h p hq]
  · simp [hq]

/-- `msg.set(t, v, replace=True)` as a total function -/
def setR (m : Msg) (t : Nat) (v : String) : Msg :=
  { m with tags := if m.has t then replaceVal t v m.tags else m.tags ++ [(t, v)] }

/-- `del msg[t]` when the tag is there -/
def delR (m : Msg) (t : Nat) : Msg := { m with tags := m.tags.filter fun p => p.1 ≠ t }

theorem set_replace (m : Msg) (t : Nat) (v : String) : m.set t v true = .ok (m.setR t v) := by
  unfold set setR
  by_cases h : m.has t = true <;> simp [h]

theorem set_new (m : Msg) (t : Nat) (v : String) (h : m.has t = false) :
    m.set t v = .ok (m.setR t v) := by
  unfold set setR
  simp [h]

theorem del_of_has (m : Msg) (t : Nat) (h : m.has t = true) : m.del t = .ok (m.delR t) := by
  unfold del delR
  simp [h]

theorem get?_setR (m : Msg) (t t' : Nat) (v : String) :
    (m.setR t v).get? t' = if t' = t then some v else m.get? t' := by
  unfold setR get?
  by_cases hh : m.has t = true
  · simp only [hh, if_true, lookup_replaceVal]
    by_cases ht : t' = t
    · subst ht
      simp only [has, get?, Option.isSome_iff_exists] at hh
      obtain ⟨w, hw⟩ := hh
      simp [hw]
    · simp [ht]
  · simp only [hh]
    simp only [has, get?, Bool.not_eq_true, Option.isSome_eq_false_iff, Option.isNone_iff_eq_none] at hh
    rw [if_neg (by simp), lookup_append]
    by_cases ht : t' = t
    · subst ht; simp [hh, lookup]
    · have : ¬ t = t' := fun h => ht h.symm
      simp only [ht, if_false, lookup, this]
      cases lookup t' m.tags <;> rfl

theorem get?_delR (m : Msg) (t t' : Nat) :
    (m.delR t).get? t' = if t' = t then none else m.get? t' := by
  unfold delR get?
  by_cases ht : t' = t
  · subst ht
    simp only [if_true]
    exact lookup_filter _ _ _ false (by intro v; simp)
  · simp only [ht, if_false]
    exact lookup_filter _ _ _ true (by intro v; simpa using ht)

theorem has_eq (m : Msg) (t : Nat) : m.has t = (m.get? t).isSome := rfl

@[simp] theorem mtype_setR (m : Msg) (t : Nat) (v : String) : (m.setR t v).mtype = m.mtype := rfl
@[simp] theorem mtype_delR (m : Msg) (t : Nat) : (m.delR t).mtype = m.mtype := rfl

theorem filter_setR (q : Nat × String → Bool) (m : Msg) (t : Nat) (v : String)
    (h : ∀ w, q (t, w) = false) : (m.setR t v).tags.filter q = m.tags.filter q := by
  unfold setR
  by_cases hh : m.has t = true
  · simp only [hh, if_true]; exact filter_replaceVal q t v _ h
  · simp [hh, List.filter_append, h]

theorem filter_delR (q : Nat × String → Bool) (m : Msg) (t : Nat)
    (h : ∀ w, q (t, w) = false) : (m.delR t).tags.filter q = m.tags.filter q := by
  unfold delR
  apply filter_filter_of_imp
  intro p hp
  obtain ⟨k, w⟩ := p
  have : k ≠ t := by rintro rfl; rw [h w] at hp; exact absurd hp (by simp)
  simpa using this

theorem all_setR (f : Nat × String → Bool) (m : Msg) (t : Nat) (v : String)
    (hl : m.tags.all f = true) (hv : f (t, v) = true) : (m.setR t v).tags.all f = true := by
  unfold setR
  by_cases hh : m.has t = true
  · simp only [hh, if_true]; exact all_replaceVal f t v _ hl hv
  · simp [hh, List.all_append, hl, hv]

theorem all_delR (f : Nat × String → Bool) (m : Msg) (t : Nat)
    (hl : m.tags.all f = true) : (m.delR t).tags.all f = true := by
  unfold delR
  rw [List.all_eq_true] at hl ⊢
  intro p hp
  exact hl p (List.mem_filter.mp hp).1

theorem all_of_lookup (f : Nat × String → Bool) (l : List (Nat × String)) (t : Nat) (v : String)
    (hl : l.all f = true) (h : lookup t l = some v) : f (t, v) = true := by
  induction l with
  | nil => simp [lookup] at h
  | cons p r ih =>
    obtain ⟨k, w⟩ := p
    simp only [List.all_cons, Bool.and_eq_true] at hl
    by_cases hk : k = t
    · subst hk
      simp only [lookup, if_true, Option.some.injEq] at h
      subst h; exact hl.1
    · simp only [lookup, hk, if_false] at h
      exact ih hl.2 h

theorem mem_setR {m : Msg} {t : Nat} {v : String} {p : Nat × String} (h : p ∈ (m.setR t v).tags) :
    p ∈ m.tags ∨ p = (t, v) := by
  unfold setR at h
  split at h
  · exact mem_replaceVal h
  · simpa using h

theorem mem_delR {m : Msg} {t : Nat} {p : Nat × String} (h : p ∈ (m.delR t).tags) : p ∈ m.tags :=
  (List.mem_filter.mp h).1

theorem setR_of_set {m m' : Msg} {t : Nat} {v : String} {r : Bool} (h : m.set t v r = .ok m') :
    m' = m.setR t v := by
  unfold set at h
  unfold setR
  split at h
  · rename_i hh
    split at h
    · cases h; rw [if_pos hh]
    · cases h
  · rename_i hh
    cases h; rw [if_neg hh]

theorem delR_of_del {m m' : Msg} {t : Nat} (h : m.del t = .ok m') : m' = m.delR t := by
  unfold del at h
  split at h
  · cases h; rfl
  · cases h

end Msg

theorem Except.ok_bind {ε α β : Type} (a : α) (f : α → Except ε β) : (Except.ok a >>= f) = f a := rfl

theorem Msg.delAll_eq : ∀ (ts : List Nat) (m : Msg), ts.Nodup → (∀ t ∈ ts, (m.get? t).isSome = true) →
    ts.foldlM Msg.del m = .ok (ts.foldl Msg.delR m)
  | [], _, _, _ => rfl
  | t :: ts, m, hnd, h => by
    obtain ⟨hnt, hnd'⟩ := List.nodup_cons.mp hnd
    rw [List.foldlM_cons, Msg.del_of_has m t (h t (by simp)), Except.ok_bind, List.foldl_cons]
    exact Msg.delAll_eq ts (m.delR t) hnd' (fun t' ht' => by
      rw [Msg.get?_delR, if_neg (by rintro rfl; exact hnt ht')]; exact h t' (by simp [ht']))

theorem Msg.get?_delAll (ts : List Nat) (m : Msg) (t' : Nat) :
    (ts.foldl Msg.delR m).get? t' = if t' ∈ ts then none else m.get? t' := by
  induction ts generalizing m with
  | nil => simp
  | cons t ts ih =>
    rw [List.foldl_cons, ih, Msg.get?_delR]
    by_cases h1 : t' = t <;> simp [h1]

theorem Msg.mtype_delAll (ts : List Nat) (m : Msg) : (ts.foldl Msg.delR m).mtype = m.mtype := by
  induction ts generalizing m with
  | nil => rfl
  | cons t ts ih => rw [List.foldl_cons, ih]; rfl

theorem Msg.mem_delAll {ts : List Nat} {m : Msg} {p : Nat × String} :
    p ∈ (ts.foldl Msg.delR m).tags → p ∈ m.tags := by
  induction ts generalizing m with
  | nil => exact id
  | cons t ts ih => exact fun hp => Msg.mem_delR (ih hp)

theorem isSome_get?_setR (m : Msg) (t' : Nat) (v : String) {t : Nat} (h : (m.get? t).isSome = true) :
    ((m.setR t' v).get? t).isSome = true := by
  rw [Msg.get?_setR]; split
  · rfl
  · exact h

theorem filter_delAll (q : Nat × String → Bool) (ts : List Nat) (m : Msg)
    (h : ∀ t ∈ ts, ∀ w, q (t, w) = false) : (ts.foldl Msg.delR m).tags.filter q = m.tags.filter q := by
  induction ts generalizing m with
  | nil => rfl
  | cons t ts ih =>
    rw [List.foldl_cons, ih _ fun t' ht' => h t' (List.mem_cons_of_mem _ ht'),
      Msg.filter_delR q m t (h t List.mem_cons_self)]

/-- the header / trailer fields `prepareReplay` deletes, in its order -/
def headerTags : List Nat :=
  [tMsgType, tBeginString, tBodyLength, tSendingTime, tSenderCompID, tTargetCompID, tCheckSum]

/-- `prepareReplay` with its seven `del` statements as one fold -/
theorem prepareReplay_eq (r : Msg) : prepareReplay r =
    r.set tPossDupFlag "Y" true >>= fun r =>
      (if r.has tOrigSendingTime then pure r
        else r.get tSendingTime >>= fun st => r.set tOrigSendingTime st) >>= fun r =>
      headerTags.foldlM Msg.del r := by
  unfold prepareReplay headerTags
  simp only [List.foldlM_cons, List.foldlM_nil, bind_pure]
  congr 1; funext r1
  split <;> simp only [pure_bind, bind_assoc]

theorem Except.bind_ok_iff {ε α β : Type} (x : Except ε α) (f : α → Except ε β) (b : β) :
    (x >>= f) = .ok b ↔ ∃ a, x = .ok a ∧ f a = .ok b := by
  cases x with
  | error e => simp [bind, Except.bind]
  | ok a => simp [bind, Except.bind]

theorem Msg.mtype_of_delAll : ∀ (ts : List Nat) {m m' : Msg}, ts.foldlM Msg.del m = .ok m' → m'.mtype = m.mtype
  | [], _, _, h => by cases h; rfl
  | t :: ts, m, m', h => by
    rw [List.foldlM_cons, Except.bind_ok_iff] at h
    obtain ⟨m1, h1, h2⟩ := h
    rw [Msg.mtype_of_delAll ts h2, Msg.delR_of_del h1]; rfl

/-- every step of `prepareReplay` that succeeds is a `setR` or a `delR`, and those leave the type alone -/
theorem prepareReplay_mtype {g rp : Msg} (h : prepareReplay g = .ok rp) : rp.mtype = g.mtype := by
  rw [prepareReplay_eq] at h
  simp only [Except.bind_ok_iff] at h
  obtain ⟨r1, h1, r2, h2, h3⟩ := h
  rw [Msg.mtype_of_delAll _ h3, ← show r1.mtype = g.mtype by rw [Msg.setR_of_set h1]; rfl]
  split at h2
  · cases h2; rfl
  · rw [Except.bind_ok_iff] at h2
    obtain ⟨st, _, hs⟩ := h2
    rw [Msg.setR_of_set hs]; rfl

namespace Rows

def AllLt (k : Int) (rs : Rows) : Prop := ∀ p ∈ rs, p.1 < k

def Sorted (rs : Rows) : Prop := rs.Pairwise fun a b => a.1 < b.1

theorem allLt_mono {a b : Int} (h : a ≤ b) {rs : Rows} (hl : AllLt a rs) : AllLt b rs :=
  fun p hp => by have := hl p hp; omega

theorem allLt_append_singleton {k n : Int} {m : Msg} {rs : Rows} (h : AllLt n rs) (hk : k < n) :
    AllLt n (rs ++ [(k, m)]) := by
  intro p hp
  rcases List.mem_append.mp hp with h1 | h1
  · exact h p h1
  · rw [List.mem_singleton.mp h1]; exact hk

theorem allLt_push {k : Int} {m : Msg} {rs : Rows} (h : AllLt k rs) : AllLt (k + 1) (rs ++ [(k, m)]) :=
  allLt_append_singleton (allLt_mono (by omega) h) (by omega)

theorem insert_mid (k : Int) (m : Msg) (l1 l2 : Rows) (h1 : AllLt k l1) (h2 : ∀ p ∈ l2, k < p.1) :
    insert k m (l1 ++ l2) = some (l1 ++ [(k, m)] ++ l2) := by
  induction l1 with
  | nil =>
    cases l2 with
    | nil => rfl
    | cons q r =>
      have : k < q.1 := h2 q (by simp)
      simp [insert, this]
  | cons p r ih =>
    have hk : p.1 < k := h1 p (by simp)
    have hr : AllLt k r := fun q hq => h1 q (by simp [hq])
    have a1 : ¬ k < p.1 := by omega
    have a2 : ¬ k = p.1 := by omega
    simp [insert, a1, a2, ih hr]

theorem insert_append (k : Int) (m : Msg) (rs : Rows) (h : AllLt k rs) :
    insert k m rs = some (rs ++ [(k, m)]) := by
  simpa using insert_mid k m rs [] h (fun _ hp => nomatch hp)

theorem find_insert {k : Int} {m : Msg} {rs r : Rows} (h : insert k m rs = some r) : find k r = some m := by
  induction rs generalizing r with
  | nil => simp only [insert] at h; cases h; simp [find]
  | cons x xs ih =>
    obtain ⟨k', m'⟩ := x
    simp only [insert] at h
    split at h
    · cases h; simp [find]
    · split at h
      · cases h
      · rename_i hne
        simp only [Option.map_eq_some_iff] at h
        obtain ⟨r', hr', hr⟩ := h
        subst hr
        simp [find, hne, ih hr']

theorem sorted_append {l1 l2 : Rows} (h1 : Sorted l1) (h2 : Sorted l2)
    (h : ∀ p ∈ l1, ∀ q ∈ l2, p.1 < q.1) : Sorted (l1 ++ l2) := by
  unfold Sorted
  rw [List.pairwise_append]
  exact ⟨h1, h2, h⟩

theorem sorted_append_lt {l1 l2 : Rows} (h : Sorted (l1 ++ l2)) :
    ∀ p ∈ l1, ∀ q ∈ l2, p.1 < q.1 :=
  (List.pairwise_append.mp h).2.2

theorem sorted_append_last (rs : Rows) (k : Int) (m : Msg) (hs : Sorted rs) (h : AllLt k rs) :
    Sorted (rs ++ [(k, m)]) :=
  sorted_append hs (List.pairwise_singleton _ _) fun a ha b hb => by
    rw [List.mem_singleton.mp hb]; exact h a ha

theorem find_mem {k : Int} {g : Msg} {rs : Rows} (h : find k rs = some g) : (k, g) ∈ rs := by
  induction rs with
  | nil => simp [find] at h
  | cons p r ih =>
    obtain ⟨k', m'⟩ := p
    simp only [find] at h
    split at h
    · rename_i hk; cases h; subst hk; simp
    · simp [ih h]

theorem find_of_mem {k : Int} {g : Msg} {rs : Rows} (hs : Sorted rs) (h : (k, g) ∈ rs) :
    find k rs = some g := by
  induction rs with
  | nil => simp at h
  | cons p r ih =>
    obtain ⟨k', m'⟩ := p
    have hs' := List.pairwise_cons.mp hs
    simp only [find]
    rcases List.mem_cons.mp h with h | h
    · cases h; simp
    · have : k' < k := hs'.1 (k, g) h
      rw [if_neg (by omega)]
      exact ih hs'.2 h

theorem find_eq_some_iff {rs : Rows} (hs : Sorted rs) (k : Int) (m : Msg) :
    find k rs = some m ↔ (k, m) ∈ rs :=
  ⟨find_mem, find_of_mem hs⟩

theorem find_none_of_allLt {k k' : Int} {rs : Rows} (h : AllLt k rs) (hk : k ≤ k') :
    find k' rs = none := by
  cases hf : find k' rs with
  | none => rfl
  | some g => have := h _ (find_mem hf); simp at this; omega

theorem find_append (k : Int) (a b : Rows) :
    find k (a ++ b) = match find k a with | some g => some g | none => find k b := by
  induction a with
  | nil => rfl
  | cons p r ih =>
    obtain ⟨k', m'⟩ := p
    simp only [List.cons_append, find]
    split
    · rfl
    · exact ih

theorem find_append_last (k k' : Int) (m : Msg) (rs : Rows) (h : AllLt k rs) :
    find k' (rs ++ [(k, m)]) = if k' = k then some m else find k' rs := by
  rw [find_append]
  by_cases e : k' = k
  · subst e
    rw [find_none_of_allLt h (Int.le_refl _)]
    simp [find]
  · cases hf : find k' rs with
    | some g => simp [e]
    | none => simp [find, e]

theorem mem_below {rs : Rows} {n : Int} {p : Int × Msg} : p ∈ below n rs ↔ p ∈ rs ∧ p.1 < n := by
  simp [below, List.mem_filter]

theorem allLt_below (n : Int) (rs : Rows) : AllLt n (below n rs) := fun _ hp => (mem_below.mp hp).2

theorem sorted_below {rs : Rows} (hs : Sorted rs) (n : Int) : Sorted (below n rs) :=
  List.Pairwise.filter _ hs

theorem below_of_allLt (n : Int) (rs : Rows) (h : AllLt n rs) : below n rs = rs := by
  unfold below
  rw [List.filter_eq_self]
  intro p hp
  simpa using h p hp

theorem below_append_singleton (n k : Int) (m : Msg) (rs : Rows) :
    below n (rs ++ [(k, m)]) = if k < n then below n rs ++ [(k, m)] else below n rs := by
  unfold below
  rw [List.filter_append]
  by_cases h : k < n <;> simp [List.filter, h]

theorem find_below (n k : Int) (rs : Rows) (hs : Sorted rs) :
    find k (below n rs) = if k < n then find k rs else none := by
  by_cases hk : k < n
  · rw [if_pos hk]
    apply Option.ext
    intro g
    rw [find_eq_some_iff (sorted_below hs n), find_eq_some_iff hs, mem_below]
    exact ⟨fun h => h.1, fun h => ⟨h, hk⟩⟩
  · rw [if_neg hk]
    exact find_none_of_allLt (allLt_below n rs) (by omega)

theorem mem_range {rs : Rows} {b e : Int} {p : Int × Msg} :
    p ∈ range b e rs ↔ p ∈ rs ∧ b ≤ p.1 ∧ p.1 ≤ e := by
  simp [range, List.mem_filter]

theorem sorted_range {rs : Rows} (hs : Sorted rs) (b e : Int) : Sorted (range b e rs) :=
  List.Pairwise.filter _ hs

theorem split_at (e : Int) {l : Rows} (hs : Sorted l) :
    l = l.filter (fun p => p.1 ≤ e) ++ l.filter (fun p => e < p.1) := by
  induction l with
  | nil => rfl
  | cons p r ih =>
    have hs' := List.pairwise_cons.mp hs
    by_cases hp : p.1 ≤ e
    · have hn : ¬ e < p.1 := by omega
      rw [List.filter_cons_of_pos (by simpa using hp), List.filter_cons_of_neg (by simpa using hn),
        List.cons_append, ← ih hs'.2]
    · have hgt : e < p.1 := by omega
      have hall : r.filter (fun q => decide (q.1 ≤ e)) = [] := by
        rw [List.filter_eq_nil_iff]
        intro q hq
        have := hs'.1 q hq
        simp only [decide_eq_true_eq]; omega
      have hall2 : r.filter (fun q => decide (e < q.1)) = r := by
        rw [List.filter_eq_self]
        intro q hq
        have := hs'.1 q hq
        simp only [decide_eq_true_eq]; omega
      rw [List.filter_cons_of_neg (by simpa using hp), List.filter_cons_of_pos (by simpa using hgt),
        hall, hall2, List.nil_append]

/-- rows below the requested range are what they were -/
theorem find_below_append {J rest : Rows} {b n : Int} (hJ : Sorted J)
    (hs : Sorted (J.below b ++ rest)) (hrest : ∀ p ∈ rest, b ≤ p.1) (hn : n < b) :
    (J.below b ++ rest).find n = J.find n := by
  apply Option.ext
  intro x
  rw [find_eq_some_iff hs, find_eq_some_iff hJ, List.mem_append, mem_below]
  constructor
  · rintro (h | h)
    · exact h.1
    · have := hrest _ h; simp at this; omega
  · intro h; exact Or.inl ⟨h, hn⟩

end Rows

theorem persist_out_of_insert (j : Journal) (k : Int) (f : Msg) (r : Rows)
    (h : Rows.insert k f j.out = some r) :
    j.persist .outbound k f = some { j with out := r, outSeq := k } := by
  simp [Journal.persist, h]

theorem persist_in_of_insert (j : Journal) (k : Int) (f : Msg) (r : Rows)
    (h : Rows.insert k f j.inb = some r) :
    j.persist .inbound k f = some { j with inb := r, inSeq := k } := by
  simp [Journal.persist, h]

theorem persist_out_inv {j j' : Journal} {k : Int} {f : Msg} (h : j.persist .outbound k f = some j') :
    ∃ r, Rows.insert k f j.out = some r ∧ j' = { j with out := r, outSeq := k } := by
  simp only [Journal.persist, Option.map_eq_some_iff] at h
  obtain ⟨r, hr, hj⟩ := h
  exact ⟨r, hr, hj.symm⟩

theorem persist_in_inv {j j' : Journal} {k : Int} {f : Msg} (h : j.persist .inbound k f = some j') :
    ∃ r, Rows.insert k f j.inb = some r ∧ j' = { j with inb := r, inSeq := k } := by
  simp only [Journal.persist, Option.map_eq_some_iff] at h
  obtain ⟨r, hr, hj⟩ := h
  exact ⟨r, hr, hj.symm⟩

open AsyncFix.Generated

/-- the message's own tags that `Codec.encode` copies after the header -/
def ownTags (m : Msg) : List (Nat × String) :=
  m.tags.filter fun p =>
    p.1 ≠ tMsgSeqNum && p.1 ≠ tSendingTime && p.1 ≠ tSenderCompID && p.1 ≠ tTargetCompID

theorem buildFrame_tags (s : Session) (stamp : String) (m : Msg) (seq : Int) :
    ∃ bl ck, (buildFrame s stamp m seq).tags =
      (tBeginString, Proto.beginString) :: (tBodyLength, toString (bl : Nat)) :: (tMsgType, m.mtype) ::
      (tSenderCompID, s.sender) :: (tTargetCompID, s.target) :: (tMsgSeqNum, pyStr seq) ::
      (tSendingTime, stamp) :: (ownTags m ++ [(tCheckSum, pad3 ck)]) := by
  exact ⟨_, _, rfl⟩

theorem buildFrame_mtype (s : Session) (stamp : String) (m : Msg) (seq : Int) :
    (buildFrame s stamp m seq).mtype = m.mtype := rfl

theorem buildFrame_sess (s s' : Session) (stamp : String) (m : Msg) (seq : Int)
    (h1 : s.sender = s'.sender) (h2 : s.target = s'.target) :
    buildFrame s stamp m seq = buildFrame s' stamp m seq := by
  simp only [buildFrame, bodyFields, h1, h2]

/-! The fields the encoder writes stand first, in the order 8, 9, 35, 49, 56, 34, 52: `lookup` finds them by
comparing tag numbers only. -/

theorem buildFrame_get_begin (s : Session) (stamp : String) (m : Msg) (seq : Int) :
    (buildFrame s stamp m seq).get? tBeginString = some Proto.beginString := rfl

theorem buildFrame_has_bodyLength (s : Session) (stamp : String) (m : Msg) (seq : Int) :
    (buildFrame s stamp m seq).has tBodyLength = true := rfl

theorem buildFrame_get_mtype (s : Session) (stamp : String) (m : Msg) (seq : Int) :
    (buildFrame s stamp m seq).get? tMsgType = some m.mtype := rfl

theorem buildFrame_get_sender (s : Session) (stamp : String) (m : Msg) (seq : Int) :
    (buildFrame s stamp m seq).get? tSenderCompID = some s.sender := rfl

theorem buildFrame_get_target (s : Session) (stamp : String) (m : Msg) (seq : Int) :
    (buildFrame s stamp m seq).get? tTargetCompID = some s.target := rfl

theorem buildFrame_get_seq (s : Session) (stamp : String) (m : Msg) (seq : Int) :
    (buildFrame s stamp m seq).get? tMsgSeqNum = some (pyStr seq) := rfl

theorem buildFrame_get_stamp (s : Session) (stamp : String) (m : Msg) (seq : Int) :
    (buildFrame s stamp m seq).get? tSendingTime = some stamp := rfl

theorem ownTags_lookup (m : Msg) (t : Nat) (h1 : t ≠ tMsgSeqNum) (h2 : t ≠ tSendingTime)
    (h3 : t ≠ tSenderCompID) (h4 : t ≠ tTargetCompID) :
    Msg.lookup t (ownTags m) = Msg.lookup t m.tags := by
  exact Msg.lookup_filter _ _ _ true (fun v => by simp [h1, h2, h3, h4])

theorem buildFrame_get?_other (s : Session) (stamp : String) (m : Msg) (seq : Int) {t : Nat}
    (ht : t ≠ tBeginString ∧ t ≠ tBodyLength ∧ t ≠ tMsgType ∧ t ≠ tSenderCompID ∧ t ≠ tTargetCompID ∧
      t ≠ tMsgSeqNum ∧ t ≠ tSendingTime ∧ t ≠ tCheckSum) :
    (buildFrame s stamp m seq).get? t = m.get? t := by
  obtain ⟨bl, ck, e⟩ := buildFrame_tags s stamp m seq
  obtain ⟨a1, a2, a3, a4, a5, a6, a7, a8⟩ := ht
  simp only [Msg.get?, e, Msg.lookup, Msg.lookup_append, ownTags_lookup m t a6 a7 a4 a5, Ne.symm a1,
    Ne.symm a2, Ne.symm a3, Ne.symm a4, Ne.symm a5, Ne.symm a6, Ne.symm a7, Ne.symm a8, if_false]
  cases Msg.lookup t m.tags <;> rfl

theorem buildFrame_get_possdup (s : Session) (stamp : String) (m : Msg) (seq : Int) :
    (buildFrame s stamp m seq).get? tPossDupFlag = m.get? tPossDupFlag :=
  buildFrame_get?_other s stamp m seq (by decide)

/-- `has`, not a value: the message may carry a tag 10 of its own, which stands before the encoder's -/
theorem buildFrame_has_checkSum (s : Session) (stamp : String) (m : Msg) (seq : Int) :
    (buildFrame s stamp m seq).has tCheckSum = true := by
  obtain ⟨bl, ck, e⟩ := buildFrame_tags s stamp m seq
  simp only [Msg.has, Msg.get?, e, Msg.lookup]
  simp only [tBeginString, tBodyLength, tMsgType, tSenderCompID, tTargetCompID, tMsgSeqNum, tSendingTime,
    tCheckSum, Nat.reduceEqDiff, if_false, Msg.lookup_append]
  cases Msg.lookup 10 (ownTags m) <;> simp [Msg.lookup]

theorem isLatin1_beginString : isLatin1 Proto.beginString = true := by decide

/-- `encoded.encode("latin-1")` succeeds exactly when the CompIDs, the clock text, the type and the copied
fields are single-byte text: what the encoder adds itself (numbers, BeginString) always is -/
theorem frameLatin1_buildFrame_eq (s : Session) (stamp : String) (m : Msg) (seq : Int) :
    frameLatin1 (buildFrame s stamp m seq) =
      (isLatin1 m.mtype && (isLatin1 s.sender && (isLatin1 s.target && (isLatin1 stamp &&
        (ownTags m).all fun p => isLatin1 p.2)))) := by
  obtain ⟨bl, ck, h⟩ := buildFrame_tags s stamp m seq
  unfold frameLatin1
  rw [h]
  simp only [List.all_cons, List.all_append, List.all_nil, Bool.and_true, isLatin1_beginString,
    isLatin1_natStr, isLatin1_pyStr, isLatin1_pad3, Bool.true_and]

theorem frameLatin1_buildFrame (s : Session) (stamp : String) (m : Msg) (seq : Int)
    (h1 : isLatin1 s.sender = true) (h2 : isLatin1 s.target = true) (h3 : isLatin1 stamp = true)
    (h4 : isLatin1 m.mtype = true) (h5 : m.tags.all (fun p => isLatin1 p.2) = true) :
    frameLatin1 (buildFrame s stamp m seq) = true := by
  rw [frameLatin1_buildFrame_eq, h1, h2, h3, h4]
  simp only [Bool.true_and, List.all_eq_true] at h5 ⊢
  exact fun p hp => h5 p (List.mem_filter.mp hp).1

end AsyncFix.Session
