/-
List lemmas about the byte-string primitives of the codec model
(`isPrefix`, `findSub`, `findChar`, `splitOn`, `join`, `splitEq`, `sum`).
`findSub` is characterised through decompositions `s = a ++ (pat ++ b)`: it returns the length of the shortest `a`.
-/
import AsyncFix.Model.Codec.Bytes
namespace AsyncFix.Model.Codec

theorem isPrefix_iff {p s : Bytes} : isPrefix p s = true ↔ p <+: s := by
  induction p generalizing s with
  | nil => simp [isPrefix]
  | cons a p ih =>
    cases s with
    | nil => simp [isPrefix]
    | cons c s =>
      simp only [isPrefix, Bool.and_eq_true, beq_iff_eq, ih, List.cons_prefix_cons]

theorem isPrefix_append (p r : Bytes) : isPrefix p (p ++ r) = true := isPrefix_iff.2 (List.prefix_append p r)

theorem isPrefix_append_right (p a b : Bytes) (h : isPrefix p a = true) : isPrefix p (a ++ b) = true :=
  isPrefix_iff.2 ((isPrefix_iff.1 h).trans (List.prefix_append a b))

theorem append_split_of_le {x y a z : Bytes} (h : x ++ y = a ++ z) (hl : x.length ≤ a.length) :
    ∃ a', a = x ++ a' ∧ y = a' ++ z := by
  rcases List.append_eq_append_iff.1 h with ⟨a', ha, hy⟩ | ⟨c', hc, hz⟩
  · exact ⟨a', ha, hy⟩
  · have : c' = [] := by
      have := congrArg List.length hc
      simp only [List.length_append] at this
      exact List.length_eq_zero_iff.1 (by omega)
    subst this
    simp only [List.append_nil, List.nil_append] at hc hz
    exact ⟨[], by simp [hc], by simp [hz]⟩

theorem findSub_some {pat : Bytes} : ∀ {s : Bytes} {i : Nat}, findSub pat s = some i →
    ∃ a b, s = a ++ (pat ++ b) ∧ a.length = i := by
  intro s
  induction s with
  | nil => intro i h; simp [findSub] at h
  | cons c rest ih =>
    intro i h
    unfold findSub at h
    split at h
    · rename_i hp
      obtain ⟨r, hr⟩ := isPrefix_iff.1 hp
      cases h
      exact ⟨[], r, hr.symm, rfl⟩
    · split at h
      · rename_i j hj
        cases h
        obtain ⟨a, b, hab, hl⟩ := ih hj
        exact ⟨c :: a, b, by simp [hab], by simp [hl]⟩
      · cases h

theorem findSub_min {pat : Bytes} : ∀ {s : Bytes} {i : Nat} {a b : Bytes}, findSub pat s = some i →
    s = a ++ (pat ++ b) → i ≤ a.length := by
  intro s
  induction s with
  | nil => intro i a b h; simp [findSub] at h
  | cons c rest ih =>
    intro i a b h hs
    unfold findSub at h
    split at h
    · cases h; exact Nat.zero_le _
    · rename_i hp
      split at h
      · rename_i j hj
        cases h
        cases a with
        | nil =>
          exfalso; apply hp
          rw [hs]; exact isPrefix_append _ _
        | cons x a' =>
          simp only [List.cons_append, List.cons.injEq] at hs
          have := ih hj hs.2
          simp only [List.length_cons]; omega
      · cases h

theorem findSub_none {pat : Bytes} (hne : pat ≠ []) : ∀ {s : Bytes}, findSub pat s = none →
    ∀ a b, s ≠ a ++ (pat ++ b) := by
  intro s
  induction s with
  | nil =>
    intro _ a b h
    have := congrArg List.length h
    cases pat with
    | nil => exact hne rfl
    | cons _ _ => simp at this
  | cons c rest ih =>
    intro h a b hs
    unfold findSub at h
    split at h
    · cases h
    · rename_i hp
      split at h
      · cases h
      · rename_i hj
        cases a with
        | nil => apply hp; rw [hs]; exact isPrefix_append _ _
        | cons x a' =>
          simp only [List.cons_append, List.cons.injEq] at hs
          exact ih hj a' b hs.2

theorem findSub_le {pat s : Bytes} {i : Nat} (h : findSub pat s = some i) :
    i + pat.length ≤ s.length := by
  obtain ⟨a, b, hs, hl⟩ := findSub_some h
  subst hs; simp only [List.length_append]; omega

theorem findSub_append {pat : Bytes} : ∀ {s : Bytes} {i : Nat} (t : Bytes), findSub pat s = some i →
    findSub pat (s ++ t) = some i := by
  intro s
  induction s with
  | nil => intro i t h; simp [findSub] at h
  | cons c rest ih =>
    intro i t h
    have hle := findSub_le h
    unfold findSub at h
    rw [List.cons_append]
    unfold findSub
    split at h
    · rename_i hp
      have : isPrefix pat (c :: (rest ++ t)) = true := isPrefix_append_right pat (c :: rest) t hp
      simp only [this, if_true]; exact h
    · rename_i hp
      split at h
      · rename_i j hj
        cases h
        have : ¬ isPrefix pat (c :: (rest ++ t)) = true := by
          intro hq
          exact hp (isPrefix_iff.2 (List.prefix_of_prefix_length_le (isPrefix_iff.1 hq) (List.prefix_append (c :: rest) _) (by omega)))
        simp [this, ih t hj]
      · cases h

theorem findSub_eq_of_min {pat : Bytes} (hne : pat ≠ []) {s a b : Bytes} (hs : s = a ++ (pat ++ b))
    (hmin : ∀ a' b', s = a' ++ (pat ++ b') → a.length ≤ a'.length) : findSub pat s = some a.length := by
  cases h : findSub pat s with
  | none => exact absurd hs (findSub_none hne h a b)
  | some i =>
    have h1 := findSub_min h hs
    obtain ⟨a', b', hs', hl⟩ := findSub_some h
    have h2 := hmin a' b' hs'
    congr 1; omega

theorem findSub_eq_none {pat s : Bytes} (h : ∀ a b, s ≠ a ++ (pat ++ b)) : findSub pat s = none := by
  cases hf : findSub pat s with
  | none => rfl
  | some i =>
    obtain ⟨a, b, hs, _⟩ := findSub_some hf
    exact absurd hs (h a b)

/-- no occurrence can start inside a part that lacks the pattern's first byte -/
theorem findSub_skip {c : Nat} {pat' x s : Bytes} (hx : c ∉ x) :
    findSub (c :: pat') (x ++ s) = (findSub (c :: pat') s).map (· + x.length) := by
  induction x with
  | nil => simp
  | cons y x ih =>
    have hy : y ≠ c := fun e => hx (by simp [e])
    have hx' : c ∉ x := fun hm => hx (List.mem_cons_of_mem _ hm)
    simp only [List.cons_append, findSub, isPrefix]
    have : (c == y) = false := by simp [Ne.symm hy]
    simp only [this, Bool.false_and, Bool.false_eq_true, if_false, ih hx']
    cases findSub (c :: pat') s <;> simp; omega

theorem findChar_some {c : Nat} : ∀ {s : Bytes} {i : Nat}, findChar c s = some i →
    ∃ a b, s = a ++ c :: b ∧ a.length = i ∧ c ∉ a := by
  intro s
  induction s with
  | nil => intro i h; simp [findChar] at h
  | cons x rest ih =>
    intro i h
    unfold findChar at h
    split at h
    · rename_i hx
      cases h; subst hx
      exact ⟨[], rest, rfl, rfl, by simp⟩
    · rename_i hx
      split at h
      · rename_i j hj
        cases h
        obtain ⟨a, b, hab, hl, hn⟩ := ih hj
        refine ⟨x :: a, b, by simp [hab], by simp [hl], ?_⟩
        simp only [List.mem_cons, not_or]
        exact ⟨fun h => hx h.symm, hn⟩
      · cases h

theorem findChar_eq_none {c : Nat} {s : Bytes} : findChar c s = none ↔ c ∉ s := by
  induction s with
  | nil => simp [findChar]
  | cons x rest ih =>
    unfold findChar
    by_cases hx : x = c
    · simp [hx]
    · simp only [hx, if_false, List.mem_cons, not_or]
      rw [← ih]
      cases findChar c rest <;> simp [Ne.symm hx]

theorem findChar_of_notMem {c : Nat} : ∀ (a b : Bytes), c ∉ a → findChar c (a ++ c :: b) = some a.length := by
  intro a
  induction a with
  | nil => intro b _; simp [findChar]
  | cons x a ih =>
    intro b h
    simp only [List.mem_cons, not_or] at h
    have hx : ¬ x = c := fun e => h.1 e.symm
    simp [findChar, hx, ih b h.2]

theorem findChar_append {c : Nat} {s : Bytes} {i : Nat} (t : Bytes) (h : findChar c s = some i) :
    findChar c (s ++ t) = some i := by
  obtain ⟨a, b, hs, hl, hn⟩ := findChar_some h
  subst hs; subst hl
  rw [List.append_assoc, List.cons_append]
  exact findChar_of_notMem a (b ++ t) hn

theorem splitOn_ne_nil (sep : Nat) : ∀ s : Bytes, splitOn sep s ≠ [] := by
  intro s
  induction s with
  | nil => simp [splitOn]
  | cons c cs ih =>
    unfold splitOn
    split
    · simp
    · split
      · simp
      · simp

theorem splitOn_cons_sep (sep : Nat) (cs : Bytes) : splitOn sep (sep :: cs) = [] :: splitOn sep cs := by
  simp [splitOn]

theorem splitOn_cons_ne {sep c : Nat} (cs : Bytes) (h : c ≠ sep) :
    ∃ f fs, splitOn sep cs = f :: fs ∧ splitOn sep (c :: cs) = (c :: f) :: fs := by
  cases hs : splitOn sep cs with
  | nil => exact absurd hs (splitOn_ne_nil sep cs)
  | cons f fs =>
    refine ⟨f, fs, rfl, ?_⟩
    simp [splitOn, h, hs]

theorem splitOn_append_sep (sep : Nat) : ∀ a b : Bytes,
    splitOn sep (a ++ sep :: b) = splitOn sep a ++ splitOn sep b := by
  intro a
  induction a with
  | nil => intro b; simp [splitOn]
  | cons c a ih =>
    intro b
    by_cases hc : c = sep
    · subst hc
      rw [List.cons_append, splitOn_cons_sep, splitOn_cons_sep, ih, List.cons_append]
    · obtain ⟨f, fs, h1, h2⟩ := splitOn_cons_ne a hc
      obtain ⟨g, gs, h3, h4⟩ := splitOn_cons_ne (a ++ sep :: b) hc
      rw [List.cons_append, h4, h2]
      rw [ih b, h1, List.cons_append] at h3
      cases h3
      rfl

theorem splitOn_noSep {sep : Nat} : ∀ {s : Bytes}, sep ∉ s → splitOn sep s = [s] := by
  intro s
  induction s with
  | nil => intro _; simp [splitOn]
  | cons c cs ih =>
    intro h
    simp only [List.mem_cons, not_or] at h
    have hc : c ≠ sep := fun e => h.1 e.symm
    obtain ⟨f, fs, h1, h2⟩ := splitOn_cons_ne cs hc
    rw [ih h.2] at h1
    cases h1
    exact h2

theorem splitOn_mem_noSep {sep : Nat} : ∀ {s : Bytes} {m : Bytes}, m ∈ splitOn sep s → sep ∉ m := by
  intro s
  induction s with
  | nil => intro m h; simp [splitOn] at h; subst h; simp
  | cons c cs ih =>
    intro m h
    by_cases hc : c = sep
    · subst hc
      rw [splitOn_cons_sep] at h
      rcases List.mem_cons.1 h with h | h
      · subst h; simp
      · exact ih h
    · obtain ⟨f, fs, h1, h2⟩ := splitOn_cons_ne cs hc
      rw [h2] at h
      rcases List.mem_cons.1 h with h | h
      · subst h
        have := ih (m := f) (by rw [h1]; simp)
        simp only [List.mem_cons, not_or]
        exact ⟨fun e => hc e.symm, this⟩
      · exact ih (by rw [h1]; simp [h])

/-- all complete pieces of a prefix are the leading pieces of the whole string -/
theorem splitOn_prefix (sep : Nat) {p f : Bytes} (h : p <+: f) :
    (splitOn sep p).dropLast <+: splitOn sep f := by
  induction p generalizing f with
  | nil => simp [splitOn]
  | cons c p ih =>
    obtain ⟨t, rfl⟩ := h
    simp only [List.cons_append]
    have ih' := ih (f := p ++ t) (List.prefix_append _ _)
    rw [splitOn, splitOn]
    by_cases hc : c = sep
    · simp only [hc, if_true]
      rw [List.dropLast_cons_of_ne_nil (splitOn_ne_nil sep p)]
      exact List.cons_prefix_cons.2 ⟨rfl, ih'⟩
    · simp only [hc, if_false]
      cases hp : splitOn sep p with
      | nil => exact absurd hp (splitOn_ne_nil sep p)
      | cons a as =>
        cases hf : splitOn sep (p ++ t) with
        | nil => exact absurd hf (splitOn_ne_nil sep _)
        | cons b bs =>
          rw [hp, hf] at ih'
          cases as with
          | nil => simp
          | cons a2 as2 =>
            simp only [List.dropLast_cons_cons, List.cons_prefix_cons] at ih' ⊢
            exact ⟨by rw [ih'.1], ih'.2⟩

theorem join_cons_cons (sep : Nat) (f g : Bytes) (gs : List Bytes) :
    join sep (f :: g :: gs) = f ++ sep :: join sep (g :: gs) := by
  simp [join]

theorem join_cons_of_ne (sep : Nat) (f : Bytes) {G : List Bytes} (h : G ≠ []) :
    join sep (f :: G) = f ++ sep :: join sep G := by
  cases G with
  | nil => exact absurd rfl h
  | cons g gs => exact join_cons_cons sep f g gs

theorem join_splitOn (sep : Nat) : ∀ s : Bytes, join sep (splitOn sep s) = s := by
  intro s
  induction s with
  | nil => simp [splitOn, join]
  | cons c cs ih =>
    by_cases hc : c = sep
    · subst hc
      rw [splitOn_cons_sep, join_cons_of_ne _ _ (splitOn_ne_nil _ cs), ih]; rfl
    · obtain ⟨f, fs, h1, h2⟩ := splitOn_cons_ne cs hc
      rw [h2]
      rw [h1] at ih
      cases fs with
      | nil => simp only [join] at ih ⊢; rw [ih]
      | cons g gs =>
        rw [join_cons_cons] at ih ⊢
        rw [List.cons_append, ih]

theorem join_append (sep : Nat) : ∀ {F G : List Bytes}, F ≠ [] → G ≠ [] →
    join sep (F ++ G) = join sep F ++ sep :: join sep G := by
  intro F
  induction F with
  | nil => intro G h; exact absurd rfl h
  | cons f F ih =>
    intro G _ hG
    cases F with
    | nil =>
      show join sep (f :: G) = join sep [f] ++ sep :: join sep G
      rw [join_cons_of_ne sep f hG]; simp [join]
    | cons f' F' =>
      rw [List.cons_append, List.cons_append, join_cons_cons, join_cons_cons, ← List.cons_append,
        ih (by simp) hG]
      simp

theorem join_eq_nil {sep : Nat} {G : List Bytes} (h : join sep G = []) : G = [] ∨ G = [[]] := by
  match G with
  | [] => exact Or.inl rfl
  | [f] => simp only [join] at h; subst h; exact Or.inr rfl
  | f :: g :: gs =>
    rw [join_cons_cons] at h
    have := congrArg List.length h
    simp at this

theorem splitOn_head_cons {sep c : Nat} {cs : Bytes} (h : c ≠ sep) {m : Bytes} {G : List Bytes}
    (hs : splitOn sep (c :: cs) = m :: G) : ∃ m', m = c :: m' := by
  obtain ⟨f, fs, _, h2⟩ := splitOn_cons_ne cs h
  rw [h2] at hs
  cases hs
  exact ⟨f, rfl⟩

theorem splitEq_some {m t v : Bytes} : splitEq m = some (t, v) → m = t ++ EQS :: v := by
  induction m generalizing t v with
  | nil => intro h; simp [splitEq] at h
  | cons c rest ih =>
    intro h
    unfold splitEq at h
    split at h
    · rename_i hc
      cases h; subst hc; rfl
    · split at h
      · rename_i a b hab
        cases h
        rw [ih hab]; rfl
      · cases h

theorem sum_foldl (l : Bytes) (k : Nat) : l.foldl (· + ·) k = k + sum l := by
  unfold sum
  induction l generalizing k with
  | nil => simp
  | cons x xs ih => simp only [List.foldl_cons]; rw [ih, ih (0 + x)]; omega

theorem sum_nil : sum [] = 0 := rfl

theorem sum_cons (x : Nat) (l : Bytes) : sum (x :: l) = x + sum l := by
  unfold sum; simp only [List.foldl_cons]; rw [sum_foldl]; simp [sum]

theorem sum_append (a b : Bytes) : sum (a ++ b) = sum a + sum b := by
  induction a with
  | nil => simp [sum_nil]
  | cons x a ih => rw [List.cons_append, sum_cons, sum_cons, ih, Nat.add_assoc]

end AsyncFix.Model.Codec
