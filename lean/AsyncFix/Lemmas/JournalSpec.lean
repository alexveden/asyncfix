/-
Specification side of C13 / C08 (definitions only; part of the trusted statements):
the invariant `JInv`, the abstract store `JSpec` of the property text
("a map from (session, direction, sequence number) to message bytes plus two counters per
session"), the abstraction function `abs`, the abstract effect of every call.
-/
import AsyncFix.Model.JournalDB
namespace AsyncFix.Model.Journal

/-- what the table constraints and the rowid / AUTOINCREMENT rules maintain -/
structure JInv (j : Journal) : Prop where
  /-- UNIQUE (targetCompId, senderCompId) -/
  pairUnique : j.sessions.Pairwise fun a b => ¬(a.target = b.target ∧ a.sender = b.sender)
  /-- sessionId INTEGER PRIMARY KEY AUTOINCREMENT: ascending, below the sequence -/
  sidAsc : j.sessions.Pairwise fun a b => a.sid < b.sid
  sidLt : ∀ r ∈ j.sessions, r.sid < j.nextSid
  /-- PRIMARY KEY (seqNo, session, direction) -/
  keyUnique : j.msgs.Pairwise fun a b => ¬(a.seq = b.seq ∧ a.sid = b.sid ∧ a.dir = b.dir)
  /-- rows are held in rowid order -/
  rowidAsc : j.msgs.Pairwise fun a b => a.rowid < b.rowid

/-- the abstract journal of the property text -/
structure JSpec where
  /-- CompID pair ↦ session id -/
  ident : String → String → Option Nat
  /-- session id ↦ (last outbound number, last inbound number); next number = last + 1 -/
  counters : Nat → Option (Int × Int)
  /-- (session key, direction, sequence number) ↦ message bytes -/
  store : Int → Dir → Int → Option Bytes
  nextId : Nat

theorem JSpec.ext {a b : JSpec} (h1 : a.ident = b.ident) (h2 : a.counters = b.counters)
    (h3 : a.store = b.store) (h4 : a.nextId = b.nextId) : a = b := by
  cases a; cases b; simp_all

def abs (j : Journal) : JSpec where
  ident t s := (j.sessions.find? (·.isPair t s)).map (·.sid)
  counters id := (j.sessions.find? (·.sid == id)).map fun r => (r.outSeq, r.inSeq)
  store key dir seq := (j.msgs.find? (·.isKey seq key dir)).map (·.msg)
  nextId := j.nextSid

def setCounter (dir : Dir) (n : Int) (c : Int × Int) : Int × Int :=
  match dir with | .outbound => (n, c.2) | .inbound => (c.1, n)

/-- create_or_load on the abstract journal -/
def JSpec.createOrLoad (S : JSpec) (t s : String) : JSpec × Res :=
  match S.ident t s with
  | some id =>
    match S.counters id with
    | some (o, i) => (S, .handle ⟨id, t, s, o + 1, i + 1⟩)
    | none => (S, .raised .stopIteration)
  | none =>
    ({ S with
        ident := fun t' s' => if t' = t ∧ s' = s then some S.nextId else S.ident t' s'
        counters := fun id => if id = S.nextId then some (0, 0) else S.counters id
        nextId := S.nextId + 1 },
     .handle ⟨S.nextId, t, s, 1, 1⟩)

/-- persist_msg on the abstract journal: a number already stored ⇒ duplicate error, nothing changes;
otherwise the bytes are stored under (key, dir, n) and n becomes that direction's last number -/
def JSpec.persist (S : JSpec) (msg : Bytes) (h : Handle) (dir : Dir) : JSpec × Res :=
  match findSeqNo msg with
  | none => (S, .raised .fixMessage)
  | some n =>
    if !(fits n && fits h.key) then (S, .raised .overflow)
    else
      match S.store h.key dir n with
      | some _ => (S, .raised .duplicateSeqNo)
      | none =>
        ({ S with
            store := fun k d m => if k = h.key ∧ d = dir ∧ m = n then some msg else S.store k d m
            counters := fun id => if (id : Int) = h.key then (S.counters id).map (setCounter dir n) else S.counters id },
         .none)

/-- the threshold that applies to a direction -/
def Dir.pick (d : Dir) (o i : Int) : Int := match d with | .outbound => o | .inbound => i

/-- the effect of a *completed* set_seq_num with effective next numbers `o` (out) and `i` (in):
counters become (o-1, i-1), exactly the messages of that session numbered ≥ o (outbound) / ≥ i
(inbound) disappear -/
def JSpec.setNext (S : JSpec) (key o i : Int) : JSpec :=
  { S with
      counters := fun id => if (id : Int) = key then (S.counters id).map (fun _ => (o - 1, i - 1)) else S.counters id
      store := fun k d m =>
        if k = key ∧ d.pick o i ≤ m then none else S.store k d m }

/-- set_seq_num on the abstract journal: an assertion failure, or a number SQLite cannot hold
(OverflowError, rolled back), changes nothing; otherwise `setNext` -/
def JSpec.setSeqNum (S : JSpec) (h : Handle) (out inn : Option Int) : JSpec :=
  if out.any (· ≤ 0) || inn.any (· ≤ 0) then S
  else if !(fits (effIn h inn - 1) && fits (effOut h out - 1) && fits h.key &&
      fits (effIn h inn) && fits (effOut h out)) then S
  else S.setNext h.key (effOut h out) (effIn h inn)

/-- state effect of one call on the abstract journal -/
def JSpec.applyOp (S : JSpec) : Op → JSpec
  | .createOrLoad t s => (S.createOrLoad t s).1
  | .persist msg h dir => (S.persist msg h dir).1
  | .setSeqNum h out inn => S.setSeqNum h out inn
  | _ => S

def JSpec.applyOps (S : JSpec) (ops : List Op) : JSpec := ops.foldl JSpec.applyOp S

/-- the abstract answer to a range query: the stored messages of (key, dir) whose number lies
within the bounds, in ascending number order -/
def JSpec.IsRange (S : JSpec) (key : Int) (dir : Dir) (lo hi : BVal) (ms : List Bytes) : Prop :=
  ∃ seqs : List Int,
    seqs.Pairwise (· < ·) ∧
    (∀ n, n ∈ seqs ↔ (lo.le n = true ∧ hi.ge n = true ∧ (S.store key dir n).isSome)) ∧
    ms = seqs.filterMap (S.store key dir)

/-- no uncommitted change: what the connection sees is what the file holds -/
def Conn.Clean (c : Conn) : Prop := c.working = c.committed

end AsyncFix.Model.Journal
