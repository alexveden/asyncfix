import AsyncFix.Lemmas.LinkRecv

/-!
C07: `Session.recv` on a well-formed frame agrees with the abstract receiver `arecv`.  `arecv` is written by kind of
frame, `_process_message` by phase; the `arecv_*` lemmas bring `arecv` into the phase form (`AConn.gap`, `ARes.seq`)
in which the concrete side is proved.  Per kind of frame: too low, not admitted by the phase, or dispatched.
-/
namespace AsyncFix.Link

open AsyncFix.Session AsyncFix.Generated AsyncFix.Generated.ConnEnum
open AsyncFix.Session.Msg AsyncFix.Session.Rows

variable {s : Side} {env : Env} {c : Conn} {f : Msg} {n : Int}

theorem StepOK.of_eq {r r' : ARes} {c' : Conn} {eff : List Effect} (h : StepOK s r c' eff) (e : r' = r) :
    StepOK s r' c' eff := e ▸ h

section abstract
variable {a : AConn} {k : AKind}

/-- the first guard of `arecv`: below the expectation, not a gap fill, not a tolerated retransmission -/
theorem arecv_tooLow (hn : n < a.e) (hgf : ∀ nw, k ≠ .gapFill nw)
    (hpd : ¬ (a.st = .awaiting ∧ k.pd = true)) : arecv a ⟨n, k⟩ = a.dropLogout := by
  have hpd' : (decide (a.st = .awaiting) && k.pd) = false := by
    by_cases h : a.st = .awaiting
    · cases hk : k.pd
      · exact Bool.and_false _
      · exact absurd ⟨h, hk⟩ hpd
    · rw [decide_eq_false h]; rfl
  unfold arecv
  rw [if_pos]
  cases k <;> first | exact absurd rfl (hgf _) | simp [hn, hpd']

/-- the phase does not admit the frame, or it is a Logout -/
theorem arecv_drop (hlow : ¬ n < a.e ∨ ∃ nw, k = .gapFill nw)
    (h : (a.st = .conn ∧ k ≠ .logon) ∨ (a.st = .sent ∧ k ≠ .logon ∧ k ≠ .logout) ∨ k = .logout) :
    arecv a ⟨n, k⟩ = { c := a.drop } := by
  unfold arecv
  simp only []
  -- the too-low guard does not fire
  rw [if_neg (by
    rcases hlow with h | ⟨nw, rfl⟩
    · simp [h]
    · simp)]
  rcases h with ⟨h2, h3⟩ | ⟨h2, h3, h4⟩ | rfl
  · rw [if_pos (by simp [h2, h3])]
  · rw [if_neg (by simp [h2]), if_pos (by simp [h2, h3, h4])]
  · by_cases hc : a.st = .conn
    · rw [if_pos (by simp [hc])]
    · rw [if_neg (by simp [hc]), if_neg (by simp)]

theorem arecv_app_ge (hst : a.st = .active ∨ a.st = .awaiting) (hn : a.e ≤ n) (p : Payload) (pd : Bool) :
    arecv a ⟨n, .app p pd⟩ = (a.gap n).seq
      (let d : ARes := if n = a.e then { c := (a.gap n).c, dl := [(n, p)] } else { c := (a.gap n).c }
       if n = a.e then d.seq { c := d.c.advance (a.e + 1) } else d) := by
  by_cases he : n = a.e
  · subst he
    rw [AConn.gap_le (Int.le_refl _)]
    rcases hst with h | h <;> simp [arecv, ARes.seq, h]
  · have hgt : a.e < n := by omega
    have h1 : ¬ n < a.e := by omega
    rcases hst with h | h <;> simp [arecv, AConn.gap_ask, AConn.gap_awaiting, ARes.seq, h, he, hgt, h1]

theorem arecv_app_dup (hst : a.st = .awaiting) (hn : n < a.e) (p : Payload) :
    arecv a ⟨n, .app p true⟩ = { c := a } := by
  simp [arecv, hst, hn, AKind.pd, show ¬ n > a.e by omega, show ¬ n = a.e by omega]

theorem arecv_resend_ge (hst : a.st = .active ∨ a.st = .awaiting) (hn : a.e ≤ n) (b : Int) :
    arecv a ⟨n, .resend b⟩ = (a.gap n).seq
      (let d : ARes := { c := ((a.gap n).c.serve b).1, wr := ((a.gap n).c.serve b).2 }
       if n = a.e then d.seq { c := d.c.advance (a.e + 1) } else d) := by
  by_cases he : n = a.e
  · subst he
    rw [AConn.gap_le (Int.le_refl _)]
    rcases hst with h | h <;> simp [arecv, ARes.seq, h, AKind.pd]
  · have hgt : a.e < n := by omega
    have h1 : ¬ n < a.e := by omega
    rcases hst with h | h <;> simp [arecv, AConn.gap_ask, AConn.gap_awaiting, ARes.seq, h, he, hgt, h1, AKind.pd]

theorem arecv_gapFill_skip {nw : Int} (hst : a.st = .active ∨ a.st = .awaiting)
    (h : ¬ (n = a.e ∧ n < nw)) : arecv a ⟨n, .gapFill nw⟩ = a.gap n := by
  by_cases hgt : a.e < n
  · have hne : ¬ n = a.e := by omega
    rcases hst with hs | hs <;> simp [arecv, AConn.gap_ask, AConn.gap_awaiting, hs, hgt, hne]
  · rw [AConn.gap_le (Int.not_lt.mp hgt)]
    rcases hst with hs | hs <;> simp [arecv, hs, hgt] <;> intro e1 e2 <;> exact absurd ⟨e1, e2⟩ h

theorem arecv_gapFill_honoured {nw : Int} (hst : a.st = .active ∨ a.st = .awaiting) (hn : n = a.e) (hw : n < nw) :
    arecv a ⟨n, .gapFill nw⟩ = { c := a.advance nw } := by
  subst hn
  rcases hst with hs | hs <;> simp [arecv, hs, hw]

end abstract

theorem ne_Y_of_none (h : f.get? tPossDupFlag = none) : f.get? tPossDupFlag ≠ some "Y" := by
  rw [h]; exact fun hh => nomatch hh

section
variable (hc : ConnGood s c) (hs : c.sock = true) (hi : InFrame c f n) (hl3 : isLatin1 env.stamp = true)
include hc hs hi hl3

/-- the too-low guard on both sides -/
theorem recv_sim_tooLow {k : AKind} (hk : absFrame f = ⟨n, k⟩) (hgf : ∀ nw, k ≠ .gapFill nw)
    (h4 : f.mtype ≠ mSequenceReset) (hn : n < c.sess.nextIn)
    (hpd : ¬ (c.state = st_RESENDREQ_AWAITING ∧ f.get? tPossDupFlag = some "Y"))
    (hkpd : k.pd = true → f.get? tPossDupFlag = some "Y") :
    StepOK s (arecv (absConn c) (absFrame f)) (recv srAll env c f).1 (recv srAll env c f).2 := by
  rw [hk, arecv_tooLow hn hgf fun h => hpd ⟨(absSt_awaiting_iff _).mp h.1, hkpd h.2⟩]
  exact recv_tooLow hc hs hi hl3 h4 hn hpd

omit hs hl3 in
/-- not admitted by the phase (anything but Logon on a fresh transport, anything but Logon / Logout before the Logon
reply), or a Logout, on both sides -/
theorem recv_sim_drop {k : AKind} (hk : absFrame f = ⟨n, k⟩) (hn : c.sess.nextIn ≤ n ∨ f.mtype = mSequenceReset)
    (hgf : f.mtype = mSequenceReset → ∃ nw, k = .gapFill nw)
    (hcase : (c.state = st_NETWORK_CONN_ESTABLISHED ∧ f.mtype ≠ mLogon ∧ k ≠ .logon) ∨
      (c.state = st_LOGON_INITIAL_SENT ∧ (f.mtype ≠ mLogon ∧ f.mtype ≠ mLogout) ∧ k ≠ .logon ∧ k ≠ .logout) ∨
      (st_NETWORK_CONN_ESTABLISHED < c.state ∧ f.mtype = mLogout ∧ k = .logout)) :
    StepOK s (arecv (absConn c) (absFrame f)) (recv srAll env c f).1 (recv srAll env c f).2 := by
  rw [hk, arecv_drop (hn.imp (fun h => by show ¬ n < c.sess.nextIn; omega) hgf)
    (hcase.imp (fun h => ⟨absSt_conn h.1, h.2.2⟩) (Or.imp (fun h => ⟨absSt_sent h.1, h.2.2⟩) fun h => h.2.2))]
  exact recv_drop hc hi (hn.imp_right Or.inl)
    (hcase.imp (fun h => ⟨h.1, h.2.1⟩) (Or.imp (fun h => ⟨h.1, h.2.1⟩) fun h => ⟨h.1, h.2.1⟩))

theorem recv_sim_app (hA : f.mtype ≠ mLogon) (h2 : f.mtype ≠ mResendRequest) (h4 : f.mtype ≠ mSequenceReset)
    (h5 : f.mtype ≠ mLogout) (h0 : f.mtype ≠ mHeartbeat) (h1 : f.mtype ≠ mTestRequest) :
    StepOK s (arecv (absConn c) (absFrame f)) (recv srAll env c f).1 (recv srAll env c f).2 := by
  have hk := absFrame_eq hi.h34 (absFrame_app hA h2 h4 h5)
  by_cases hlow : n < c.sess.nextIn ∧ ¬ (c.state = st_RESENDREQ_AWAITING ∧ f.get? tPossDupFlag = some "Y")
  · exact recv_sim_tooLow hc hs hi hl3 hk nofun h4 hlow.1 hlow.2 (fun h => by simpa [AKind.pd] using h)
  have hgf : f.mtype = mSequenceReset → ∃ nw, AKind.app (payloadOf f) (f.get? tPossDupFlag == some "Y") = .gapFill nw :=
    fun h => absurd h h4
  rcases state_of_sock hc hs with hst | hst | hE
  · have hn : ¬ n < c.sess.nextIn := fun h => hlow ⟨h, fun hh => absurd (hst ▸ hh.1) (by decide)⟩
    exact recv_sim_drop hc hi hk (Or.inl (by omega)) hgf (Or.inl ⟨hst, hA, nofun⟩)
  · have hn : ¬ n < c.sess.nextIn := fun h => hlow ⟨h, fun hh => absurd (hst ▸ hh.1) (by decide)⟩
    exact recv_sim_drop hc hi hk (Or.inl (by omega)) hgf (Or.inr (Or.inl ⟨hst, ⟨hA, h5⟩, nofun, nofun⟩))
  have hst : Est c := hE.symm
  rw [hk]
  by_cases hn : c.sess.nextIn ≤ n
  · -- gap check, delivery iff it is the expected one, count
    rw [arecv_app_ge hst.abs hn]
    refine recv_plain hc hi hl3 hst hn hA h4 h5 (D := fun a =>
      if n = c.sess.nextIn then { c := a, dl := [(n, payloadOf f)] } else { c := a }) ?_
    intro c1 g1 st1 k1
    refine ⟨c1, _, processDispatch_app env srAll h2 h4 hA h1 h0, ?_, st1, rfl⟩
    by_cases he : n = c.sess.nextIn
    · rw [if_pos he, if_pos ⟨decide_eq_true (Int.le_of_eq he), he.trans k1.symm⟩]
      exact ⟨rfl, rfl, by simp [deliveriesOf, absDelivered, seqOf_of_get? hi.h34], g1, by simp [writesOf]⟩
    · rw [if_neg he, if_neg (fun h => he (h.2.trans k1))]
      exact stepOK_same g1 rfl rfl
  · obtain ⟨ha, hpd⟩ : c.state = st_RESENDREQ_AWAITING ∧ f.get? tPossDupFlag = some "Y" :=
      Classical.byContradiction fun h => hlow ⟨by omega, h⟩
    rw [show (f.get? tPossDupFlag == some "Y") = true by simp [hpd],
      arecv_app_dup (absSt_awaiting ha) (show n < (absConn c).e by show n < c.sess.nextIn; omega)]
    exact recv_app_dup hA h2 h4 h5 h0 h1 hc hi ha (by omega) hpd

theorem recv_sim_logout (h5 : f.mtype = mLogout) (hpd : f.get? tPossDupFlag = none) :
    StepOK s (arecv (absConn c) (absFrame f)) (recv srAll env c f).1 (recv srAll env c f).2 := by
  have hk := absFrame_eq hi.h34 (absFrame_logout h5)
  have hA : f.mtype ≠ mLogon := by rw [h5]; decide
  by_cases hn : n < c.sess.nextIn
  · exact recv_sim_tooLow hc hs hi hl3 hk nofun (by rw [h5]; decide) hn (fun h => ne_Y_of_none hpd h.2) nofun
  have hgf : f.mtype = mSequenceReset → ∃ nw, AKind.logout = .gapFill nw := fun h => by
    rw [h5] at h; exact absurd h (by decide)
  rcases state_of_sock hc hs with hst | hst3
  · exact recv_sim_drop hc hi hk (Or.inl (by omega)) hgf (Or.inl ⟨hst, hA, nofun⟩)
  · exact recv_sim_drop hc hi hk (Or.inl (by omega)) hgf (Or.inr (Or.inr
      ⟨by rcases hst3 with h | h | h <;> rw [h] <;> decide, h5, rfl⟩))

theorem recv_sim_gapFill {nw : Int} (hg : GapFrame f nw) :
    StepOK s (arecv (absConn c) (absFrame f)) (recv srAll env c f).1 (recv srAll env c f).2 := by
  have hk := absFrame_eq hi.h34 (absFrame_gapFill hg.h4 hg.h36)
  have hA : f.mtype ≠ mLogon := by rw [hg.h4]; decide
  have h5 : f.mtype ≠ mLogout := by rw [hg.h4]; decide
  rcases state_of_sock hc hs with hst | hst | hE
  · exact recv_sim_drop hc hi hk (Or.inr hg.h4) (fun _ => ⟨nw, rfl⟩) (Or.inl ⟨hst, hA, nofun⟩)
  · exact recv_sim_drop hc hi hk (Or.inr hg.h4) (fun _ => ⟨nw, rfl⟩) (Or.inr (Or.inl ⟨hst, ⟨hA, h5⟩, nofun, nofun⟩))
  have hst : Est c := hE.symm
  rw [hk]
  by_cases h : n = c.sess.nextIn ∧ n < nw
  · rw [arecv_gapFill_honoured hst.abs h.1 h.2]
    exact recv_gapFill_honoured hc hi hg hst h.1 h.2
  · rw [arecv_gapFill_skip hst.abs h]
    exact recv_gapFill_skip hc hi hg hl3 hst h

theorem recv_sim_logon {ev hv : String} (hf : LogonFrame f ev hv) (hpd : f.get? tPossDupFlag = none) :
    StepOK s (arecv (absConn c) (absFrame f)) (recv srAll env c f).1 (recv srAll env c f).2 := by
  have hk := absFrame_eq hi.h34 (absFrame_logon hf.hA)
  by_cases hn : n < c.sess.nextIn
  · exact recv_sim_tooLow hc hs hi hl3 hk nofun (by rw [hf.hA]; decide) hn (fun h => ne_Y_of_none hpd h.2) nofun
  rw [hk]
  rcases state_of_sock hc hs with hst | hst3
  · -- fresh transport: acceptor
    refine (recv_logon_conn hc hi hf hl3 hst (by omega)).of_eq ?_
    have hst' : absSt c.state = ASt.conn := absSt_conn hst
    by_cases hn' : n = c.sess.nextIn <;>
      simp [arecv, hst', hn, hn', replyFrame, absFrame_build, kind_logonReply, AConn.push, absConn]
  · have hne : (absConn c).st ≠ .conn := by
      rcases hst3 with h | h | h
      · rw [absSt_sent h]; decide
      · rw [absSt_awaiting h]; decide
      · rw [absSt_active h]; decide
    rcases hc.role with hr | hr
    · have hini : (absConn c).ini = true := by rw [absConn_ini, hr]; rfl
      refine (recv_logon_ini hc hi hf hl3 hst3 hr (by omega)).of_eq ?_
      by_cases hn' : n = c.sess.nextIn <;> simp [arecv, absConn_e, hne, hini, hn, hn']
    · have hini : (absConn c).ini = false := by rw [absConn_ini, hr]; rfl
      exact (recv_logon_acceptor_ignored hc hi hf hst3 hr (by omega)).of_eq
        (by simp [arecv, absConn_e, hne, hini, hn])

theorem recv_sim_resend {b : Int} (hf : ResendFrame f b) (hpd : f.get? tPossDupFlag = none) :
    StepOK s (arecv (absConn c) (absFrame f)) (recv srAll env c f).1 (recv srAll env c f).2 := by
  have hk := absFrame_eq hi.h34 (absFrame_resend hf.h2 hf.h7)
  have hA : f.mtype ≠ mLogon := by rw [hf.h2]; decide
  have h4 : f.mtype ≠ mSequenceReset := by rw [hf.h2]; decide
  have h5 : f.mtype ≠ mLogout := by rw [hf.h2]; decide
  by_cases hn : n < c.sess.nextIn
  · exact recv_sim_tooLow hc hs hi hl3 hk nofun h4 hn (fun h => ne_Y_of_none hpd h.2) nofun
  have hgf : f.mtype = mSequenceReset → ∃ nw, AKind.resend b = .gapFill nw := fun h => absurd h h4
  rcases state_of_sock hc hs with hst | hst | hE
  · exact recv_sim_drop hc hi hk (Or.inl (by omega)) hgf (Or.inl ⟨hst, hA, nofun⟩)
  · exact recv_sim_drop hc hi hk (Or.inl (by omega)) hgf (Or.inr (Or.inl ⟨hst, ⟨hA, h5⟩, nofun, nofun⟩))
  have hst : Est c := hE.symm
  -- gap check, `serve`, count iff it is the expected one
  rw [hk, arecv_resend_ge hst.abs (by show c.sess.nextIn ≤ n; omega)]
  refine recv_plain hc hi hl3 hst (by omega) hA h4 h5 (D := fun a => { c := (a.serve b).1, wr := (a.serve b).2 }) ?_
  intro c1 g1 st1 k1
  rw [processDispatch_resend env srAll hf.h2]
  exact processResend_eval g1 hf hl3 st1

end

/-- **Simulation of the receiver.**  On a well-formed connection with a transport and a well-formed frame of
the peer, `_process_message` does what the abstract receiver does. -/
theorem recv_sim {s : Side} {env : Env} {c : Conn} {f : Msg} (hc : ConnGood s c) (hs : c.sock = true)
    (hf : FrameGood s.other.name s.name f) (hl3 : isLatin1 env.stamp = true) :
    StepOK s (arecv (absConn c) (absFrame f)) (recv srAll env c f).1 (recv srAll env c f).2 := by
  obtain ⟨n, hi⟩ := inFrame_of_good hc hf
  have hk := hf.kind
  by_cases hA : f.mtype = mLogon
  · rw [kindOK_logon hA] at hk
    obtain ⟨ev, h98⟩ := get?_of_has hk.1
    obtain ⟨hv, h108⟩ := get?_of_has hk.2.1
    exact recv_sim_logon hc hs hi hl3
      ⟨hA, h98, h108, isLatin1_of_get? hf.lat h98, isLatin1_of_get? hf.lat h108⟩ hk.2.2
  by_cases h2 : f.mtype = mResendRequest
  · rw [kindOK_resend h2] at hk
    obtain ⟨b, h7⟩ := hk.1
    exact recv_sim_resend hc hs hi hl3 ⟨h2, h7, hk.2.1⟩ hk.2.2
  by_cases h4 : f.mtype = mSequenceReset
  · rw [kindOK_gapFill h4] at hk
    obtain ⟨nw, h36⟩ := hk.2.1
    exact recv_sim_gapFill hc hs hi hl3 ⟨h4, hk.1, h36⟩
  by_cases h5 : f.mtype = mLogout
  · rw [kindOK_logout h5] at hk
    exact recv_sim_logout hc hs hi hl3 h5 hk
  rw [kindOK_app hA h2 h4 h5] at hk
  exact recv_sim_app hc hs hi hl3 hA h2 h4 h5 hk.1 hk.2

end AsyncFix.Link
