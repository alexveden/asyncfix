import AsyncFix.Lemmas.LinkConst
import AsyncFix.Lemmas.SessionData
import AsyncFix.Lemmas.SessionHandlers
import AsyncFix.Lemmas.SessionResendFrame

/-!
C07: well-formedness of the executable Link model's data (`FrameGood`, `ConnGood`, `LinkGood`).

`FrameGood snd tgt f` lists exactly the facts about a frame that `_process_message`, `_process_resend` and the
abstraction `absFrame` look at; every frame an endpoint of the Link writes satisfies it.  `AllLt`, `Sorted` are
`Rows.AllLt`, `Rows.Sorted` of `SessionData` under this family's names (the `Rows` lemmas apply to them as they are);
`Msg.setTag`, `Msg.delTag` are `Msg.setR`, `Msg.delR`, which the proofs use.
-/
namespace AsyncFix.Link

open AsyncFix.Session AsyncFix.Generated AsyncFix.Generated.ConnEnum
open AsyncFix.Session.Msg AsyncFix.Session.Rows

/-- `msg.set(t, v, replace=True)` as a total function -/
def _root_.AsyncFix.Session.Msg.setTag (m : Msg) (t : Nat) (v : String) : Msg :=
  { m with tags := if m.has t then replaceVal t v m.tags else m.tags ++ [(t, v)] }

/-- `del msg[t]` when the tag is there -/
def _root_.AsyncFix.Session.Msg.delTag (m : Msg) (t : Nat) : Msg := { m with tags := m.tags.filter fun p => p.1 ≠ t }

theorem has_eq (m : Msg) (t : Nat) : m.has t = (m.get? t).isSome := rfl

@[simp] theorem mtype_setTag (m : Msg) (t : Nat) (v : String) : (m.setTag t v).mtype = m.mtype := rfl
@[simp] theorem mtype_delTag (m : Msg) (t : Nat) : (m.delTag t).mtype = m.mtype := rfl

def AllLt (k : Int) (rs : Rows) : Prop := ∀ p ∈ rs, p.1 < k

theorem below_append_singleton (n k : Int) (m : Msg) (rs : Rows) :
    Rows.below n (rs ++ [(k, m)]) = if k < n then Rows.below n rs ++ [(k, m)] else Rows.below n rs :=
  Rows.below_append_singleton n k m rs

/-- strictly ascending keys (SQLite primary key + ORDER BY) -/
def Sorted (rs : Rows) : Prop := rs.Pairwise fun p q => p.1 < q.1

theorem find_eq_some_iff {rs : Rows} (hs : Sorted rs) (k : Int) (m : Msg) :
    Rows.find k rs = some m ↔ (k, m) ∈ rs :=
  Rows.find_eq_some_iff hs k m

/-- kind-specific fields of a frame -/
def KindOK (f : Msg) : Prop :=
  if f.mtype = mLogon then
    f.has tEncryptMethod = true ∧ f.has tHeartBtInt = true ∧ f.get? tPossDupFlag = none
  else if f.mtype = mResendRequest then
    (∃ b : Int, f.get? tBeginSeqNo = some (pyStr b)) ∧ f.get? tEndSeqNo = some "0" ∧ f.get? tPossDupFlag = none
  else if f.mtype = mSequenceReset then
    f.get? tGapFillFlag = some "Y" ∧ (∃ nw : Int, f.get? tNewSeqNo = some (pyStr nw)) ∧ f.get? tPossDupFlag = none
  else if f.mtype = mLogout then f.get? tPossDupFlag = none
  else f.mtype ≠ mHeartbeat ∧ f.mtype ≠ mTestRequest

theorem kindOK_logon {f : Msg} (h : f.mtype = mLogon) : KindOK f =
    (f.has tEncryptMethod = true ∧ f.has tHeartBtInt = true ∧ f.get? tPossDupFlag = none) := if_pos h

theorem kindOK_resend {f : Msg} (h : f.mtype = mResendRequest) : KindOK f =
    ((∃ b : Int, f.get? tBeginSeqNo = some (pyStr b)) ∧ f.get? tEndSeqNo = some "0" ∧ f.get? tPossDupFlag = none) := by
  rw [KindOK, if_neg (by rw [h]; decide), if_pos h]

theorem kindOK_gapFill {f : Msg} (h : f.mtype = mSequenceReset) : KindOK f =
    (f.get? tGapFillFlag = some "Y" ∧ (∃ nw : Int, f.get? tNewSeqNo = some (pyStr nw)) ∧
      f.get? tPossDupFlag = none) := by
  rw [KindOK, if_neg (by rw [h]; decide), if_neg (by rw [h]; decide), if_pos h]

theorem kindOK_logout {f : Msg} (h : f.mtype = mLogout) : KindOK f = (f.get? tPossDupFlag = none) := by
  rw [KindOK, if_neg (by rw [h]; decide), if_neg (by rw [h]; decide), if_neg (by rw [h]; decide), if_pos h]

theorem kindOK_app {f : Msg} (hA : f.mtype ≠ mLogon) (h2 : f.mtype ≠ mResendRequest) (h4 : f.mtype ≠ mSequenceReset)
    (h5 : f.mtype ≠ mLogout) : KindOK f = (f.mtype ≠ mHeartbeat ∧ f.mtype ≠ mTestRequest) := by
  rw [KindOK, if_neg hA, if_neg h2, if_neg h4, if_neg h5]

structure FrameGood (snd tgt : String) (f : Msg) : Prop where
  bs : f.get? tBeginString = some Proto.beginString
  s49 : f.get? tSenderCompID = some snd
  s56 : f.get? tTargetCompID = some tgt
  seq : ∃ n : Int, f.get? tMsgSeqNum = some (pyStr n)
  ty : f.get? tMsgType = some f.mtype
  h9 : f.has tBodyLength = true
  h52 : f.has tSendingTime = true
  h10 : f.has tCheckSum = true
  lat : frameLatin1 f = true
  kind : KindOK f

def Side.name : Side → String
  | .I => nameI
  | .A => nameA

/-- journal rows: frames written by the endpoint itself, filed under their own number, ascending, in `[1, o)` -/
structure RowsGood (snd tgt : String) (o : Int) (rs : Rows) : Prop where
  sorted : Sorted rs
  range : ∀ r ∈ rs, 1 ≤ r.1 ∧ r.1 < o
  good : ∀ r ∈ rs, FrameGood snd tgt r.2 ∧ r.2.get? tMsgSeqNum = some (pyStr r.1)

/-- states an endpoint rests in between two events -/
def restState (s : Nat) : Prop :=
  s = st_DISCONNECTED_NOCONN_TODAY ∨ s = st_DISCONNECTED_WCONN_TODAY ∨ s = st_DISCONNECTED_BROKEN_CONN ∨
  s = st_NETWORK_CONN_ESTABLISHED ∨ s = st_LOGON_INITIAL_SENT ∨ s = st_RESENDREQ_AWAITING ∨ s = st_ACTIVE

structure ConnGood (s : Side) (c : Conn) : Prop where
  snd : c.sess.sender = s.name
  tgt : c.sess.target = s.other.name
  st : restState c.state
  sock : c.sock = decide (st_DISCONNECTED_BROKEN_CONN < c.state)
  role : c.role = roleInitiator ∨ c.role = roleAcceptor
  e1 : 1 ≤ c.sess.nextIn
  o1 : 1 ≤ c.sess.nextOut
  rows : RowsGood s.name s.other.name c.sess.nextOut c.journal.out
  w : c.state = st_RESENDREQ_AWAITING → 0 < c.maxResend
  inb : AllLt c.sess.nextIn c.journal.inb

structure LinkGood (l : Link) : Prop where
  i : ConnGood .I l.i
  a : ConnGood .A l.a
  toA : ∀ f ∈ l.toA, FrameGood nameI nameA f
  toI : ∀ f ∈ l.toI, FrameGood nameA nameI f

/-- `hdrTags` lists the tags of C06's `envelopeTags` in another order: the payload is the type and C06's `appBody` -/
theorem payloadOf_eq (f : Msg) : payloadOf f = (f.mtype, C06.appBody f) := by
  have hp : hdrTags.Perm C06.envelopeTags := by decide
  have h : ∀ t : Nat, hdrTags.contains t = C06.envelopeTags.contains t := fun t => by
    rw [List.contains_eq_mem, List.contains_eq_mem, decide_eq_decide]; exact hp.mem_iff
  unfold payloadOf C06.appBody
  simp only [h]

/-- the header / trailer tags are dropped by `payloadOf` -/
theorem payloadOf_build (s : Session) (stamp : String) (m : Msg) (n : Int) :
    payloadOf (buildFrame s stamp m n) = payloadOf m := by
  rw [payloadOf_eq, payloadOf_eq, C06.appBody_buildFrame, buildFrame_mtype]
  rfl

theorem seqOf_of_get? {f : Msg} {n : Int} (h : f.get? tMsgSeqNum = some (pyStr n)) : seqOf f = some n := by
  simp [seqOf, h, pyInt_pyStr]

theorem seqOf_build (s : Session) (stamp : String) (m : Msg) (n : Int) :
    seqOf (buildFrame s stamp m n) = some n := seqOf_of_get? (buildFrame_get_seq s stamp m n)

theorem has_of_get? {m : Msg} {t : Nat} {v : String} (h : m.get? t = some v) : m.has t = true :=
  Session.has_of_get? h

theorem get?_of_has {m : Msg} {t : Nat} (h : m.has t = true) : ∃ v, m.get? t = some v := by
  simpa [Msg.has, Option.isSome_iff_exists] using h

theorem frameGood_build {s : Session} {stamp : String} {m : Msg} {n : Int}
    (hl : frameLatin1 (buildFrame s stamp m n) = true) (hk : KindOK (buildFrame s stamp m n)) :
    FrameGood s.sender s.target (buildFrame s stamp m n) :=
  { bs := buildFrame_get_begin .., s49 := buildFrame_get_sender .., s56 := buildFrame_get_target ..,
    seq := ⟨n, buildFrame_get_seq ..⟩, ty := buildFrame_get_mtype .., h9 := buildFrame_has_bodyLength ..,
    h52 := has_of_get? (buildFrame_get_stamp ..), h10 := buildFrame_has_checkSum ..,
    lat := hl, kind := hk }

end AsyncFix.Link
