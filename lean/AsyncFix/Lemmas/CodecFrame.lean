/-
Framing layer of the codec round trip.  `mkFrame bs fs` is viewed as `bodyBytes` of one uniform
field list (`frameFlds`); on it every framing check of `decode` passes: the marker is at 0 and the CheckSum field
closes the frame at the end of the buffer, so the outcome of `decode` is the class (`FOut`, CodecDecodeOutcome) of the
fields `frameFields bs fs` (`decode_mkFrame_of`), the header guards pass with the frame's own length, and the field
loop runs with expectation `frameCk bs fs` (`decode_mkFrame`).  For fields whose tags are `okTag` both guards of
`fieldLoop` (`split("=", 1)` and `int(tag)`) pass, so the loop is the fold `fieldLoopF` of `stepField` over the
(tag, value) pairs (`fieldLoop_frameFields`); the group layer works with that.
-/
import AsyncFix.Lemmas.CodecSpec
import AsyncFix.Lemmas.CodecDec
import AsyncFix.Lemmas.CodecDecodeOutcome
namespace AsyncFix.Model.Codec

def Fld.bytes (f : Fld) : Bytes := fieldBytes f.tag f.val

/-- weak well-formedness: digit tag, SOH-free value (also true for the CheckSum field) -/
def okW (f : Fld) : Prop := f.tag.all isDigit = true ∧ SOH ∉ f.val

/-- body-field well-formedness, the per-field part of `okFields`: `okFld` (CodecFlat: a tag the decoder accepts, no SOH
in the value) and not CheckSum(10); it implies `okW` (`okF_okW`) -/
def okF (f : Fld) : Bool := okTag f.tag && f.tag != [49, 48] && !f.val.contains SOH

theorem okF_iff (f : Fld) : okF f = true ↔ okTag f.tag = true ∧ f.tag ≠ [49, 48] ∧ SOH ∉ f.val := by
  simp [okF, and_assoc]

theorem okF_okW {f : Fld} (h : okF f = true) : okW f := by
  obtain ⟨h1, _, h3⟩ := (okF_iff f).mp h
  exact ⟨((okTag_iff _).mp h1).2.1, h3⟩

theorem okW.no_SOH {f : Fld} (h : okW f) : SOH ∉ f.bytes := by
  have h1 := digits_no_SOH _ h.1
  simp only [Fld.bytes, fieldBytes, List.mem_append, List.mem_cons, not_or]
  exact ⟨h1, by simp [SOH, EQS], h.2⟩

theorem okW.splitEq {f : Fld} (h : okW f) : splitEq f.bytes = some (f.tag, f.val) :=
  splitEq_fieldBytes _ _ (digits_no_EQS _ h.1)

/-- a digit tag other than `10` does not render to something starting with `10=` -/
theorem okF_not_cksum {f : Fld} (h : okF f = true) (rest : Bytes) :
    isPrefix [49, 48, 61] (f.bytes ++ rest) = false := by
  obtain ⟨h1, h2, _⟩ := (okF_iff f).mp h
  have hd := ((okTag_iff _).mp h1).2.1
  obtain ⟨t, v⟩ := f
  simp only at h2 hd
  simp only [Fld.bytes, fieldBytes]
  match t, h2, hd with
  | [], _, _ => simp [isPrefix, EQS]
  | [a], _, _ => simp [isPrefix, EQS]
  | [a, b], h2, _ =>
    have : ¬ (49 = a ∧ 48 = b) := fun ⟨ha, hb⟩ => h2 (by rw [← ha, ← hb])
    simpa [isPrefix, EQS] using this
  | a :: b :: c :: r, _, hd =>
    simp only [List.all_cons, Bool.and_eq_true, isDigit_iff] at hd
    have : c ≠ 61 := by omega
    simp only [isPrefix, List.cons_append]
    simp [Ne.symm this]

theorem bodyBytes_cons (f : Fld) (fs : List Fld) :
    bodyBytes (f :: fs) = f.bytes ++ SOH :: bodyBytes fs := rfl

theorem bodyBytes_append (a b : List Fld) : bodyBytes (a ++ b) = bodyBytes a ++ bodyBytes b := by
  induction a with
  | nil => rfl
  | cons f fs ih => simp [bodyBytes, ih]

theorem bodyBytes_length_pos (f : Fld) (fs : List Fld) : 0 < (bodyBytes (f :: fs)).length := by
  simp [bodyBytes]; omega

theorem splitOn_bodyBytes (l : List Fld) (h : ∀ f ∈ l, okW f) :
    splitOn SOH (bodyBytes l) = l.map Fld.bytes ++ [[]] := by
  induction l with
  | nil => simp [bodyBytes, splitOn]
  | cons f fs ih =>
    rw [bodyBytes_cons, splitOn_append_sep, splitOn_noSep (h f (by simp)).no_SOH,
      ih (fun g hg => h g (by simp [hg]))]
    simp

/-- the cut: in `f0 | pre… | 10=… |` the pattern `SOH 1 0 =` first occurs at the SOH in front of
the CheckSum field -/
theorem findSub_cksum_bodyBytes (f0 : Fld) (pre : List Fld) (ck : Fld) (rest : Bytes)
    (h0 : SOH ∉ f0.bytes) (hpre : ∀ f ∈ pre, okF f = true)
    (hck : isPrefix [49, 48, 61] (ck.bytes ++ rest) = true) :
    findSub cksumPat (bodyBytes (f0 :: pre) ++ (ck.bytes ++ rest)) =
      some ((bodyBytes (f0 :: pre)).length - 1) := by
  induction pre generalizing f0 with
  | nil =>
    show findSub cksumPat ((f0.bytes ++ SOH :: []) ++ (ck.bytes ++ rest)) =
      some ((f0.bytes ++ SOH :: []).length - 1)
    rw [List.append_assoc, List.cons_append, List.nil_append, findSub_cksum_skip _ _ h0]
    simp only [findSub, cksumPat, isPrefix, SOH, beq_self_eq_true, Bool.true_and]
    rw [hck]
    simp
  | cons g gs ih =>
    have hg := hpre g (by simp)
    have ih' := ih g (okF_okW hg).no_SOH (fun f hf => hpre f (by simp [hf]))
    rw [bodyBytes_cons f0, List.append_assoc, List.cons_append, findSub_cksum_skip _ _ h0]
    have hnot : isPrefix cksumPat (SOH :: (bodyBytes (g :: gs) ++ (ck.bytes ++ rest))) = false := by
      rw [bodyBytes_cons g, List.append_assoc]
      simp only [cksumPat, isPrefix, SOH, beq_self_eq_true, Bool.true_and]
      exact okF_not_cksum hg _
    simp only [findSub, hnot, Bool.false_eq_true, if_false, ih', Option.map_some]
    have := bodyBytes_length_pos g gs
    simp only [List.length_append, List.length_cons]
    congr 1; omega

/-- BeginString, BodyLength and the body fields: everything the checksum covers -/
def preFlds (bs : Bytes) (fs : List Fld) : List Fld :=
  ⟨[56], bs⟩ :: ⟨[57], natToDec (bodyBytes fs).length⟩ :: fs

def ckFld (bs : Bytes) (fs : List Fld) : Fld := ⟨[49, 48], dec3 (frameCk bs fs)⟩

def frameFlds (bs : Bytes) (fs : List Fld) : List Fld := preFlds bs fs ++ [ckFld bs fs]

theorem framePre_eq (bs : Bytes) (fs : List Fld) : framePre bs fs = bodyBytes (preFlds bs fs) := by
  simp [framePre, headBytes, preFlds, bodyBytes]

theorem mkFrame_eq_bodyBytes (bs : Bytes) (fs : List Fld) :
    mkFrame bs fs = bodyBytes (preFlds bs fs) ++ ((ckFld bs fs).bytes ++ [SOH]) := by
  rw [mkFrame_eq, framePre_eq]; simp [ckFld, Fld.bytes]

theorem mkFrame_eq_bodyBytes' (bs : Bytes) (fs : List Fld) :
    mkFrame bs fs = bodyBytes (frameFlds bs fs) := by
  rw [mkFrame_eq_bodyBytes, frameFlds, bodyBytes_append]; simp [bodyBytes, Fld.bytes]

theorem frameFields_eq (bs : Bytes) (fs : List Fld) :
    frameFields bs fs = (frameFlds bs fs).map Fld.bytes := by
  simp [frameFields, frameFlds, preFlds, ckFld, Fld.bytes]

theorem frameCk_lt (bs : Bytes) (fs : List Fld) : frameCk bs fs < 256 :=
  Nat.mod_lt _ (by decide)

theorem okBegin_iff (bs : Bytes) :
    okBegin bs = true ↔ isPrefix marker (fieldBytes [56] bs) = true ∧ SOH ∉ bs := by
  simp [okBegin]

theorem okW_ckFld (bs : Bytes) (fs : List Fld) : okW (ckFld bs fs) :=
  ⟨by simp [ckFld, isDigit], digits_no_SOH _ (dec3_all_digit _)⟩

theorem okF_tail (fs : List Fld) (hf : okFields fs = true) :
    ∀ f ∈ (⟨[57], natToDec (bodyBytes fs).length⟩ :: fs : List Fld), okF f = true := by
  intro f hm
  rcases List.mem_cons.mp hm with rfl | hm
  · exact (okF_iff _).mpr ⟨by simp [okTag, isDigit, maxStrDigits], by simp, digits_no_SOH _ (natToDec_all_digit _)⟩
  · exact List.all_eq_true.mp hf f hm

theorem okW_preFlds (bs : Bytes) (fs : List Fld) (hb : okBegin bs = true)
    (hf : okFields fs = true) : ∀ f ∈ preFlds bs fs, okW f := by
  intro f hm
  rcases List.mem_cons.mp hm with rfl | hm
  · exact ⟨by simp [isDigit], ((okBegin_iff bs).mp hb).2⟩
  · exact okF_okW (okF_tail fs hf f hm)

theorem okW_frameFlds (bs : Bytes) (fs : List Fld) (hb : okBegin bs = true)
    (hf : okFields fs = true) : ∀ f ∈ frameFlds bs fs, okW f := by
  intro f hm
  simp only [frameFlds, List.mem_append, List.mem_singleton] at hm
  rcases hm with hm | rfl
  · exact okW_preFlds bs fs hb hf f hm
  · exact okW_ckFld bs fs

/-- A buffer that is exactly one closed frame (marker at 0, the CheckSum field ends at the end of the buffer): the
outcome classes of `decode` are those of its fields. -/
theorem Decodes.single {bs : Bytes} {tbl : Tbl} {raw : Bytes} {res : DecRes} (h1 : findSub marker raw = some 0)
    (h2 : closedAtOf raw = some raw.length)
    (h : FOut bs tbl raw.length 0 (waitResOf 0 raw) raw (fieldsOf raw) res) : Decodes bs tbl raw res := by
  refine .fields h1 (by rw [List.drop_zero, ckOpen_of_closed h2]) ?_
  simpa only [List.drop_zero, cutOf_of_closed h2, List.take_length] using h

theorem findSub_marker_mkFrame (bs : Bytes) (fs : List Fld) (hb : okBegin bs = true) :
    findSub marker (mkFrame bs fs) = some 0 := by
  have hp := ((okBegin_iff bs).mp hb).1
  rw [mkFrame_eq_bodyBytes, preFlds, bodyBytes_cons, List.append_assoc]
  have := isPrefix_append_right marker _ (SOH :: bodyBytes (⟨[57], natToDec (bodyBytes fs).length⟩ :: fs) ++
    ((ckFld bs fs).bytes ++ [SOH])) hp
  simp only [Fld.bytes, fieldBytes, List.cons_append, List.nil_append] at this ⊢
  simp only [findSub, this, if_true]

theorem ckFld_bytes_length (bs : Bytes) (fs : List Fld) : (ckFld bs fs).bytes.length = 6 := by
  simp [ckFld, Fld.bytes, fieldBytes, dec3_length _ (Nat.lt_trans (frameCk_lt bs fs) (by decide))]

theorem mkFrame_length (bs : Bytes) (fs : List Fld) :
    (mkFrame bs fs).length = (bodyBytes (preFlds bs fs)).length + 7 := by
  rw [mkFrame_eq_bodyBytes, List.length_append, List.length_append, ckFld_bytes_length]; rfl

/-- the checksum expectation the decoder computes is the frame's CheckSum value -/
theorem ckExpected_frameFields (bs : Bytes) (fs : List Fld) :
    cksumOf (frameFields bs fs) = frameCk bs fs := by
  have h : (frameFields bs fs).dropLast = (preFlds bs fs).map Fld.bytes := by
    rw [frameFields_eq, frameFlds, List.map_append, List.map_singleton, List.dropLast_concat]
  have hj : join SOH ((preFlds bs fs).map Fld.bytes) ++ [SOH] = bodyBytes (preFlds bs fs) :=
    join_map_bodyBytes _ (by simp [preFlds])
  rw [cksumOf, h, frameCk, framePre_eq, ← hj, sum_append]
  rfl

/-- the first `SOH 10=` is the CheckSum field's, and the SOH that ends that field ends the frame -/
theorem closedAtOf_mkFrame (bs : Bytes) (fs : List Fld) (hb : okBegin bs = true)
    (hf : okFields fs = true) : closedAtOf (mkFrame bs fs) = some (mkFrame bs fs).length := by
  have hpos : 0 < (bodyBytes (preFlds bs fs)).length := bodyBytes_length_pos _ _
  have hck : findSub cksumPat (mkFrame bs fs) = some ((bodyBytes (preFlds bs fs)).length - 1) := by
    rw [mkFrame_eq_bodyBytes]
    exact findSub_cksum_bodyBytes _ _ _ _ (okW_preFlds bs fs hb hf _ (by simp [preFlds])).no_SOH
      (okF_tail fs hf) (by simp [ckFld, Fld.bytes, fieldBytes, isPrefix, EQS])
  have hsoh : findChar SOH ((mkFrame bs fs).drop (bodyBytes (preFlds bs fs)).length) =
      some (ckFld bs fs).bytes.length := by
    rw [mkFrame_eq_bodyBytes, List.drop_left]
    exact findChar_of_notMem _ _ (okW_ckFld bs fs).no_SOH
  refine closedAtOf_eq_some.2 ⟨_, _, hck, by rw [Nat.sub_add_cancel hpos]; exact hsoh, ?_⟩
  rw [mkFrame_length, ckFld_bytes_length]; omega

theorem fieldsOf_mkFrame (bs : Bytes) (fs : List Fld) (hb : okBegin bs = true)
    (hf : okFields fs = true) : fieldsOf (mkFrame bs fs) = frameFields bs fs :=
  fieldsOf_of_trailing (by
    rw [mkFrame_eq_bodyBytes', splitOn_bodyBytes _ (okW_frameFlds bs fs hb hf), frameFields_eq])

/-- the BeginString / BodyLength guards pass, and the length the frame declares is its length -/
theorem hdr_mkFrame (bs : Bytes) (fs : List Fld)
    (hd : (natToDec (bodyBytes fs).length).length ≤ maxStrDigits) :
    hdr bs (fieldBytes [56] bs) (fieldBytes [57] (natToDec (bodyBytes fs).length)) =
      .ok (mkFrame bs fs).length := by
  have hn : ¬ (((bodyBytes fs).length : Nat) : Int) < 0 := by omega
  simp only [hdr, splitEq_fieldBytes [56] bs (by simp [EQS]), splitEq_fieldBytes [57] _ (by simp [EQS]),
    bne_self_eq_false, Bool.false_eq_true, if_false, tag9, pyInt_natToDec _ hd, hn, declaredLen,
    Int.toNat_natCast, mkFrame_length, preFlds, bodyBytes_cons, Fld.bytes, List.length_append, List.length_cons]
  congr 1; omega

theorem decode_mkFrame_of {bs : Bytes} {tbl : Tbl} {fs : List Fld} {res : DecRes}
    (hb : okBegin bs = true) (hf : okFields fs = true)
    (h : FOut bs tbl (mkFrame bs fs).length 0 (waitResOf 0 (mkFrame bs fs)) (mkFrame bs fs) (frameFields bs fs) res) :
    decode bs tbl (mkFrame bs fs) = res :=
  (Decodes.single (findSub_marker_mkFrame bs fs hb) (closedAtOf_mkFrame bs fs hb hf)
    (by rwa [fieldsOf_mkFrame bs fs hb hf])).eq

theorem frameFields_tail_ne (bs : Bytes) (fs : List Fld) :
    fs.map (fun f => fieldBytes f.tag f.val) ++ [fieldBytes [49, 48] (dec3 (frameCk bs fs))] ≠ [] := by simp

theorem decode_mkFrame (bs : Bytes) (tbl : Tbl) (fs : List Fld)
    (hb : okBegin bs = true) (hf : okFields fs = true)
    (hd : (natToDec (bodyBytes fs).length).length ≤ maxStrDigits) :
    decode bs tbl (mkFrame bs fs) = decodeViaLoop bs tbl fs := by
  -- the header guards and the length guard pass: three classes are left, by what the field loop returns
  have hne := frameFields_tail_ne bs fs
  have hh := hdr_mkFrame bs fs hd
  obtain ⟨r, hr⟩ := fieldLoop_no_raise tbl (frameCk bs fs) (frameFields bs fs)
  rw [decodeViaLoop, hr]
  rw [← ckExpected_frameFields] at hr
  cases r with
  | none => exact decode_mkFrame_of hb hf (.badField hne hh (Nat.le_refl _) hr)
  | some s =>
    cases hp : s.ckPassed with
    | false => simpa [hp] using decode_mkFrame_of hb hf (.ckFail hne hh (Nat.le_refl _) hr hp)
    | true => simpa [hp] using decode_mkFrame_of hb hf (.msg hne hh (Nat.le_refl _) hr hp)

/-- a field with a digit tag splits at its first `=` into the intended (tag, value)
(the value may contain `=` or anything else) -/
theorem splitEq_okTag (t v : Bytes) (h : okTag t = true) :
    splitEq (fieldBytes t v) = some (t, v) :=
  splitEq_fieldBytes t v (digits_no_EQS _ ((okTag_iff t).mp h).2.1)

theorem fieldLoop_frameFields (tbl : Tbl) (ck : Nat) (s : DState) (flds : List Fld)
    (h : ∀ f ∈ flds, okTag f.tag = true) :
    fieldLoop tbl ck s (flds.map Fld.bytes) = fieldLoopF tbl ck s flds := by
  induction flds generalizing s with
  | nil => rfl
  | cons f rest ih =>
    have hf := h f (by simp)
    have ih' := fun s' => ih s' (fun g hg => h g (by simp [hg]))
    simp only [List.map_cons, Fld.bytes, fieldLoop, splitEq_okTag _ _ hf, pyInt_okTag _ hf, fieldLoopF]
    cases stepField tbl ck s f.tag f.val with
    | error k => rfl
    | ok s' => exact ih' s'

theorem okTag_frameFlds (bs : Bytes) (fs : List Fld) (hf : okFields fs = true) :
    ∀ f ∈ frameFlds bs fs, okTag f.tag = true := by
  intro f hm
  simp only [frameFlds, preFlds, List.mem_append, List.mem_singleton] at hm
  rcases hm with hm | rfl
  · rcases List.mem_cons.mp hm with rfl | hm
    · simp [okTag, isDigit, maxStrDigits]
    · exact ((okF_iff f).mp (okF_tail fs hf f hm)).1
  · simp [ckFld, okTag, isDigit, maxStrDigits]

/-- every element of `frameFields bs fs` splits into the intended (tag, value) with a tag that
`int()` accepts -/
theorem frameFields_splitEq (bs : Bytes) (fs : List Fld) (hf : okFields fs = true) :
    ∀ m ∈ frameFields bs fs, ∃ f ∈ frameFlds bs fs,
      m = fieldBytes f.tag f.val ∧ splitEq m = some (f.tag, f.val) ∧ (pyInt f.tag).isSome = true := by
  intro m hm
  rw [frameFields_eq] at hm
  obtain ⟨f, hfm, rfl⟩ := List.mem_map.mp hm
  have ht := okTag_frameFlds bs fs hf f hfm
  exact ⟨f, hfm, rfl, splitEq_okTag _ _ ht, by rw [pyInt_okTag _ ht]; rfl⟩

/-- `fieldLoopF` never returns `none` (no guard is left), so on a valid frame `decode` either
raises (container error), or consumes exactly the frame -/
theorem fieldLoopF_ne_none (tbl : Tbl) (ck : Nat) (s : DState) (flds : List Fld) :
    fieldLoopF tbl ck s flds ≠ .ok none := by
  induction flds generalizing s with
  | nil => simp [fieldLoopF, pure, Except.pure]
  | cons f rest ih =>
    simp only [fieldLoopF, bind, Except.bind]
    cases stepField tbl ck s f.tag f.val with
    | error k => simp
    | ok s' => exact ih s'

/-- non-vacuity: `8=FIX.4.4|9=18|35=0|58=8=FIX.4.4|10=162|` – a value containing the frame-start
marker and `=` – satisfies the hypotheses of `decode_mkFrame` -/
example : okBegin [70, 73, 88, 46, 52, 46, 52] = true ∧
    okFields [⟨[51, 53], [48]⟩, ⟨[53, 56], [56, 61, 70, 73, 88, 46, 52, 46, 52]⟩] = true ∧
    (natToDec (bodyBytes [⟨[51, 53], [48]⟩, ⟨[53, 56], [56, 61, 70, 73, 88, 46, 52, 46, 52]⟩]).length).length
      ≤ maxStrDigits :=
  ⟨by decide, by decide, short_tag _ (by decide)⟩

end AsyncFix.Model.Codec
