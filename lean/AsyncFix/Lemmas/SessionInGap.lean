import AsyncFix.Lemmas.SessionInMsg

/-!
C04 helper: a number above the expectation – exactly what `_check_seqnum_gaps` does when the
ResendRequest can be sent, and what `_process_message` does around it: evaluated with the handler equations, the
only part not determined being the dispatch of a session-level message.
-/
namespace AsyncFix.Session
open AsyncFix.Generated AsyncFix.Generated.ConnEnum

/-- the ResendRequest `_check_seqnum_gaps` builds: BeginSeqNo = expected number, EndSeqNo = 0 -/
def rrMsg (c : Conn) : Msg :=
  Msg.mk' mResendRequest [(tBeginSeqNo, pyStr c.sess.nextIn), (tEndSeqNo, "0")]

/-- `rrMsg` as it goes to the wire (and into the journal) under the next outbound number -/
def rrFrame (env : Env) (c : Conn) : Msg :=
  buildFrame { c.sess with nextOut := c.sess.nextOut + 1 } env.stamp (rrMsg c) c.sess.nextOut

/-- the ResendRequest can be sent: transport present, text encodable, journal accepts the number -/
structure CanSend (env : Env) (c : Conn) (j : Journal) : Prop where
  sock : c.sock = true
  latin1 : frameLatin1 (rrFrame env c) = true
  persist : c.journal.persist .outbound c.sess.nextOut (rrFrame env c) = some j

/-- connection after a detected gap at number `n` -/
def gapConn (c : Conn) (n : Int) (j : Journal) : Conn :=
  { c with maxResend := n, state := st_RESENDREQ_AWAITING,
           sess := { c.sess with nextOut := c.sess.nextOut + 1 }, journal := j }

def gapEffects (env : Env) (c : Conn) : List Effect :=
  [.write (rrFrame env c), .onState st_RESENDREQ_AWAITING]

/-- `checkSeqnumGaps_ask` with the outcome of the send: nothing in `send_msg` can fail under `CanSend` -/
theorem checkSeqnumGaps_gap (env : Env) (n : Int) (c : Conn) (j : Journal)
    (hn : c.sess.nextIn < n) (hst : st_LOGON_INITIAL_RECV ≤ c.state)
    (hna : c.state ≠ st_RESENDREQ_AWAITING) (hs : CanSend env c j) :
    checkSeqnumGaps env n c = ⟨.ok false, gapConn c n j, gapEffects env c⟩ := by
  obtain ⟨hsock, hlat, hper⟩ := hs
  have hfr : buildFrame c.sess env.stamp (rrMsg c) c.sess.nextOut = rrFrame env c :=
    buildFrame_sess _ _ _ _ _ rfl rfl
  have h6 : st_NETWORK_CONN_ESTABLISHED < c.state ∧ c.state ≠ st_LOGON_INITIAL_SENT := by
    simp only [st_LOGON_INITIAL_RECV, st_NETWORK_CONN_ESTABLISHED, st_LOGON_INITIAL_SENT] at *; omega
  have hsend : sendMsg env (rrMsg c) { c with maxResend := n } =
      ⟨.ok (), { bump { c with maxResend := n } with journal := j }, [.write (rrFrame env c)]⟩ := by
    rw [sendMsg_pass (c := { c with maxResend := n }) env h6.1 fun h => h6.2 h.2.1,
      sendCore_fresh (m := rrMsg c) env (resendRequestMsg_plain _).1 (resendRequestMsg_plain _).2]
    dsimp only
    rw [hfr, show ((rrMsg c).mtype == mTestRequest && _) = false from rfl, if_neg nofun, if_neg (by simp [hlat]), hper]
    simp [hsock]
  rw [checkSeqnumGaps_ask hn hna hsend]
  simp [gapConn, gapEffects, setState, bump, st_RESENDREQ_AWAITING, st_ACTIVE]

/-- the head, evaluated: a GapFill numbered above the expectation is declined and only the gap check runs -/
theorem processHead_gap (env : Env) (m : Msg) (c : Conn) (n : Int) (j : Journal)
    (hst : st_LOGON_INITIAL_RECV ≤ c.state) (hna : c.state ≠ st_RESENDREQ_AWAITING)
    (hs : seqOf m = some n) (hn : c.sess.nextIn < n)
    (hA : m.mtype ≠ mLogon) (h5 : m.mtype ≠ mLogout)
    (h4 : m.mtype = mSequenceReset → isGapFill m = true) (hsend : CanSend env c j) :
    processHead env m c =
      ⟨.ok (if m.mtype = mSequenceReset then none else some (false, n)), gapConn c n j, gapEffects env c⟩ := by
  have hc : st_DISCONNECTED_BROKEN_CONN < c.state := Nat.lt_of_lt_of_le (by decide) hst
  obtain ⟨v, hv, hpv⟩ : ∃ v, m.get? tMsgSeqNum = some v ∧ pyInt v = some n := by
    unfold seqOf at hs
    cases hv : m.get? tMsgSeqNum with
    | none => simp [hv] at hs
    | some v => exact ⟨v, rfl, by simpa [hv] using hs⟩
  have gap := checkSeqnumGaps_gap env n c j hn hst hna hsend
  rw [processHead_established env m c hst]
  by_cases hm : m.mtype = mSequenceReset
  · rw [headRest_seqreset hm, M.bind_ok (processSeqreset_off hm (by simpa [isGapFill] using h4 hm) hv hpv (by omega)),
      if_pos hm]
    simp only [Bool.false_eq_true, if_false, List.nil_append]
    rw [headSkip_apply env hv hpv, M.bind_ok gap]
    simp
  · rw [headRest_plain hA hm h5, headTail_apply env hc hv hpv, M.bind_ok gap, if_neg hm]
    simp

/-- with `is_valid_msg_num = False` the dispatch delivers nothing, whatever the message -/
theorem processDispatch_invalid_quiet (env : Env) (sr : Msg → Bool) (m : Msg) (n : Int) (c : Conn) :
    Quiet.R c (processDispatch env sr m false n c).conn (processDispatch env sr m false n c).eff :=
  have h := (processDispatch_spec env sr m false n c).elim
  ⟨h.1, h.2.resolve_right fun h => nomatch h.2.1⟩

/-- `_process_message` on a frame numbered above the expectation (not a Logon / Logout / Reset-mode
SequenceReset) outside RESENDREQ_AWAITING: the ResendRequest and the state change come first, the
rest is whatever the dispatch of that message type does – never a delivery, never a change of the
expected number; for application messages and GapFills there is no rest. -/
theorem processMessage_gap (env : Env) (sr : Msg → Bool) (m : Msg) (c : Conn) (n : Int) (j : Journal)
    (hgood : (validateIntegrity m c).res = .ok .good)
    (hst : st_LOGON_INITIAL_RECV ≤ c.state) (hna : c.state ≠ st_RESENDREQ_AWAITING)
    (hs : seqOf m = some n) (hn : c.sess.nextIn < n)
    (hA : m.mtype ≠ mLogon) (h5 : m.mtype ≠ mLogout)
    (h4 : m.mtype = mSequenceReset → isGapFill m = true) (hsend : CanSend env c j) :
    Holds (processMessage env sr m) c (fun r c' e =>
      ∃ rest, e = gapEffects env c ++ rest ∧ Quiet.R (gapConn c n j) c' rest ∧
        ((isApp m = true ∨ m.mtype = mSequenceReset) → r = .ok () ∧ c' = gapConn c n j ∧ rest = [])) := by
  refine Holds.intro ?_
  have hi : validateIntegrity m c = ⟨.ok .good, c, []⟩ := by rw [validateIntegrity_apply, hgood]
  have hh := processHead_gap env m c n j hst hna hs hn hA h5 h4 hsend
  by_cases hm : m.mtype = mSequenceReset
  · rw [if_pos hm] at hh
    rw [processMessage_of_head_none sr hi (by rw [swallow_apply, hh])]
    exact ⟨[], by simp, Quiet.refl _, fun _ => ⟨rfl, rfl, rfl⟩⟩
  · rw [if_neg hm] at hh
    have hq := processDispatch_invalid_quiet env sr m n (gapConn c n j)
    rcases hd : processDispatch env sr m false n (gapConn c n j) with ⟨r2, c2, e2⟩
    rw [hd] at hq
    rw [processMessage_of_head hi (by rw [swallow_apply, hh]) (swallow_unit hd)]
    refine ⟨e2 ++ caught r2, rfl, ⟨hq.1, by simp [hq.2]⟩, fun h => ?_⟩
    -- an application message: the dispatch has no branch for it but the gated `on_message`
    obtain ⟨h2, h4', hA', h1, h0⟩ := isApp_iff.1 (h.resolve_right hm)
    rw [processDispatch_app env sr h2 h4' hA' h1 h0] at hd
    cases hd
    exact ⟨rfl, rfl, rfl⟩

end AsyncFix.Session
