/-
Decimal rendering of a natural number as code points, most significant digit first, for ANY function that satisfies
the defining equation.  `Py.natDigits`, `Codec.natToDec` and `OrderObj.dec` do, so they are one function
(`Renders.unique`) and share every fact below.  No model is imported.
-/
namespace AsyncFix.Dec

def Renders (f : Nat → List Nat) : Prop :=
  ∀ n, f n = if n < 10 then [48 + n] else f (n / 10) ++ [48 + n % 10]

/-- value of a digit string read left to right with accumulator `a` -/
def val (a : Nat) (l : List Nat) : Nat := l.foldl (fun a c => a * 10 + (c - 48)) a

theorem val_append (a : Nat) (xs ys : List Nat) : val a (xs ++ ys) = val (val a xs) ys :=
  List.foldl_append ..

variable {f g : Nat → List Nat}

theorem Renders.lt10 (hf : Renders f) {n : Nat} (h : n < 10) : f n = [48 + n] := by rw [hf n, if_pos h]

theorem Renders.ge10 (hf : Renders f) {n : Nat} (h : ¬ n < 10) : f n = f (n / 10) ++ [48 + n % 10] := by
  rw [hf n, if_neg h]

/-- the induction every fact about a rendering goes by: one digit, or a rendering followed by one digit -/
theorem Renders.induct (hf : Renders f) (P : Nat → List Nat → Prop) (one : ∀ n, n < 10 → P n [48 + n])
    (more : ∀ n, ¬ n < 10 → P (n / 10) (f (n / 10)) → P n (f (n / 10) ++ [48 + n % 10])) : ∀ n, P n (f n) := by
  intro n
  induction n using Nat.strongRecOn with
  | _ n ih =>
    by_cases h : n < 10
    · rw [hf.lt10 h]; exact one n h
    · rw [hf.ge10 h]; exact more n h (ih _ (by omega))

theorem Renders.unique (hf : Renders f) (hg : Renders g) (n : Nat) : f n = g n :=
  hf.induct (fun n l => l = g n) (fun _ h => (hg.lt10 h).symm) (fun _ h ih => by rw [ih, ← hg.ge10 h]) n

theorem Renders.ne_nil (hf : Renders f) (n : Nat) : f n ≠ [] := by
  rw [hf n]; split <;> simp

theorem Renders.digit (hf : Renders f) (n : Nat) : ∀ c ∈ f n, 48 ≤ c ∧ c ≤ 57 :=
  hf.induct (fun _ l => ∀ c ∈ l, 48 ≤ c ∧ c ≤ 57) (fun n h c hc => by simp at hc; omega)
    (fun n _ ih c hc => by
      rcases List.mem_append.1 hc with hc | hc
      · exact ih c hc
      · simp at hc; omega) n

theorem Renders.val_eq (hf : Renders f) (n : Nat) : val 0 (f n) = n :=
  hf.induct (fun n l => val 0 l = n) (fun n _ => by simp [Dec.val])
    (fun n _ ih => by rw [val_append, ih]; simp only [Dec.val, List.foldl_cons, List.foldl_nil]; omega) n

theorem Renders.inj (hf : Renders f) {a b : Nat} (h : f a = f b) : a = b := by
  rw [← hf.val_eq a, ← hf.val_eq b, h]

theorem Renders.length_le (hf : Renders f) (k n : Nat) (h : n < 10 ^ (k + 1)) : (f n).length ≤ k + 1 := by
  induction k generalizing n with
  | zero => simp [hf.lt10 (show n < 10 by simpa using h)]
  | succ k ih =>
    by_cases h10 : n < 10
    · simp [hf.lt10 h10]
    · have := ih (n / 10) (by rw [Nat.div_lt_iff_lt_mul (by omega), ← Nat.pow_succ]; exact h)
      rw [hf.ge10 h10, List.length_append, List.length_singleton]
      omega

end AsyncFix.Dec
