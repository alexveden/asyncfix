import AsyncFix.Lemmas.SessionHandlers
import AsyncFix.Lemmas.SessionData

/-!
C14: the outbound invariant `J`, the relation `Seg` that one segment (code between two awaits) guarantees, and
`Asc` ("numbered strictly increasingly within bounds") with its readings as the usual statements.
-/
namespace AsyncFix.Sched

open AsyncFix.Session AsyncFix.Generated AsyncFix.Generated.ConnEnum

/-- the frame's MsgSeqNum(34) as the peer reads it: `int(frame[34])` -/
def seqOf (f : Msg) : Option Int := (f.get? tMsgSeqNum).bind pyInt

/-- a NEW message: not a SequenceReset and no PossDupFlag(43)=Y – exactly the messages for which
`Codec.encode` allocates a number (`encodeSeq`).  Everything else is a retransmission-class frame
(replayed copy or gap fill) and keeps the number it is given. -/
def isNew (f : Msg) : Bool :=
  !(f.mtype == mSequenceReset) && !((f.get? tPossDupFlag).getD "N" == "Y")

def writes : List Effect → List Msg
  | [] => []
  | .write f :: r => f :: writes r
  | _ :: r => writes r

def newWrites (es : List Effect) : List Msg := (writes es).filter isNew

/-- sends that consumed and journaled a number but found no transport (`None.write` → AttributeError) -/
def lost : List Effect → Nat
  | [] => 0
  | .caught .attribute :: r => lost r + 1
  | .raised .attribute :: r => lost r + 1
  | _ :: r => lost r

/-- a DuplicateSeqNoError was reported: swallowed (`caught`: only sends run inside the `try` of
`_process_message`) or escaping (`raised`).  With `inb = true` an ESCAPING one is not counted: the reader
task's `_finalize_message` writes the INBOUND journal outside the `try`, and an inbound duplicate (the
C04 / C09 matter) is reported the same way. -/
def dupErr (inb : Bool) : List Effect → Bool
  | [] => false
  | .caught .duplicateSeqNo :: _ => true
  | .raised .duplicateSeqNo :: r => !inb || dupErr inb r
  | _ :: r => dupErr inb r

theorem writes_append (a b : List Effect) : writes (a ++ b) = writes a ++ writes b := by
  induction a with
  | nil => rfl
  | cons e r ih => cases e <;> simp [writes, ih]

theorem newWrites_append (a b : List Effect) : newWrites (a ++ b) = newWrites a ++ newWrites b := by
  simp [newWrites, writes_append]

theorem lost_append (a b : List Effect) : lost (a ++ b) = lost a + lost b := by
  induction a with
  | nil => simp [lost]
  | cons x r ih =>
    by_cases h1 : x = .caught .attribute
    · subst h1; simp only [List.cons_append, lost, ih]; omega
    · by_cases h2 : x = .raised .attribute
      · subst h2; simp only [List.cons_append, lost, ih]; omega
      · rw [List.cons_append, lost, lost, ih]
        all_goals assumption

/-- no report of a duplicate: none swallowed, and none escaping unless escaping ones are not counted -/
theorem dupErr_eq_false_iff (i : Bool) (e : List Effect) :
    dupErr i e = false ↔ .caught .duplicateSeqNo ∉ e ∧ (i = false → .raised .duplicateSeqNo ∉ e) := by
  induction e with
  | nil => simp [dupErr]
  | cons x r ih =>
    by_cases h1 : x = .caught .duplicateSeqNo
    · subst h1; simp [dupErr]
    · by_cases h2 : x = .raised .duplicateSeqNo
      · subst h2; cases i <;> simp [dupErr, ih]
      · rw [dupErr]
        · simp [ih, Ne.symm h1, Ne.symm h2]
        · exact h1
        · exact h2

theorem dupErr_append_false {i : Bool} {a b : List Effect} :
    dupErr i (a ++ b) = false ↔ dupErr i a = false ∧ dupErr i b = false := by
  simp only [dupErr_eq_false_iff, List.mem_append, not_or]
  exact ⟨fun ⟨⟨h1, h2⟩, h3⟩ => ⟨⟨h1, fun hi => (h3 hi).1⟩, h2, fun hi => (h3 hi).2⟩,
    fun ⟨⟨h1, h3⟩, h2, h4⟩ => ⟨⟨h1, h2⟩, fun hi => ⟨h3 hi, h4 hi⟩⟩⟩

/-- frames numbered strictly increasingly, all within `[lo, hi)` -/
def Asc : Int → List Msg → Int → Prop
  | lo, [], hi => lo ≤ hi
  | lo, f :: r, hi => ∃ n, seqOf f = some n ∧ lo ≤ n ∧ Asc (n + 1) r hi

theorem Asc.len_le {lo hi : Int} {l : List Msg} (h : Asc lo l hi) : lo + l.length ≤ hi := by
  induction l generalizing lo with
  | nil => simpa [Asc] using h
  | cons f r ih =>
    obtain ⟨n, _, h2, h3⟩ := h
    have := ih h3
    simp only [List.length_cons, Int.natCast_add, Int.cast_ofNat_Int]
    omega

theorem Asc.mono_left {a b c : Int} {l : List Msg} (hab : a ≤ b) (h : Asc b l c) : Asc a l c := by
  cases l with
  | nil => exact Int.le_trans hab h
  | cons f r =>
    obtain ⟨n, e1, e2, e3⟩ := h
    exact ⟨n, e1, Int.le_trans hab e2, e3⟩

theorem Asc.append {a b c : Int} {l1 l2 : List Msg} (h1 : Asc a l1 b) (h2 : Asc b l2 c) :
    Asc a (l1 ++ l2) c := by
  induction l1 generalizing a with
  | nil => exact h2.mono_left h1
  | cons f r ih =>
    obtain ⟨n, e1, e2, e3⟩ := h1
    exact ⟨n, e1, e2, ih e3⟩

/-- the numbers of the frames, in order; every one readable -/
theorem Asc.numbers {lo hi : Int} {l : List Msg} (h : Asc lo l hi) :
    ∃ ns : List Int, l.map seqOf = ns.map some ∧ ns.Pairwise (· < ·) ∧ ∀ n ∈ ns, lo ≤ n ∧ n < hi := by
  induction l generalizing lo with
  | nil => exact ⟨[], rfl, List.Pairwise.nil, by simp⟩
  | cons f r ih =>
    obtain ⟨n, h1, h2, h3⟩ := h
    obtain ⟨ns, e1, e2, e3⟩ := ih h3
    refine ⟨n :: ns, by simp [h1, e1], ?_, ?_⟩
    · refine List.Pairwise.cons ?_ e2
      intro m hm
      have := (e3 m hm).1
      omega
    · intro m hm
      rcases List.mem_cons.mp hm with rfl | hm
      · have := h3.len_le
        constructor <;> omega
      · have := e3 m hm
        constructor <;> omega

/-- numbered `lo, lo+1, lo+2, …` -/
def numbered : Int → List Msg → Prop
  | _, [] => True
  | lo, f :: r => seqOf f = some lo ∧ numbered (lo + 1) r

/-- when the upper bound is reached by counting, the increasing numbers are consecutive -/
theorem Asc.numbered {lo hi : Int} {l : List Msg} (h : Asc lo l hi) (hc : hi ≤ lo + l.length) :
    numbered lo l := by
  induction l generalizing lo with
  | nil => trivial
  | cons f r ih =>
    obtain ⟨n, h1, h2, h3⟩ := h
    have hl := h3.len_le
    simp only [List.length_cons, Int.natCast_add, Int.cast_ofNat_Int] at hc
    have hn : n = lo := by omega
    subst hn
    exact ⟨h1, ih h3 (by omega)⟩

theorem numbered_last {lo : Int} {l : List Msg} (h : numbered lo l) (f : Msg) (hf : l.getLast? = some f) :
    seqOf f = some (lo + l.length - 1) := by
  induction l generalizing lo with
  | nil => simp at hf
  | cons g r ih =>
    cases r with
    | nil =>
      simp only [List.getLast?_singleton, Option.some.injEq] at hf
      subst hf
      simpa using h.1
    | cons g2 r2 =>
      rw [List.getLast?_cons_cons] at hf
      have := ih h.2 hf
      rw [this]
      simp only [List.length_cons, Int.natCast_add, Int.cast_ofNat_Int]
      congr 1
      omega

/-- the outbound invariant: stored next-outbound = the session's counter, and every outbound journal row sits
below the counter (DESIGN's `OutInv`, the part C14 needs) -/
structure J (c : Conn) : Prop where
  counter : c.journal.outSeq + 1 = c.sess.nextOut
  below : ∀ p ∈ c.journal.out, p.1 < c.sess.nextOut

/-- exception kinds that are neither of the two C14 counts -/
def benign (ex : Exc) : Bool := ex != .duplicateSeqNo && ex != .attribute

/-- an exception that is still propagating is counted as the effect it becomes when it escapes the task
(`raised ex`), which is also what `caught ex` stands for when it is swallowed -/
def pend {α : Type} : Except Exc α → List Effect
  | .ok _ => []
  | .error ex => [.raised ex]

/-- what ONE SEGMENT that starts in `c`, emits `e` and ends in `c'` guarantees when no `_process_resend` rewinds
inside it: `J c'`; the NEW-message frames it writes carry strictly increasing numbers within
`[c.nextOut, c'.nextOut)`; the counter advanced by exactly (new frames written + sends that found no
transport); nothing but new messages is written; no journal row is lost; every new frame is in the journal
under its number; no DuplicateSeqNoError is reported.  Reflexive and closed under sequencing (`Seg.trans`), so it
lifts from segments to whole schedules.  `inb` exists for one case: `inb = true` (the reader task only) lets the
DuplicateSeqNoError of `persistInbound`, which escapes, go uncounted (see `dupErr`); everywhere else it is `false`
or arbitrary. -/
structure Seg (inb : Bool) (c c' : Conn) (e : List Effect) : Prop where
  inv : J c'
  asc : Asc c.sess.nextOut (newWrites e) c'.sess.nextOut
  cnt : c'.sess.nextOut = c.sess.nextOut + (newWrites e).length + lost e
  allNew : ∀ f ∈ writes e, isNew f = true
  keep : ∀ n g, Rows.find n c.journal.out = some g → Rows.find n c'.journal.out = some g
  fresh : ∀ f ∈ newWrites e, ∃ n, seqOf f = some n ∧ Rows.find n c'.journal.out = some f
  nodup : dupErr inb e = false

/-- connections that agree on what `J` / `Seg` talk about -/
structure OutSame (c c' : Conn) : Prop where
  nextOut : c'.sess.nextOut = c.sess.nextOut
  out : c'.journal.out = c.journal.out
  outSeq : c'.journal.outSeq = c.journal.outSeq

theorem OutSame.refl (c : Conn) : OutSame c c := ⟨rfl, rfl, rfl⟩

theorem J.congr {c c' : Conn} (h : OutSame c c') (hJ : J c) : J c' :=
  ⟨by rw [h.outSeq, h.nextOut]; exact hJ.counter, by rw [h.out, h.nextOut]; exact hJ.below⟩

/-- an effect that is neither a frame nor an exception report -/
def quiet : Effect → Bool
  | .write _ => false
  | .caught _ => false
  | .raised _ => false
  | _ => true

/-- nothing written, nothing reported, outbound side untouched -/
theorem Seg.of_same {i : Bool} {c c' : Conn} {e : List Effect} (hJ : J c) (h : OutSame c c')
    (hw : writes e = []) (hl : lost e = 0) (hd : dupErr i e = false) : Seg i c c' e where
  inv := hJ.congr h
  asc := by simp [newWrites, hw, Asc, h.nextOut]
  cnt := by simp [newWrites, hw, hl, h.nextOut]
  allNew := by simp [hw]
  keep := by intro n g hg; rw [h.out]; exact hg
  fresh := by simp [newWrites, hw]
  nodup := hd

theorem Seg.refl {i : Bool} {c : Conn} (hJ : J c) : Seg i c c [] :=
  Seg.of_same hJ (OutSame.refl c) rfl rfl rfl

/-- an exception of a kind that C14 does not count, raised with nothing done -/
theorem seg_raise {i : Bool} {c : Conn} (hJ : J c) {ex : Exc} (h : benign ex = true) : Seg i c c [.raised ex] := by
  refine Seg.of_same hJ (OutSame.refl c) rfl ?_ ?_ <;> cases ex <;> simp_all [benign, lost, dupErr]

/-- an effect that C14 does not read -/
theorem seg_quiet {i : Bool} {c : Conn} (hJ : J c) {e : Effect} (h : quiet e = true) : Seg i c c [e] := by
  refine Seg.of_same hJ (OutSame.refl c) ?_ ?_ ?_ <;> cases e <;> simp_all [quiet, writes, lost, dupErr]

/-- the one step that is not quiet: a new frame takes the counter's value, is journaled under it, and is written
(`w`) or finds no transport (AttributeError after the journal write: a number consumed, nothing sent) -/
theorem seg_sent {i : Bool} {c : Conn} {f : Msg} (hJ : J c) (hn : isNew f = true) (hs : seqOf f = some c.sess.nextOut)
    (w : Bool) : Seg i c (sentFresh c f) (if w then [.write f] else [.raised .attribute]) := by
  have hJ' : J (sentFresh c f) := ⟨rfl, Rows.allLt_push hJ.below⟩
  have keep : ∀ n g, Rows.find n c.journal.out = some g → Rows.find n (sentFresh c f).journal.out = some g :=
    fun n g hg => by simp only [sentFresh]; rw [Rows.find_append, hg]
  cases w
  · show Seg i c (sentFresh c f) [.raised .attribute]
    exact ⟨hJ', by simp only [newWrites, writes, List.filter, Asc, sentFresh]; omega,
      by simp [newWrites, writes, lost, sentFresh], by simp [writes], keep, by simp [newWrites, writes], rfl⟩
  · show Seg i c (sentFresh c f) [.write f]
    refine ⟨hJ', ?_, by simp [newWrites, writes, hn, lost, sentFresh], ?_, keep, ?_, rfl⟩
    · simp only [newWrites, writes, List.filter, hn]
      exact ⟨_, hs, Int.le_refl _, by simp [sentFresh, Asc]⟩
    · intro g hg; simp only [writes, List.mem_singleton] at hg; subst hg; exact hn
    · intro g hg
      simp only [newWrites, writes, List.filter, hn, List.mem_singleton] at hg
      subst hg
      exact ⟨_, hs, Rows.find_insert (Rows.insert_append _ _ _ hJ.below)⟩

theorem Seg.trans {i : Bool} {c c1 c2 : Conn} {e1 e2 : List Effect} (h1 : Seg i c c1 e1) (h2 : Seg i c1 c2 e2) :
    Seg i c c2 (e1 ++ e2) where
  inv := h2.inv
  asc := by rw [newWrites_append]; exact h1.asc.append h2.asc
  cnt := by
    rw [newWrites_append, lost_append, h2.cnt, h1.cnt]
    simp only [List.length_append, Int.natCast_add]
    omega
  allNew := by
    intro f hf
    rw [writes_append] at hf
    rcases List.mem_append.mp hf with hf | hf
    · exact h1.allNew f hf
    · exact h2.allNew f hf
  keep := fun n g hg => h2.keep n g (h1.keep n g hg)
  fresh := by
    intro f hf
    rw [newWrites_append] at hf
    rcases List.mem_append.mp hf with hf | hf
    · obtain ⟨n, e1', e2'⟩ := h1.fresh f hf
      exact ⟨n, e1', h2.keep n f e2'⟩
    · exact h2.fresh f hf
  nodup := dupErr_append_false.mpr ⟨h1.nodup, h2.nodup⟩

/-- `Seg` reads the effects only through `writes`, `lost` and `dupErr` -/
theorem Seg.congr {i i' : Bool} {c c' : Conn} {e e' : List Effect} (h : Seg i c c' e) (hw : writes e' = writes e)
    (hl : lost e' = lost e) (hd : dupErr i e = false → dupErr i' e' = false) : Seg i' c c' e' := by
  have hn : newWrites e' = newWrites e := congrArg (List.filter isNew) hw
  exact ⟨h.inv, hn ▸ h.asc, by rw [hn, hl]; exact h.cnt, hw ▸ h.allNew, h.keep, hn ▸ h.fresh, hd h.nodup⟩

/-- escaping duplicate reports may be left uncounted -/
theorem Seg.mono {i i' : Bool} {c c' : Conn} {e : List Effect} (h : Seg i c c' e) (hi : i' = false → i = false) :
    Seg i' c c' e :=
  h.congr rfl rfl fun hd => by
    rw [dupErr_eq_false_iff] at hd ⊢
    exact ⟨hd.1, fun h' => hd.2 (hi h')⟩

theorem Seg.weaken {c c' : Conn} {e : List Effect} (h : Seg false c c' e) (i : Bool) : Seg i c c' e :=
  h.mono fun _ => rfl

/-- a swallowed exception counts as the escaping one did (the body of a `try` holds no inbound write) -/
theorem Seg.caught_of_raised {i : Bool} {c c' : Conn} {e : List Effect} {ex : Exc}
    (h : Seg false c c' (e ++ [.raised ex])) : Seg i c c' (e ++ [.caught ex]) := by
  refine h.congr ?_ ?_ ?_
  · simp [writes_append, writes]
  · cases ex <;> simp [lost_append, lost]
  · intro hd
    rw [dupErr_eq_false_iff] at hd ⊢
    have hr := hd.2 rfl
    simp only [List.mem_append, List.mem_singleton, not_or, Effect.raised.injEq, Effect.caught.injEq,
      reduceCtorEq, not_false_eq_true, and_true] at hd hr ⊢
    exact ⟨⟨hd.1, hr.2⟩, fun _ => hr.1⟩

/-- a benign pending exception can be taken off the end of a segment -/
theorem Seg.drop_raised {i : Bool} {c c' : Conn} {e : List Effect} {ex : Exc} (h : Seg i c c' (e ++ [.raised ex]))
    (hb : benign ex = true) : Seg i c c' e := by
  refine h.congr ?_ ?_ fun hd => (dupErr_append_false.mp hd).1
  · simp [writes_append, writes]
  · cases ex <;> simp_all [lost_append, lost, benign]

end AsyncFix.Sched
