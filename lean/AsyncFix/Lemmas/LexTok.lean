/-
ASCII digits as every acceptor of the family sees them: the character class, the value of a two-
and of a four-digit field, and what int()/float()/strptime do with a single digit.  Also the one fact
the number and the string validators share: what a check that answers with an error text lets through.
-/
import AsyncFix.Py.PyStr
import AsyncFix.Model.Lexical
namespace AsyncFix.Lemmas.LexTok
open AsyncFix.Py AsyncFix.Model.Lexical

/-- value of two ASCII digits -/
def two (a b : Nat) : Nat := (a - 48) * 10 + (b - 48)

def four (a b c d : Nat) : Nat := 1000 * (a - 48) + 100 * (b - 48) + 10 * (c - 48) + (d - 48)

theorem digit_iff {a : Nat} : isAsciiDigit a = true ↔ 48 ≤ a ∧ a ≤ 57 := by
  simp [isAsciiDigit]

theorem all_digit_cons {c : Nat} {cs : Str} :
    (c :: cs).all isAsciiDigit = true ↔ isAsciiDigit c = true ∧ cs.all isAsciiDigit = true := by
  simp only [List.all_cons, Bool.and_eq_true]

theorem pyDecimal_digit {a : Nat} (h : isAsciiDigit a = true) : pyDecimal? a = some (a - 48) := by
  simp [pyDecimal?, h]

theorem xform_digit {c : Nat} (h : isAsciiDigit c = true) : xform c = c := by
  have := digit_iff.1 h
  simp [xform]; omega

theorem not_space_digit {c : Nat} (h : isAsciiDigit c = true) : isAsciiSpace c = false := by
  have := digit_iff.1 h
  simp [isAsciiSpace]; omega

theorem digit_ne_of_not_digit {b c : Nat} (hb : isAsciiDigit b = true) (hc : isAsciiDigit c = false) : b ≠ c :=
  fun h => by rw [h, hc] at hb; cases hb

/-- serves the `'.' in value` and `'w' in value` tests of the date and time validators -/
theorem not_contains_of_all_digit {s : Str} (h : s.all isAsciiDigit = true) {c : Nat}
    (hc : isAsciiDigit c = false) : s.contains c = false :=
  Bool.eq_false_iff.2 fun hm => by
    rw [List.all_eq_true.1 h c (List.contains_iff_mem.1 hm)] at hc
    cases hc

theorem four_le {a b c d : Nat} (h1 : isAsciiDigit a = true) (h2 : isAsciiDigit b = true)
    (h3 : isAsciiDigit c = true) (h4 : isAsciiDigit d = true) : four a b c d ≤ 9999 := by
  have := digit_iff.1 h1; have := digit_iff.1 h2; have := digit_iff.1 h3; have := digit_iff.1 h4
  simp only [four]; omega

theorem four_eq_zero {a b c d : Nat} (h1 : isAsciiDigit a = true) (h2 : isAsciiDigit b = true)
    (h3 : isAsciiDigit c = true) (h4 : isAsciiDigit d = true) :
    four a b c d = 0 ↔ (a = 48 ∧ b = 48 ∧ c = 48 ∧ d = 48) := by
  have := digit_iff.1 h1; have := digit_iff.1 h2; have := digit_iff.1 h3; have := digit_iff.1 h4
  simp only [four]; omega

/-- a check that answers with an error text lets through exactly what fails its condition -/
theorem ite_err_eq {c : Prop} [Decidable c] {x r : VRes} (hr : r ≠ .err) :
    (if c then VRes.err else x) = r ↔ ¬c ∧ x = r := by
  by_cases h : c <;> simp [h, hr.symm]

end AsyncFix.Lemmas.LexTok
