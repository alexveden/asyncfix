import AsyncFix.Model.TesterWire
import AsyncFix.Lemmas.SessionData
import AsyncFix.Lemmas.SessionEstablished

/-!
C20 helper lemmas: what `send_msg` does with a message it can put on the wire (`Sendable`), and closed forms of
`_process_message` for the Logon exchange and the Logout of clean scripts (from a connection with THESE fields and a
frame with THESE header values the handler ends normally with exactly this connection and these effects), composed
from the handler equations and `recv_valid` of `SessionHandlers` and the `_finalize_message` equations of
`SessionEstablished`.
-/
namespace AsyncFix.Tester
open AsyncFix.Session AsyncFix.Generated AsyncFix.Generated.ConnEnum

/-- the frame `send_msg` writes from connection `c` -/
def sentFrame (c : Conn) (env : Env) (m : Msg) : Msg := buildFrame c.sess env.stamp m c.sess.nextOut

theorem buildFrame_sess (s : Session) (x : Int) (stamp : String) (m : Msg) (seq : Int) :
    buildFrame { s with nextOut := x } stamp m seq = buildFrame s stamp m seq :=
  AsyncFix.Session.buildFrame_sess _ _ stamp m seq rfl rfl

/-- `send_msg(m)` can put its frame on the wire from `c`: the encoder allocates the number (no SequenceReset, no
PossDupFlag), the frame is latin-1, the journal takes the row (`j` afterwards), there is a transport -/
structure Sendable (c : Conn) (env : Env) (m : Msg) (j : Journal) : Prop where
  notReset : m.mtype ≠ mSequenceReset
  noPossDup : (m.get? tPossDupFlag).getD "N" ≠ "Y"
  latin1 : frameLatin1 (sentFrame c env m) = true
  row : c.journal.persist .outbound c.sess.nextOut (sentFrame c env m) = some j
  sock : c.sock = true

theorem Sendable.congr {c c' : Conn} {env : Env} {m : Msg} {j : Journal} (h : Sendable c env m j)
    (hs : c'.sess = c.sess) (hj : c'.journal = c.journal) (hk : c'.sock = c.sock) : Sendable c' env m j := by
  refine ⟨h.1, h.2, ?_, ?_, hk.trans h.5⟩
  · rw [sentFrame, hs]; exact h.3
  · rw [sentFrame, hs, hj]; exact h.4

/-- `send_msg` after the state checks, of a sendable message (a TestRequest only with its id registered): the
number is consumed, the frame journaled and written -/
theorem sendCore_sendable {env : Env} {c : Conn} {m : Msg} {j : Journal} (h : Sendable c env m j)
    (htr : m.mtype = mTestRequest → c.testReqId.isSome = true) :
    sendCore env m c =
      ⟨.ok (), { c with sess := { c.sess with nextOut := c.sess.nextOut + 1 }, journal := j },
       [.write (sentFrame c env m)]⟩ := by
  refine sendCore_ok env (encodeSeq_fresh h.notReset h.noPossDup c) ?_ h.latin1 h.row h.sock
  cases hty : m.mtype == mTestRequest
  · rfl
  · cases hi : c.testReqId with
    | none => rw [hi] at htr; exact absurd (htr (by simpa using hty)) (by decide)
    | some _ => rfl

/-- … through the state checks as well, in the states past the first Logon (8 and above) -/
theorem sendMsg_sendable {env : Env} {c : Conn} {m : Msg} {j : Journal} (h8 : 8 ≤ c.state) (h : Sendable c env m j)
    (htr : m.mtype = mTestRequest → c.testReqId.isSome = true) :
    sendMsg env m c =
      ⟨.ok (), { c with sess := { c.sess with nextOut := c.sess.nextOut + 1 }, journal := j },
       [.write (sentFrame c env m)]⟩ :=
  (sendMsg_pass env (gate_on m h8).1 (gate_on m h8).2).trans (sendCore_sendable h htr)

/-- the TestRequest `send_test_req` sends at clock `env` -/
def testReqOut (env : Env) : Msg := Msg.mk' mTestRequest [(tTestReqID, pyStr env.secs)]

/-- application-level message types: not handled by the session layer's dispatch -/
def isAppType (t : String) : Prop :=
  t ≠ mResendRequest ∧ t ≠ mSequenceReset ∧ t ≠ mLogon ∧ t ≠ mTestRequest ∧ t ≠ mHeartbeat ∧ t ≠ mLogout

/-- the Heartbeat `_process_testrequest` answers with -/
def hbReply (f : Msg) : Msg := Msg.mk' mHeartbeat [(tTestReqID, (f.get? tTestReqID).getD "0")]

/-- the Logon an acceptor answers with -/
def logonReply (f : Msg) : Msg :=
  Msg.mk' mLogon [(tEncryptMethod, (f.get? tEncryptMethod).getD ""), (tHeartBtInt, (f.get? tHeartBtInt).getD "")]

theorem finalize_active {env : Env} {c : Conn} {f : Msg} {j : Journal} (ha : Addressed c f c.sess.nextIn)
    (hst : c.state = st_ACTIVE) (hty : f.mtype ≠ mSequenceReset) (hpos : 0 < c.sess.nextIn)
    (hj : c.journal.persist .inbound c.sess.nextIn f = some j) :
    (finalizeMessage env f).run c =
      ({ c with sess := { c.sess with nextIn := c.sess.nextIn + 1 }, lastTime := env.now, journal := j }, []) := by
  rw [finalizeMessage_expected env ha hpos hty (fun x => absurd (hst.symm.trans x) (by decide)),
    finalized_plain env (by rw [hst]; decide) (by rw [hst]; decide) hj]

/-- the acceptor's side of the Logon: LOGON_INITIAL_RECV, role ACCEPTOR, answer through `send_msg`,
ACTIVE, `on_logon(True)`, counted / stamped / journaled -/
theorem recv_logon_acceptor {sr : Msg → Bool} {env : Env} {c : Conn} {f : Msg} {e h : String} {j1 j2 : Journal}
    (ha : Addressed c f c.sess.nextIn) (hst : c.state = st_NETWORK_CONN_ESTABLISHED) (hty : f.mtype = mLogon)
    (h98 : f.get? tEncryptMethod = some e) (h108 : f.get? tHeartBtInt = some h)
    (hr : Sendable c env (logonReply f) j1)
    (hpos : 0 < c.sess.nextIn) (hj2 : j1.persist .inbound c.sess.nextIn f = some j2) :
    recv sr env c f =
      ({ c with state := st_ACTIVE, role := roleAcceptor, wasActive := true,
                sess := { c.sess with nextIn := c.sess.nextIn + 1, nextOut := c.sess.nextOut + 1 },
                lastTime := env.now, journal := j2 },
       [.onState st_LOGON_INITIAL_RECV, .write (sentFrame c env (logonReply f)), .onState st_ACTIVE, .onLogon true]) := by
  obtain ⟨v, hv, hn⟩ := ha.seq
  have hm : logonReply f = Msg.mk' mLogon [(tEncryptMethod, e), (tHeartBtInt, h)] := by
    rw [logonReply, h98, h108]; rfl
  -- the acceptor after its answer went out
  obtain ⟨c1, hc1⟩ : ∃ c1 : Conn, c1 = ({ c with
      state := st_LOGON_INITIAL_RECV, role := roleAcceptor, sess := { c.sess with nextOut := c.sess.nextOut + 1 },
      journal := j1 } : Conn) := ⟨_, rfl⟩
  have hs : sendMsg env (Msg.mk' mLogon [(tEncryptMethod, e), (tHeartBtInt, h)])
      { c with state := st_LOGON_INITIAL_RECV, role := roleAcceptor } =
      ⟨.ok (), c1, [.write (sentFrame c env (logonReply f))]⟩ := by
    rw [hc1, ← hm]
    exact sendMsg_sendable (c := { c with state := st_LOGON_INITIAL_RECV, role := roleAcceptor }) (Nat.le_refl 8)
      (hr.congr rfl rfl rfl) (fun x => absurd x (by show "A" ≠ "1"; decide))
  have hk : c.sess.nextIn = c1.sess.nextIn := by rw [hc1]
  have hl := processLogon_acceptor (c := { c with state := st_LOGON_INITIAL_RECV, role := roleAcceptor }) hty hv hn
    rfl rfl h98 h108 (Int.le_refl _) hs
  rw [logonState, if_pos hk, decide_eq_true hk] at hl
  have hh := processHead_logon_conn (c2 := setState c1 st_ACTIVE) hst hty (by rw [setState_of_ne (by decide)]; exact hl)
    (by show 3 < 17; decide) hv hn (checkSeqnumGaps_le env (Int.le_of_eq hk))
  have hd : processDispatch env sr f true c.sess.nextIn (setState c1 st_ACTIVE) = ⟨.ok (), setState c1 st_ACTIVE, []⟩ := by
    rw [processDispatch_quiet env sr (Or.inr hty)]; rfl
  rw [recv_valid (validateIntegrity_good ha.begin ha.sender ha.target hv hn (Or.inl (Int.le_refl _))) hh hd,
    finalize_active (c := setState c1 st_ACTIVE) (j := j2) (by rw [hc1]; exact ha.congr rfl rfl) rfl (by rw [hty]; decide)
      (by rw [hc1]; exact hpos) (by rw [hc1]; exact hj2), hc1]
  simp [setState, caught]

/-- the initiator's side of the Logon answer: ACTIVE, `on_logon(True)`, counted / stamped / journaled -/
theorem recv_logon_initiator {sr : Msg → Bool} {env : Env} {c : Conn} {f : Msg} {j : Journal}
    (ha : Addressed c f c.sess.nextIn) (hst : c.state = st_LOGON_INITIAL_SENT) (hrole : c.role = roleInitiator)
    (hty : f.mtype = mLogon) (hpos : 0 < c.sess.nextIn) (hj : c.journal.persist .inbound c.sess.nextIn f = some j) :
    recv sr env c f =
      ({ c with state := st_ACTIVE, wasActive := true, sess := { c.sess with nextIn := c.sess.nextIn + 1 },
                lastTime := env.now, journal := j },
       [.onState st_ACTIVE, .onLogon true]) := by
  obtain ⟨v, hv, hn⟩ := ha.seq
  have hl := processLogon_initiator env hty hv hn hrole
  rw [logonState, if_pos rfl, decide_eq_true rfl] at hl
  have hh := processHead_logon (c2 := setState c st_ACTIVE) (by rw [hst]; decide) hty hl (by show 3 < 17; decide)
    hv hn (checkSeqnumGaps_le env (Int.le_refl _))
  have hd : processDispatch env sr f true c.sess.nextIn (setState c st_ACTIVE) = ⟨.ok (), setState c st_ACTIVE, []⟩ := by
    rw [processDispatch_quiet env sr (Or.inr hty)]; rfl
  rw [recv_valid (validateIntegrity_good ha.begin ha.sender ha.target hv hn (Or.inl (Int.le_refl _))) hh hd,
    finalize_active (c := setState c st_ACTIVE) (j := j) (ha.congr rfl rfl) rfl (by rw [hty]; decide) hpos hj]
  simp [setState, caught]

/-- a Logout on an ACTIVE connection: `on_logout`, socket closed, DISCONNECTED_WCONN_TODAY,
`on_disconnect`; the message is neither counted nor journaled -/
theorem recv_logout {sr : Msg → Bool} {env : Env} {c : Conn} {f : Msg}
    (ha : Addressed c f c.sess.nextIn) (hst : c.state = st_ACTIVE) (hwas : c.wasActive = true)
    (hty : f.mtype = mLogout) (hsock : c.sock = true) :
    recv sr env c f =
      ({ c with state := st_DISCONNECTED_WCONN_TODAY, testReqId := none, lastTime := 0, maxResend := 0, sock := false },
       [.onLogout f, .closeSocket, .onState st_DISCONNECTED_WCONN_TODAY, .onDisconnect]) := by
  obtain ⟨v, hv, hn⟩ := ha.seq
  have hl := processLogout_apply env hty (c := c) (by rw [hst]; decide)
  have hh := processHead_logout (by rw [hst]; decide) hty hl (by simp only [hwas, if_true]; show 2 ≤ 3; decide)
  rw [recv, M.run_ok (processMessage_of_head_none sr
    (validateIntegrity_good ha.begin ha.sender ha.target hv hn (Or.inl (Int.le_refl _))) (by rw [swallow_apply, hh]))]
  simp [discTail, discReset, hwas, hsock]

end AsyncFix.Tester
