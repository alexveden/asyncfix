/-
Python's int(str) / str(int) (`AsyncFix/Py/PyInt.lean`): `int(str(n)) = n` within the interpreter's digit limit
(`pyIntOfString_renderInt`), and every character of an accepted string is a sign, digit, underscore or space, in
particular none of `= | , [ ] >` (`intLike_no_special`).
-/
import AsyncFix.Py.PyInt
import AsyncFix.Lemmas.Decimal
namespace AsyncFix.Py
open AsyncFix.Generated.PyUnicode

theorem natDigits_renders : Dec.Renders natDigits := fun n => by rw [natDigits]

theorem natDigits_one (n : Nat) (h : n < 10) : natDigits n = [48 + n] := natDigits_renders.lt10 h

theorem natDigits_step (n : Nat) (h : ¬ n < 10) : natDigits n = natDigits (n / 10) ++ [48 + n % 10] :=
  natDigits_renders.ge10 h

theorem natDigits_two (n : Nat) (h1 : 10 ≤ n) (h2 : n < 100) : natDigits n = [48 + n / 10, 48 + n % 10] := by
  rw [natDigits_step n (by omega), natDigits_one (n / 10) (by omega)]; rfl

theorem natDigits_ne_nil (n : Nat) : natDigits n ≠ [] := natDigits_renders.ne_nil n

theorem natDigits_isDigit (n : Nat) : ∀ c ∈ natDigits n, isDigit c = true := fun c hc => by
  simpa [isDigit] using natDigits_renders.digit n c hc

theorem natDigits_length_le (k n : Nat) (h : n < 10 ^ (k + 1)) : (natDigits n).length ≤ k + 1 :=
  natDigits_renders.length_le k n h

theorem scanDigitsU_digits (xs ys : Str) (acc nd : Nat) (h : ∀ c ∈ xs, isDigit c = true) :
    scanDigitsU acc nd false (xs ++ ys) = scanDigitsU (Dec.val acc xs) (nd + xs.length) false ys := by
  induction xs generalizing acc nd with
  | nil => rfl
  | cons c cs ih =>
    rw [List.cons_append, scanDigitsU, if_pos (h c (by simp)), ih _ _ (fun x hx => h x (by simp [hx])),
      List.length_cons, Nat.add_assoc, Nat.add_comm 1]
    rfl

theorem pyIntBuf_digit (maxD d : Nat) (rest : Str) (hd : isDigit d = true) :
    pyIntBuf maxD (d :: rest) = (pyIntUnsigned maxD (d :: rest)).map Int.ofNat := by
  have hd' : 48 ≤ d ∧ d ≤ 57 := by simpa [isDigit] using hd
  have hsp : isCSpace d = false := by simp [isCSpace]; omega
  have hsg : splitSign (d :: rest) = (false, d :: rest) := by
    unfold splitSign
    split
    · next e => cases e; omega
    · next e => cases e; omega
    · rfl
  simp only [pyIntBuf, List.dropWhile_cons, hsp, Bool.false_eq_true, if_false, hsg]
  cases pyIntUnsigned maxD (d :: rest) <;> rfl

theorem pyIntUnsigned_natDigits (maxD n : Nat) (hlen : maxD = 0 ∨ (natDigits n).length ≤ maxD) :
    pyIntUnsigned maxD (natDigits n) = some n := by
  have hsc : scanDigitsU 0 0 false (natDigits n) = some (n, (natDigits n).length, []) := by
    have := scanDigitsU_digits (natDigits n) [] 0 0 (natDigits_isDigit n)
    rw [List.append_nil, natDigits_renders.val_eq, Nat.zero_add] at this
    rw [this]; rfl
  cases hd : natDigits n with
  | nil => exact absurd hd (natDigits_ne_nil n)
  | cons d rest =>
    have h95 : d ≠ 95 := fun e => by
      have := natDigits_isDigit n d (by simp [hd]); simp [isDigit, e] at this
    rw [hd] at hsc hlen
    unfold pyIntUnsigned
    split
    · next e => cases e; exact absurd rfl h95
    · rw [hsc]
      rcases hlen with h0 | hle
      · simp [h0]
      · simpa using fun _ => hle

theorem transformWith_ascii (sp zs : List Nat) (s : Str) (h : ∀ c ∈ s, c < 127) :
    transformWith sp zs s = s := by
  induction s with
  | nil => rfl
  | cons c cs ih =>
    simp [transformWith, toAsciiWith, h c (by simp), ih (fun x hx => h x (by simp [hx]))]

theorem pyIntOfString_renderInt (n : Int)
    (hlen : maxStrDigits = 0 ∨ (natDigits n.natAbs).length ≤ maxStrDigits) :
    pyIntOfString (renderInt n) = some n := by
  have ascii : ∀ m, ∀ c ∈ natDigits m, c < 127 := fun m c hc => by
    have := natDigits_isDigit m c hc; simp [isDigit] at this; omega
  unfold pyIntOfString pyIntWith
  cases n with
  | ofNat m =>
    obtain ⟨d, rest, hd⟩ := List.exists_cons_of_ne_nil (natDigits_ne_nil m)
    have hdig := natDigits_isDigit m d (by simp [hd])
    rw [renderInt, transformWith_ascii _ _ _ (ascii m), hd, pyIntBuf_digit _ d rest hdig, ← hd,
      pyIntUnsigned_natDigits _ m hlen]
    rfl
  | negSucc m =>
    rw [renderInt, transformWith_ascii _ _ _ (by simpa using ascii (m + 1))]
    have h45 : isCSpace 45 = false := by decide
    simp only [pyIntBuf, List.dropWhile_cons, h45, Bool.false_eq_true, if_false, splitSign,
      pyIntUnsigned_natDigits _ (m + 1) hlen]
    rfl

theorem pyIntOfString_renderInt_of_lt (n : Int) (h : n.natAbs < 10 ^ maxStrDigits) :
    pyIntOfString (renderInt n) = some n := by
  apply pyIntOfString_renderInt
  right
  have : maxStrDigits = 4299 + 1 := by decide
  rw [this] at h ⊢
  exact natDigits_length_le 4299 _ h

/-- three digits are within `int()`'s digit limit: serves the sample tags 35 and 1 below -/
theorem small_lt_limit (n : Nat) (h : n < 1000) : n < 10 ^ maxStrDigits :=
  Nat.lt_of_lt_of_le h (Nat.pow_le_pow_right (n := 10) (by omega) (by decide : 3 ≤ maxStrDigits))

theorem intLike_renderInt (n : Int) (h : n.natAbs < 10 ^ maxStrDigits) : intLike (renderInt n) = true := by
  simp [intLike, pyIntOfString_renderInt_of_lt n h]

theorem renderInt_35 : renderInt 35 = [51, 53] := natDigits_two 35 (by omega) (by omega)
theorem renderInt_1 : renderInt 1 = [49] := natDigits_one 1 (by omega)
theorem il35 : intLike [51, 53] = true := renderInt_35 ▸ intLike_renderInt 35 (small_lt_limit _ (by decide))
theorem il1 : intLike [49] = true := renderInt_1 ▸ intLike_renderInt 1 (small_lt_limit _ (by decide))

/-- the ASCII characters `PyLong_FromString` can consume -/
def asciiOk (a : Nat) : Bool := isCSpace a || a == 43 || a == 45 || isDigit a || a == 95

theorem scanDigitsU_split (s : Str) (acc nd : Nat) (pu : Bool) (v nd' : Nat) (rest : Str)
    (h : scanDigitsU acc nd pu s = some (v, nd', rest)) :
    ∃ pre, s = pre ++ rest ∧ ∀ c ∈ pre, asciiOk c = true := by
  -- by the branches of the loop: a digit or an underscore is consumed, anything else ends the loop
  have step : ∀ c cs, asciiOk c = true → (∃ pre, cs = pre ++ rest ∧ ∀ x ∈ pre, asciiOk x = true) →
      ∃ pre, c :: cs = pre ++ rest ∧ ∀ x ∈ pre, asciiOk x = true := fun c cs hc ⟨pre, e, hok⟩ =>
    ⟨c :: pre, by rw [e]; rfl, by simpa [hc] using hok⟩
  fun_induction scanDigitsU acc nd pu s with
  | case1 => cases h
  | case2 => cases h; exact ⟨[], rfl, by simp⟩
  | case3 acc nd pu c cs hd ih => exact step c cs (by simp [asciiOk, hd]) (ih h)
  | case4 => cases h
  | case5 acc nd pu c cs hd hus hpu ih => exact step c cs (by simp [asciiOk, hus]) (ih h)
  | case6 => cases h
  | case7 => cases h; exact ⟨[], rfl, by simp⟩

theorem pyIntUnsigned_chars (maxD : Nat) (s : Str) (v : Nat) (h : pyIntUnsigned maxD s = some v) :
    ∀ c ∈ s, asciiOk c = true := by
  unfold pyIntUnsigned at h
  split at h
  · cases h
  · cases hsc : scanDigitsU 0 0 false s with
    | none => simp [hsc] at h
    | some r =>
      obtain ⟨v', nd, rest⟩ := r
      -- whatever the digit loop left unread is trailing space
      have hsp : ∀ x ∈ rest, isCSpace x = true := by
        have : (rest.dropWhile isCSpace).isEmpty = true := by
          cases hr : (rest.dropWhile isCSpace).isEmpty with
          | true => rfl
          | false => simp [hsc, hr] at h
        have h2 := List.any_dropWhile (l := rest) (p := isCSpace)
        rw [List.isEmpty_iff.1 this] at h2
        simpa using h2.symm
      obtain ⟨pre, e, hok⟩ := scanDigitsU_split _ _ _ _ _ _ _ hsc
      intro c hc
      rw [e, List.mem_append] at hc
      rcases hc with hc | hc
      · exact hok c hc
      · simp [asciiOk, hsp c hc]

theorem pyIntBuf_chars (maxD : Nat) (s : Str) (n : Int) (h : pyIntBuf maxD s = some n) :
    ∀ c ∈ s, asciiOk c = true := by
  -- `s` = leading space ++ optional sign ++ what `pyIntUnsigned` accepted
  have hsign : ∀ b : Str, ∀ c ∈ b, c ∈ (splitSign b).2 ∨ c = 43 ∨ c = 45 := by
    intro b c hc
    unfold splitSign
    split
    · exact (List.mem_cons.1 hc).elim (fun e => Or.inr (Or.inl e)) Or.inl
    · exact (List.mem_cons.1 hc).elim (fun e => Or.inr (Or.inr e)) Or.inl
    · exact Or.inl hc
  unfold pyIntBuf at h
  simp only at h
  split at h
  · cases h
  · next v hv =>
    intro c hc
    rw [← List.takeWhile_append_dropWhile (p := isCSpace) (l := s), List.mem_append] at hc
    rcases hc with hc | hc
    · have := List.all_eq_true.1 (List.all_takeWhile (l := s) (p := isCSpace)) c hc
      simp [asciiOk, this]
    · rcases hsign _ c hc with hc | rfl | rfl
      · exact pyIntUnsigned_chars _ _ _ hv c hc
      · decide
      · decide

theorem transformWith_ok (sp zs : List Nat) (s : Str) (h : ∀ a ∈ transformWith sp zs s, asciiOk a = true) :
    ∀ c ∈ s, ∃ a, toAsciiWith sp zs c = some a ∧ asciiOk a = true := by
  induction s with
  | nil => simp
  | cons c cs ih =>
    simp only [transformWith] at h
    cases hc : toAsciiWith sp zs c with
    | none =>
      rw [hc] at h
      exact absurd (h 63 (by simp)) (by decide)
    | some a =>
      rw [hc] at h
      simp only [List.mem_cons, forall_eq_or_imp] at h ⊢
      exact ⟨⟨a, hc, h.1⟩, ih h.2⟩

/-- a character that no tag accepted by `set()` can contain: `=  |  ,  [  ]  >` -/
def isSpecial (c : Nat) : Bool := c == 61 || c == 124 || c == 44 || c == 91 || c == 93 || c == 62

theorem intLike_no_special (s : Str) (h : intLike s = true) : ∀ c ∈ s, isSpecial c = false := by
  intro c hc
  unfold intLike pyIntOfString pyIntWith at h
  cases hp : pyIntBuf maxStrDigits (transformWith spaces decimalZeros s) with
  | none => simp [hp] at h
  | some n =>
    obtain ⟨a, ha, hok⟩ := transformWith_ok _ _ _ (pyIntBuf_chars _ _ _ hp) c hc
    -- the six special characters are ASCII, so the transformation keeps them, and `int()` takes none of them
    have six : ∀ c ∈ [61, 124, 44, 91, 93, 62], c < 127 ∧ asciiOk c = false := by decide
    cases hsp : isSpecial c with
    | false => rfl
    | true =>
      obtain ⟨hlt, hno⟩ := six c (by simpa [isSpecial, or_assoc] using hsp)
      rw [toAsciiWith, if_pos hlt] at ha
      cases ha; rw [hno] at hok; cases hok

end AsyncFix.Py
