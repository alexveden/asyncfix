import AsyncFix.Lemmas.TesterRecv

/-!
C20 helper lemmas: one clean script step through the tester's wiring (`tStep`: first action, then the drain loop) and
through two endpoints exchanging frames (`exchange`), compared once per direction given what the handlers involved
return (`init_step`, `acc_step`).
-/
namespace AsyncFix.Tester
open AsyncFix.Session AsyncFix.Generated AsyncFix.Generated.ConnEnum

theorem any_raised_eq (es : List Effect) :
    (es.any fun e => match e with | .raised _ => true | _ => false) = hasRaised es := by
  unfold hasRaised
  congr 1

theorem replySeq_plain {ca : Conn} {m : Msg} (h34 : m.has tMsgSeqNum = false) (hsr : m.mtype ≠ mSequenceReset)
    (hpd : (m.get? tPossDupFlag).getD "N" ≠ "Y") :
    replySeq m ca = ⟨.ok ca.sess.nextOut, { ca with sess := { ca.sess with nextOut := ca.sess.nextOut + 1 } }, []⟩ := by
  rw [replySeq, if_neg (by rw [h34]; decide)]
  exact encodeSeq_fresh hsr hpd ca

/-- the acceptor's connection after `reply`: the number is consumed, nothing else -/
def afterReply (ca : Conn) : Conn := { ca with sess := { ca.sess with nextOut := ca.sess.nextOut + 1 } }

@[simp] theorem afterReply_sess (ca : Conn) : (afterReply ca).sess = { ca.sess with nextOut := ca.sess.nextOut + 1 } := rfl
@[simp] theorem afterReply_nextOut (ca : Conn) : (afterReply ca).sess.nextOut = ca.sess.nextOut + 1 := rfl
@[simp] theorem afterReply_journal (ca : Conn) : (afterReply ca).journal = ca.journal := rfl

/-- A clean exchange the initiator starts (`send_msg(m)` or `send_test_req()`): its one frame reaches the acceptor – the
tester's `caT` from the queue, the endpoint `caL` from its reader –, which takes it with the same effects and answers
with at most one frame (on the tester nested in its `drain()`), which the initiator takes.  The tester's wiring and
the two endpoints then compute the same step.  (With a single frame in flight `feed` returns the same connection and
effects whether or not the handler raised.) -/
theorem init_step {srI srA : Msg → Bool} {env : Env} {ci caT caL ci1 ci2 caT1 caL1 : Conn} {op : Op} {f : Msg}
    {eI eA eI2 : List Effect} (k : Nat)
    (hop : (∃ m, op = .iSend m ∧ appSend env ci m = (ci1, eI)) ∨ (op = .iTestReq ∧ appTestReq env ci = (ci1, eI)))
    (hw1 : writes eI = [f]) (hL : 3 < caL.state)
    (hrT : recv srA env caT f = (caT1, eA)) (hrL : recv srA env caL f = (caL1, eA)) (hnr : hasRaised eA = false)
    (hans : (writes eA = [] ∧ ci2 = ci1 ∧ eI2 = []) ∨
      (∃ g, writes eA = [g] ∧ 3 < ci1.state ∧ recv srI env ci1 g = (ci2, eI2) ∧ writes eI2 = [] ∧
        hasRaised eI2 = false)) :
    tStep srI srA env (k + 1) ⟨ci, caT, []⟩ op =
        { pair := ⟨ci2, caT1, []⟩, effI := eI ++ eI2, effA := eA, out := .done } ∧
      lStep srI srA env ci caL op = ⟨ci2, caL1, eI ++ eI2, eA, true⟩ := by
  -- which of the two operations it is matters for the first action only
  obtain ⟨ev, hs, hl, ht⟩ : ∃ ev, step srI ci ev = (ci1, eI) ∧
      lStep srI srA env ci caL op =
        (let (i, a, eI, eA, q) := exchange srI srA env ci caL ev; ⟨i, a, eI, eA, q⟩) ∧
      tStep srI srA env (k + 1) ⟨ci, caT, []⟩ op =
        drainAfter srI srA env (k + 1) { pair := ⟨ci1, caT, [f]⟩, effI := eI } := by
    rcases hop with ⟨m, rfl, hs⟩ | ⟨rfl, hs⟩
    · exact ⟨.appSend env m, hs, rfl, by simp [tStep, tSend, hs, queueWrites, hw1]⟩
    · exact ⟨.appTestReq env, hs, rfl, by simp [tStep, tTestReq, hs, queueWrites, hw1]⟩
  rw [ht, hl]
  have h1 : ¬ caL.state ≤ st_DISCONNECTED_BROKEN_CONN := by simp [st_DISCONNECTED_BROKEN_CONN]; omega
  rcases hans with ⟨hw, rfl, rfl⟩ | ⟨g, hw, h2, hr2, hw2, hnr2⟩
  · simp [drainAfter, procLoop, procOne, nestedFeed, queueWrites, exchange, feed, writes, hs, hw1, hrT, hrL, hw, hnr, h1]
  · have h2' : ¬ ci1.state ≤ st_DISCONNECTED_BROKEN_CONN := by simp [st_DISCONNECTED_BROKEN_CONN]; omega
    simp [drainAfter, procLoop, procOne, nestedFeed, queueWrites, exchange, feed, writes, hs, hw1, hrT, hrL, hw, hnr, h1,
      h2', hr2, hw2, hnr2]

/-- A clean exchange started on the acceptor's behalf: `reply(m)` on the tester, `send_msg(m)` / `send_test_req()` on the
endpoint, put the same frame on the wire; the initiator takes it and answers with at most one frame, which both
acceptors take with the same effects. -/
theorem acc_step {srI srA : Msg → Bool} {env : Env} {ci caT caL ci1 caL1 caT2 caL2 : Conn} {op : Op} {m : Msg}
    {eI eA2 : List Effect} (k : Nat)
    (hop : (op = .aSend m ∧ appSend env caL m = (caL1, [.write (sentFrame caT env m)])) ∨
      (op = .aTestReq ∧ m = testReqMsg env ∧ appTestReq env caL = (caL1, [.write (sentFrame caT env m)])))
    (h34 : m.has tMsgSeqNum = false) (hsr : m.mtype ≠ mSequenceReset) (hpd : (m.get? tPossDupFlag).getD "N" ≠ "Y")
    (hasc : frameLatin1 (sentFrame caT env m) = true) (hI : 3 < ci.state)
    (hr : recv srI env ci (sentFrame caT env m) = (ci1, eI)) (hnr : hasRaised eI = false)
    (hans : (writes eI = [] ∧ caT2 = afterReply caT ∧ caL2 = caL1 ∧ eA2 = []) ∨
      (∃ g, writes eI = [g] ∧ 3 < caL1.state ∧ recv srA env (afterReply caT) g = (caT2, eA2) ∧
        recv srA env caL1 g = (caL2, eA2) ∧ writes eA2 = [] ∧ hasRaised eA2 = false)) :
    tStep srI srA env (k + 1) ⟨ci, caT, []⟩ op =
        { pair := ⟨ci1, caT2, []⟩, effI := eI, effA := .write (sentFrame caT env m) :: eA2, out := .done } ∧
      lStep srI srA env ci caL op = ⟨ci1, caL2, eI, .write (sentFrame caT env m) :: eA2, true⟩ := by
  have h1 : ¬ ci.state ≤ st_DISCONNECTED_BROKEN_CONN := by simp [st_DISCONNECTED_BROKEN_CONN]; omega
  -- `reply(m)` up to the drain: the frame `send_msg` would have built goes to the initiator, whose answers are queued
  have ht : tReply srI env ⟨ci, caT, []⟩ m =
      { pair := ⟨ci1, afterReply caT, writes eI⟩, effI := eI, effA := [.write (sentFrame caT env m)], out := .done } := by
    unfold sentFrame at hasc hr
    simp [tReply, replySeq_plain h34 hsr hpd, buildFrame_sess, hasc, hr, hnr, queueWrites, afterReply, sentFrame]
  obtain ⟨ev, hs, hl, hts⟩ : ∃ ev, step srA caL ev = (caL1, [.write (sentFrame caT env m)]) ∧
      lStep srI srA env ci caL op =
        (let (a, i, eA, eI, q) := exchange srA srI env caL ci ev; ⟨i, a, eI, eA, q⟩) ∧
      tStep srI srA env (k + 1) ⟨ci, caT, []⟩ op =
        drainAfter srI srA env (k + 1) (tReply srI env ⟨ci, caT, []⟩ m) := by
    rcases hop with ⟨rfl, hs⟩ | ⟨rfl, rfl, hs⟩
    · exact ⟨.appSend env m, hs, rfl, rfl⟩
    · exact ⟨.appTestReq env, hs, rfl, rfl⟩
  rw [hts, ht, hl]
  rcases hans with ⟨hw, rfl, rfl, rfl⟩ | ⟨g, hw, h2, hr2T, hr2L, hw2, hnr2⟩
  · simp [drainAfter, exchange, feed, writes, hs, hw, hr, h1]
  · have h2' : ¬ caL1.state ≤ st_DISCONNECTED_BROKEN_CONN := by simp [st_DISCONNECTED_BROKEN_CONN]; omega
    simp [drainAfter, procLoop, procOne, nestedFeed, queueWrites, exchange, feed, writes, hs, hw, hr, h1, h2', hr2T,
      hr2L, hw2, hnr2]

end AsyncFix.Tester
