import AsyncFix.Lemmas.SessionResendSpec

/-!
C06 – the words of the statements of `Props/C06` that are not part of the specification of a reply
(`SessionResendSpec`): the request as it is read (`Req`) and the frame around it (`Envelope`), the last number it
asks for (`reqLast`), and what an ignored request leaves behind (`ignored`, `pre`, `post`).  Definitions only.
-/
namespace AsyncFix.Session.C06
open Msg AsyncFix.Generated AsyncFix.Generated.ConnEnum

/-- the request as `_process_resend` reads it -/
structure Req (m : Msg) (b e0 : Int) : Prop where
  mtype : m.mtype = mResendRequest
  begin_ : ∃ v, m.get? tBeginSeqNo = some v ∧ pyInt v = some b
  end_ : ∃ v, m.get? tEndSeqNo = some v ∧ pyInt v = some e0

/-- the frame around the request: what `_validate_integrity` and the sequence check want to see -/
structure Envelope (c : Conn) (m : Msg) : Prop where
  begin_ : m.get? tBeginString = some Proto.beginString
  sender : m.get? tSenderCompID = some c.sess.target
  target : m.get? tTargetCompID = some c.sess.sender
  seq : ∃ v, m.get? tMsgSeqNum = some v ∧ pyInt v = some c.sess.nextIn

/-- the last number a request `(b, e)` asks for: `e = 0` means "everything", an `e` beyond the last
sent number is cut there, `e < b` asks for nothing -/
def reqLast (c : Conn) (b e : Int) : Int :=
  if e = 0 ∨ c.sess.nextOut - 1 ≤ e then c.sess.nextOut - 1 else if e < b then b - 1 else e

/-- the connection after `_process_resend` ignored a request -/
def ignored (c : Conn) : Conn := { c with wasActive := c.wasActive || (c.state == st_ACTIVE) }

/-- `on_state_change` notifications of the excursion ACTIVE → RESENDREQ_HANDLING → ACTIVE -/
def pre (c : Conn) : List Effect :=
  if c.state = st_ACTIVE then [.onState st_RESENDREQ_HANDLING] else []
def post (c : Conn) : List Effect := if c.state = st_ACTIVE then [.onState st_ACTIVE] else []

end AsyncFix.Session.C06
