/-
The decoder's per-field step in two independent parts: the step on the pair `(top, stack)` (`stepCore`: the lazy
closing of groups `closeWhile`, then `afterClose`) and the `mtype` / `ckPassed` bookkeeping (`bk`).
`stepField_eq` is the one place where `stepField` is unfolded; what is proved about the group logic is proved
about `stepCore`, in the small algebra `cur`, `setCur`, `push`, `accepts`.
-/
import AsyncFix.Model.Codec.Decode
namespace AsyncFix.Model.Codec

/-- what the group logic of the decoder works on: `DState.top` and `DState.stack` -/
abbrev DS := Cont × List Frame

/-- the container the next plain field goes to: the innermost open item, else the message -/
def cur : DS → Cont
  | (top, []) => top
  | (_, f :: _) => f.item

def setCur : DS → Cont → DS
  | (_, []), c => (c, [])
  | (top, f :: rest), c => (top, { f with item := c } :: rest)

def push (f : Frame) (s : DS) : DS := (s.1, f :: s.2)

/-- `closeWhile` stops at once: no open group, or the tag is a member of the innermost one -/
def accepts : DS → Tag → Bool
  | (_, []), _ => true
  | (_, f :: _), t => f.members.contains t

/-- `stepField` after the `closeWhile` -/
def afterClose (tbl : Tbl) (s : DS) (t v : Bytes) : Except Kind DS :=
  match tbl.members? t with
  | some ms => .ok (push ⟨t, ms, []⟩ s)
  | none =>
    match s with
    | (top, []) =>
      if top.has t then .ok (top.setErr t, [])
      else match top.setStr t v with
        | .error k => .error k
        | .ok top' => .ok (top', [])
    | (top, f :: rest) =>
      if f.item.has t then
        match closeTop top (f :: rest) with
        | .error k => .error k
        | .ok p => .ok (push { f with item := [.leaf t v] } p)
      else .ok (top, { f with item := f.item ++ [.leaf t v] } :: rest)

/-- the `(top, stack)` part of `stepField` -/
def stepCore (tbl : Tbl) (s : DS) (t v : Bytes) : Except Kind DS :=
  match closeWhile t s.1 s.2 with
  | .error k => .error k
  | .ok s1 => afterClose tbl s1 t v

/-- the `(mtype, ckPassed)` part of `stepField` -/
def bk (ck : Nat) (m : Bytes × Bool) (t v : Bytes) : Bytes × Bool :=
  if t == tag10 then
    (m.1, ckParse v == some ck)
  else if t == tag35 then (v, m.2) else m

theorem closeWhile_nil (t : Tag) (top : Cont) : closeWhile t top [] = .ok (top, []) := by
  rw [closeWhile]

theorem setStr_nil (t v : Bytes) : Cont.setStr [] t v = .ok [.leaf t v] := by
  simp [Cont.setStr, Cont.has]

theorem stepField_eq (tbl : Tbl) (ck : Nat) (d : DState) (t v : Bytes) :
    stepField tbl ck d t v =
      match stepCore tbl (d.top, d.stack) t v with
      | .error k => .error k
      | .ok p => .ok { top := p.1, stack := p.2,
                       mtype := (bk ck (d.mtype, d.ckPassed) t v).1,
                       ckPassed := (bk ck (d.mtype, d.ckPassed) t v).2 } := by
  obtain ⟨top, stack, mtype, ckp⟩ := d
  unfold stepField
  -- the bookkeeping on (mtype, ckPassed) leaves `top` and `stack` alone
  generalize hd' : (ite (t == tag10) _ _ : DState) = d'
  have h' : d' = ⟨top, stack, (bk ck (mtype, ckp) t v).1, (bk ck (mtype, ckp) t v).2⟩ := by
    subst hd'; unfold bk; split
    · rfl
    · split <;> rfl
  subst h'
  generalize bk ck (mtype, ckp) t v = m
  unfold stepCore afterClose
  simp only [bind, Except.bind, pure, Except.pure]
  cases hm : tbl.members? t with
  | some ms =>
    simp only
    cases stack with
    | nil => simp only [closeWhile_nil, push, List.isEmpty_nil, if_true] <;> rfl
    | cons f rest =>
      simp only [List.isEmpty_cons, Bool.false_eq_true, if_false]
      cases closeWhile t top (f :: rest) with
      | error k => rfl
      | ok p => rfl
  | none =>
    simp only
    cases stack with
    | nil =>
      simp only [List.isEmpty_nil, if_true, closeWhile_nil]
      split
      · rfl
      · cases Cont.setStr top t v <;> rfl
    | cons f rest =>
      simp only [List.isEmpty_cons, Bool.false_eq_true, if_false]
      cases closeWhile t top (f :: rest) with
      | error k => rfl
      | ok p =>
        obtain ⟨top1, st1⟩ := p
        cases st1 with
        | nil =>
          simp only
          split
          · rfl
          · cases Cont.setStr top1 t v <;> rfl
        | cons f1 r1 => 
          simp only [setStr_nil]
          split
          · cases closeTop top1 (f1 :: r1) <;> rfl
          · next h => simp only [Cont.setStr, h, Bool.false_eq_true, if_false] <;> rfl

end AsyncFix.Model.Codec
