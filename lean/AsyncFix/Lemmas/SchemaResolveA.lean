/-
C15, order-independence of component declarations: one body expansion (`expandBody`, the model of `_parse_msg_set`).
It is deferred iff a component it refers to, at any depth, is unresolved (`expand_deferred`); it looks only at those
components (`expand_congr`), so an undeferred one is the same in every larger environment (`expand_mono`); and an
attempt in a smaller environment cannot fail an assertion that the complete attempt passes (`expand_partial`).
-/
import AsyncFix.Model.SchemaResolve
namespace AsyncFix.Model.SchemaResolve

mutual
def Decl.refs : Decl → List String
  | .field _ _ => []
  | .comp n => [n]
  | .group _ _ body => refs body
def refs : List Decl → List String
  | [] => []
  | d :: rest => d.refs ++ refs rest
end

theorem mem_refs_cons {d : Decl} {rest : List Decl} {c : String} :
    c ∈ refs (d :: rest) ↔ c ∈ d.refs ∨ c ∈ refs rest := by
  rw [refs]; exact List.mem_append

theorem refs_tail {d : Decl} {rest : List Decl} {c : String} (hc : c ∈ refs rest) :
    c ∈ refs (d :: rest) := mem_refs_cons.mpr (.inr hc)

theorem refs_comp {n : String} {rest : List Decl} : n ∈ refs (.comp n :: rest) :=
  mem_refs_cons.mpr (.inl (List.mem_singleton.mpr rfl))

theorem refs_group {n : String} {r : Bool} {body rest : List Decl} {c : String}
    (hc : c ∈ refs body) : c ∈ refs (.group n r body :: rest) := by
  rw [mem_refs_cons, Decl.refs]; exact .inl hc

def names (ms : List RMem) : List String := ms.map RMem.name

theorem names_snoc (acc : List RMem) (m : RMem) : names (acc ++ [m]) = names acc ++ [m.name] := by
  simp [names]

theorem addMem_some {acc acc' : List RMem} {m : RMem} (h : addMem acc m = some acc') :
    acc' = acc ++ [m] := by
  cases m with
  | field n r =>
    simp only [addMem] at h
    split at h
    · cases h
    · exact (Option.some.inj h).symm
  | group n r ms => exact (Option.some.inj h).symm

theorem addMem_field_none {acc : List RMem} {n : String} {r : Bool} :
    addMem acc (.field n r) = none ↔ n ∈ names acc := by
  simp [addMem, names]

theorem mergeAll_some {acc ms acc' : List RMem} (h : mergeAll acc ms = some acc') :
    acc' = acc ++ ms := by
  induction ms generalizing acc with
  | nil => simpa [mergeAll] using h.symm
  | cons m rest ih =>
    rw [mergeAll] at h
    cases ha : addMem acc m with
    | none => simp [ha] at h
    | some a => rw [ha] at h; rw [ih h, addMem_some ha, List.append_assoc]; rfl

/-- the accumulated names of a partial expansion are among those of the full expansion -/
def Sub (accP accF : List RMem) : Prop := ∀ x, x ∈ names accP → x ∈ names accF

theorem Sub.refl (acc : List RMem) : Sub acc acc := fun _ h => h

theorem Sub.append {accP accF : List RMem} (h : Sub accP accF) (m m' : RMem) (e : m.name = m'.name) :
    Sub (accP ++ [m]) (accF ++ [m']) := by
  intro x hx
  rw [names_snoc, List.mem_append, List.mem_singleton] at hx ⊢
  exact hx.imp (h x) (·.trans e)

theorem Sub.right {accP accF : List RMem} (h : Sub accP accF) (ms : List RMem) : Sub accP (accF ++ ms) := by
  intro x hx
  simp only [names, List.map_append, List.mem_append]
  exact Or.inl (h x hx)

/-- adding a member to a partial accumulator cannot hit a duplicate that the full one does not hit -/
theorem addMem_partial {accP accF accF' : List RMem} {m : RMem} (hs : Sub accP accF)
    (h : addMem accF m = some accF') : ∃ accP', addMem accP m = some accP' ∧ Sub accP' accF' := by
  cases addMem_some h
  cases hp : addMem accP m with
  | some b => cases addMem_some hp; exact ⟨_, rfl, hs.append m m rfl⟩
  | none =>
    cases m with
    | group n r g => cases hp
    | field n r => rw [addMem_field_none.mpr (hs n (addMem_field_none.mp hp))] at h; cases h

theorem merge_partial {accP accF ms accF' : List RMem} (hs : Sub accP accF)
    (h : mergeAll accF ms = some accF') : ∃ accP', mergeAll accP ms = some accP' ∧ Sub accP' accF' := by
  induction ms generalizing accP accF with
  | nil => cases h; exact ⟨accP, rfl, hs⟩
  | cons m rest ih =>
    rw [mergeAll] at h ⊢
    cases ha : addMem accF m with
    | none => simp [ha] at h
    | some a =>
      obtain ⟨b, hb, hs'⟩ := addMem_partial hs ha
      rw [ha] at h; rw [hb]
      exact ih hs' h

section
variable (env : Env)

theorem expand_deferred {body : List Decl} {acc : List RMem} {d : Bool} {ms : List RMem} {d' : Bool}
    (h : expandBody env body acc d = .done ms d') :
    d' = (d || !(refs body).all fun c => (env.get c).isSome) := by
  fun_induction expandBody env body acc d generalizing ms d' with
  | case1 acc d => cases h; simp [refs]
  | case2 => cases h
  | case3 n r rest acc d acc' ha ih => simpa [refs, Decl.refs] using ih h
  | case4 n rest acc d hn ih => simp [ih h, refs, Decl.refs, hn]
  | case5 => cases h
  | case6 n rest acc d x hx acc' hm ih => simpa [refs, Decl.refs, hx] using ih h
  | case7 => cases h
  | case8 n r body rest acc d gms hb ihb ih =>
    have := ihb hb
    simp only [Bool.false_or] at this
    simp [ih h, refs, Decl.refs, ← this]
  | case9 n r body rest acc d gms hb ihb ih =>
    have := ihb hb
    simp only [Bool.false_or] at this
    simpa [refs, Decl.refs, ← this] using ih h

theorem expand_flag {body : List Decl} {acc : List RMem} {d : Bool} {ms : List RMem} {d' : Bool}
    (h : expandBody env body acc d = .done ms d') : d = true → d' = true := by
  intro hd; rw [expand_deferred env h, hd]; rfl

theorem expand_nodefer {body : List Decl} {acc : List RMem} {d : Bool} {ms : List RMem}
    (h : expandBody env body acc d = .done ms false) :
    ∀ c, c ∈ refs body → (env.get c).isSome = true := by
  have := (Bool.or_eq_false_iff.mp (expand_deferred env h).symm).2
  exact List.all_eq_true.mp (by simpa using this)

theorem expand_allrefs {body : List Decl} {acc : List RMem} {d : Bool} {ms : List RMem} {d' : Bool}
    (hr : ∀ c, c ∈ refs body → (env.get c).isSome = true)
    (h : expandBody env body acc d = .done ms d') : d' = d := by
  rw [expand_deferred env h, List.all_eq_true.mpr hr]; simp

end

theorem expand_congr {env env2 : Env} {body : List Decl} {acc : List RMem} {d : Bool}
    (hr : ∀ c, c ∈ refs body → env.get c = env2.get c) :
    expandBody env body acc d = expandBody env2 body acc d := by
  fun_induction expandBody env body acc d with
  | case1 acc d => simp [expandBody]
  | case2 n r rest acc d ha => simp [expandBody, ha]
  | case3 n r rest acc d acc' ha ih =>
    rw [expandBody.eq_2]; simp only [ha]; exact ih (fun c hc => hr c (refs_tail hc))
  | case4 n rest acc d hn ih =>
    rw [expandBody.eq_3, ← hr n refs_comp]; simp only [hn]
    exact ih (fun c hc => hr c (refs_tail hc))
  | case5 n rest acc d x hx hm =>
    rw [expandBody.eq_3, ← hr n refs_comp]; simp only [hx, hm]
  | case6 n rest acc d x hx acc' hm ih =>
    rw [expandBody.eq_3, ← hr n refs_comp]; simp only [hx, hm]
    exact ih (fun c hc => hr c (refs_tail hc))
  | case7 n r body rest acc d hb ihb =>
    rw [expandBody.eq_4, ← ihb (fun c hc => hr c (refs_group hc))]; simp only [hb]
  | case8 n r body rest acc d gms hb ihb ih =>
    rw [expandBody.eq_4, ← ihb (fun c hc => hr c (refs_group hc))]; simp only [hb]
    exact ih (fun c hc => hr c (refs_tail hc))
  | case9 n r body rest acc d gms hb ihb ih =>
    rw [expandBody.eq_4, ← ihb (fun c hc => hr c (refs_group hc))]; simp only [hb]
    exact ih (fun c hc => hr c (refs_tail hc))

theorem expand_mono {env env2 : Env} (hle : ∀ c x, env.get c = some x → env2.get c = some x)
    {body : List Decl} {acc : List RMem} {d : Bool} {ms : List RMem}
    (h : expandBody env body acc d = .done ms false) : expandBody env2 body acc d = .done ms false := by
  rw [← h]; symm; apply expand_congr
  intro c hc
  obtain ⟨x, hx⟩ := Option.isSome_iff_exists.mp (expand_nodefer env h c hc)
  rw [hx, hle c x hx]

/-- an attempt in a smaller environment (some components not resolved yet, the others with the
    same members) never fails an assertion when the attempt in the full environment succeeds:
    what it accumulates is a part of what the full expansion accumulates -/
theorem expand_partial {envP envF : Env} (hsub : ∀ c x, envP.get c = some x → envF.get c = some x)
    {body : List Decl} {accF : List RMem} {dF : Bool} {msF : List RMem} {dF' : Bool}
    (hr : ∀ c, c ∈ refs body → (envF.get c).isSome = true)
    (h : expandBody envF body accF dF = .done msF dF') :
    ∀ accP dP, Sub accP accF → ∃ msP dP', expandBody envP body accP dP = .done msP dP' ∧ Sub msP msF := by
  fun_induction expandBody envF body accF dF generalizing msF dF' with
  | case1 acc d => cases h; exact fun accP dP hs => ⟨accP, dP, by simp [expandBody], hs⟩
  | case2 => cases h
  | case3 n r rest acc d acc' ha ih =>
    intro accP dP hs
    obtain ⟨b, hb, hs'⟩ := addMem_partial hs ha
    rw [expandBody.eq_2, hb]
    exact ih (fun c hc => hr c (refs_tail hc)) h b dP hs'
  | case4 n rest acc d hn ih => have := hr n refs_comp; simp [hn] at this
  | case5 => cases h
  | case6 n rest acc d x hx acc' hm ih =>
    intro accP dP hs
    have hr' : ∀ c, c ∈ refs rest → (envF.get c).isSome = true := fun c hc => hr c (refs_tail hc)
    rw [expandBody.eq_3]
    cases hp : envP.get n with
    | none => exact ih hr' h accP true (mergeAll_some hm ▸ hs.right x)
    | some x' =>
      cases (hsub n x' hp).symm.trans hx
      obtain ⟨accP', hmp, hs'⟩ := merge_partial hs hm
      simp only [hmp]
      exact ih hr' h accP' dP hs'
  | case7 => cases h
  | case8 n r body rest acc d gms hb ihb ih =>
    cases expand_allrefs envF (fun c hc => hr c (refs_group hc)) hb
  | case9 n r body rest acc d gms hb ihb ih =>
    intro accP dP hs
    have hr' : ∀ c, c ∈ refs rest → (envF.get c).isSome = true := fun c hc => hr c (refs_tail hc)
    obtain ⟨gmsP, dg, hgp, _⟩ := ihb (fun c hc => hr c (refs_group hc)) hb [] false (Sub.refl [])
    rw [expandBody.eq_4]
    simp only [hgp]
    cases dg with
    | true => exact ih hr' h accP true (hs.right _)
    | false => exact ih hr' h _ dP (hs.append _ _ rfl)

end AsyncFix.Model.SchemaResolve
