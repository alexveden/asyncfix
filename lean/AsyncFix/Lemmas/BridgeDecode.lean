import AsyncFix.Lemmas.BridgeFrame
import AsyncFix.Props.C01

/-!
Bridge, decoder level: decoding the rendered frame with the codec model gives back the session model's
field list.

`decode_render_buildFrame`: for a group-free message whose kept tags are pairwise distinct plain
(non-group) tags other than 8 / 9 / 10 / 35 with SOH-free values (`PlainOK`), and a table in which no
header / trailer tag is a group (`hdrFree`), the codec model's `decode` of `render (buildFrame …)`
returns `toCodec (buildFrame …)` – the very field list the session model calls "the frame as the
decoder reads it back" – consumes the whole frame and hands back its bytes.  It is
`Props.C01.decode_flat` at the frame `render_buildFrame` identifies with `mkFrame`; the work here is `wfTop`
of a group-free container from explicit hypotheses.
-/
namespace AsyncFix.Bridge

open AsyncFix.Model AsyncFix.Generated
open AsyncFix.Model.Codec (Bytes SOH natToDec intToDec dec3 Fld Node Tag Tbl tag10 tag34 tag35 tag49 tag52
  tag56 wfNode wfNodes wfTop okTag maxStrDigits notOpen openMembersNode openMembersCont contTags bodyOf
  hdrFlds flatCont decode)

/-- the message's tags that `bodyFields` keeps (everything but 34 / 52 / 49 / 56) -/
def keptTags (m : Session.Msg) : List (Nat × String) := m.tags.filter fun p => keepTag p.1

/-- a field the decoder reads back as a plain entry: decodable tag that is no group of the table,
SOH-free value -/
def okEntry (tbl : Tbl) (p : Nat × String) : Prop :=
  (natToDec p.1).length ≤ maxStrDigits ∧ SOH ∉ cps p.2 ∧ tbl.members? (natToDec p.1) = none

/-- hypotheses of the round trip on the message and the session strings -/
structure PlainOK (tbl : Tbl) (s : Session.Session) (stamp : String) (m : Session.Msg) : Prop where
  mtype : SOH ∉ cps m.mtype
  sender : SOH ∉ cps s.sender
  target : SOH ∉ cps s.target
  stamp : SOH ∉ cps stamp
  /-- kept tags pairwise distinct (a dict has no duplicate keys) -/
  nodup : ((keptTags m).map (·.1)).Nodup
  /-- kept tags are not BeginString / BodyLength / MsgType / CheckSum, are no group tags, values SOH-free -/
  entry : ∀ p ∈ keptTags m, p.1 ≠ 8 ∧ p.1 ≠ 9 ∧ p.1 ≠ 35 ∧ p.1 ≠ 10 ∧ okEntry tbl p

/-- no header / trailer tag is a group tag of the table (decided on the generated FIX 4.4 table) -/
def hdrFree (tbl : Tbl) : Bool :=
  [[56], [57], tag10, tag35, tag49, tag56, tag34, tag52].all fun t => (tbl.members? t).isNone

theorem hdrFree_proto : hdrFree AsyncFix.Props.C01.protoTbl = true := by decide +kernel

theorem wfNode_toLeaf {tbl : Tbl} {p : Nat × String} (h : okEntry tbl p) : wfNode tbl (toLeaf p) = true := by
  obtain ⟨h1, h2, h3⟩ := h
  have hne : (natToDec p.1).isEmpty = false := List.isEmpty_eq_false_iff.2 (Codec.natToDec_ne_nil _)
  simp [toLeaf, wfNode, okTag, hne, Codec.natToDec_all_digit, h1, h2, h3]

theorem wfNodes_toLeaf (tbl : Tbl) (ps : List (Nat × String)) :
    ∀ (seen : List Tag), (∀ p ∈ ps, okEntry tbl p) → (ps.map (·.1)).Nodup →
      (∀ p ∈ ps, natToDec p.1 ∉ seen) → wfNodes tbl none seen (ps.map toLeaf) = true := by
  induction ps with
  | nil => intro _ _ _ _; simp [wfNodes]
  | cons p r ih =>
    intro seen hn hd hs
    have hd' := List.nodup_cons.mp hd
    have ih' := ih (natToDec p.1 :: seen) (fun x hx => hn x (by simp [hx])) hd'.2 (by
      intro x hx hmem
      rcases List.mem_cons.mp hmem with e | e
      · exact hd'.1 (List.mem_map.mpr ⟨x, hx, Codec.natToDec_inj e⟩)
      · exact hs x (by simp [hx]) e)
    have hps : natToDec p.1 ∉ seen := hs p (by simp)
    rw [List.map_cons, Codec.wfNodes_cons, wfNode_toLeaf (hn p (by simp))]
    -- a leaf leaves no group open, so the clause on the next tag is empty
    cases r <;> simpa [toLeaf, Node.tag, Codec.inMs, hps, openMembersNode, notOpen] using ih'

theorem openMembersCont_toLeaf (tbl : Tbl) (ps : List (Nat × String)) :
    openMembersCont tbl (ps.map toLeaf) = [] := by
  induction ps with
  | nil => simp [openMembersCont]
  | cons p r ih =>
    cases r with
    | nil => simp [openMembersCont, toLeaf, openMembersNode]
    | cons q r' =>
      simp only [List.map_cons] at ih ⊢
      rw [openMembersCont]; exact ih

theorem flatCont_toLeaf (ps : List (Nat × String)) : flatCont (ps.map toLeaf) = ps.map toFld := by
  rw [map_toLeaf, Codec.flatCont_leaves]

theorem preTags_split (s : Session.Session) (stamp : String) (m : Session.Msg) (seq : Int) :
    preTags s stamp m seq =
      [(Session.tBeginString, Proto.beginString), (Session.tBodyLength, toString (blenOf s stamp m seq)),
       (Session.tMsgType, m.mtype), (Session.tSenderCompID, s.sender), (Session.tTargetCompID, s.target),
       (Session.tMsgSeqNum, Session.pyStr seq), (Session.tSendingTime, stamp)] ++ keptTags m := by
  rw [preTags, bodyFields_eq]; rfl

theorem preTags_ok {tbl : Tbl} {s : Session.Session} {stamp : String} {m : Session.Msg} (seq : Int)
    (hT : hdrFree tbl = true) (hok : PlainOK tbl s stamp m) : ∀ p ∈ preTags s stamp m seq, okEntry tbl p := by
  obtain ⟨h8, h9, -, h34, h35, h49, h52, h56, -⟩ := natToDec_small
  simp only [hdrFree, List.all_cons, List.all_nil, Bool.and_true, Bool.and_eq_true,
    Option.isNone_iff_eq_none] at hT
  obtain ⟨t8, t9, -, t35, t49, t56, t34, t52⟩ := hT
  intro p hp
  rw [preTags_split] at hp
  simp only [List.cons_append, List.nil_append, List.mem_cons] at hp
  rcases hp with rfl | rfl | rfl | rfl | rfl | rfl | rfl | hp
  · exact ⟨Codec.short_tag 8 (by decide), by rw [beginString_agree]; decide, by rw [Session.tBeginString, h8]; exact t8⟩
  · refine ⟨Codec.short_tag 9 (by decide), ?_, by rw [Session.tBodyLength, h9]; exact t9⟩
    rw [cps_toString_nat]; intro h
    have := Codec.natToDec_no_SOH (blenOf s stamp m seq); simp [h] at this
  · exact ⟨Codec.short_tag 35 (by decide), hok.mtype, by rw [Session.tMsgType, h35]; exact t35⟩
  · exact ⟨Codec.short_tag 49 (by decide), hok.sender, by rw [Session.tSenderCompID, h49]; exact t49⟩
  · exact ⟨Codec.short_tag 56 (by decide), hok.target, by rw [Session.tTargetCompID, h56]; exact t56⟩
  · exact ⟨Codec.short_tag 34 (by decide), by rw [cps_pyStr]; exact Codec.intToDec_no_SOH seq,
      by rw [Session.tMsgSeqNum, h34]; exact t34⟩
  · exact ⟨Codec.short_tag 52 (by decide), hok.stamp, by rw [Session.tSendingTime, h52]; exact t52⟩
  · exact (hok.entry p hp).2.2.2.2

theorem preTags_fst (s : Session.Session) (stamp : String) (m : Session.Msg) (seq : Int) :
    (preTags s stamp m seq).map (·.1) = [8, 9, 35, 49, 56, 34, 52] ++ (keptTags m).map (·.1) := by
  rw [preTags_split]; rfl

theorem preTags_nodup {tbl : Tbl} {s : Session.Session} {stamp : String} {m : Session.Msg} (seq : Int)
    (hok : PlainOK tbl s stamp m) : ((preTags s stamp m seq).map (·.1)).Nodup := by
  rw [preTags_fst, List.nodup_append]
  refine ⟨by decide, hok.nodup, ?_⟩
  intro a ha b hb hab
  subst hab
  obtain ⟨p, hp, rfl⟩ := List.mem_map.mp hb
  obtain ⟨n8, n9, n35, -, -⟩ := hok.entry p hp
  obtain ⟨k34, k52, k49, k56⟩ := (keepTag_iff p.1).mp (by simpa using (List.mem_filter.mp hp).2)
  simp only [List.mem_cons, List.not_mem_nil, or_false] at ha
  omega

theorem preTags_no10 {tbl : Tbl} {s : Session.Session} {stamp : String} {m : Session.Msg} (seq : Int)
    (hok : PlainOK tbl s stamp m) : ∀ p ∈ preTags s stamp m seq, p.1 ≠ 10 := by
  intro p hp
  have h := List.mem_map_of_mem (f := (·.1)) hp
  rw [preTags_fst, List.mem_append] at h
  rcases h with h | h
  · intro h10; rw [h10] at h; exact absurd h (by decide)
  · obtain ⟨q, hq, e⟩ := List.mem_map.mp h
    rw [← e]; exact (hok.entry q hq).2.2.2.1

theorem wfTop_preTags {tbl : Tbl} {s : Session.Session} {stamp : String} {m : Session.Msg} (seq : Int)
    (hT : hdrFree tbl = true) (hok : PlainOK tbl s stamp m) :
    wfTop tbl ((preTags s stamp m seq).map toLeaf) = true := by
  have h10t : tbl.members? tag10 = none := by
    simp only [hdrFree, List.all_cons, List.all_nil, Bool.and_true, Bool.and_eq_true,
      Option.isNone_iff_eq_none] at hT
    exact hT.2.2.1
  have hno10 : (contTags ((preTags s stamp m seq).map toLeaf)).contains tag10 = false := by
    rw [← Bool.not_eq_true, List.contains_iff_mem]
    intro hmem
    simp only [contTags, List.map_map, List.mem_map, Function.comp] at hmem
    obtain ⟨p, hp, he⟩ := hmem
    have h10 := natToDec_small.2.2.1
    have : natToDec p.1 = natToDec 10 := by rw [h10]; simpa [toLeaf, Node.tag, tag10] using he
    exact preTags_no10 seq hok p hp (Codec.natToDec_inj this)
  refine Codec.wfTop_iff.2 ⟨?_, ?_, hno10, h10t⟩
  · exact wfNodes_toLeaf tbl _ [] (preTags_ok seq hT hok) (preTags_nodup seq hok) (fun _ _ h => by cases h)
  · rw [openMembersCont_toLeaf]; rfl

/-- **Bridge, decoder level**: the codec model's decoder, run on the bytes of the session model's
frame, returns the session model's field list (as a codec message of leaves), reports the whole frame
consumed and returns its bytes. -/
theorem decode_render_buildFrame (tbl : Tbl) (s : Session.Session) (stamp : String) (m : Session.Msg)
    (seq : Int) (h10 : Codec.tblNo10 tbl = true) (hT : hdrFree tbl = true) (hok : PlainOK tbl s stamp m)
    (hd : (natToDec (blenOf s stamp m seq)).length ≤ maxStrDigits) :
    decode Proto.beginStringBytes tbl (render (Session.buildFrame s stamp m seq)) =
      .msg (toCodec (Session.buildFrame s stamp m seq))
        (render (Session.buildFrame s stamp m seq)).length (render (Session.buildFrame s stamp m seq)) := by
  -- the frame is `mkFrame` of `sessFlds`, whose fields are the wire order of the leaves `preTags`
  have hc : flatCont ((preTags s stamp m seq).map toLeaf) =
      Codec.preFlds Proto.beginStringBytes (sessFlds s stamp m seq) := by
    rw [flatCont_toLeaf, preFlds_sessFlds]
  rw [render_buildFrame, AsyncFix.Props.C01.decode_flat Proto.beginStringBytes tbl _ _
    AsyncFix.Props.C01.okBegin_proto h10 (wfTop_preTags seq hT hok) hc (by rw [length_sessFlds]; exact hd)]
  -- no field behind MsgType is tagged 35: the four session fields are 49, 56, 34, 52, the kept tags by `PlainOK`
  have h35 : ∀ f ∈ (Session.bodyFields s stamp m seq).map toFld, (f.tag == tag35) = false := by
    intro f hf
    obtain ⟨p, hp, rfl⟩ := List.mem_map.mp hf
    have hne : p.1 ≠ 35 := by
      rw [bodyFields_eq] at hp
      simp only [List.cons_append, List.nil_append, List.mem_cons] at hp
      rcases hp with rfl | rfl | rfl | rfl | hp
      · exact (by decide : (49 : Nat) ≠ 35)
      · exact (by decide : (56 : Nat) ≠ 35)
      · exact (by decide : (34 : Nat) ≠ 35)
      · exact (by decide : (52 : Nat) ≠ 35)
      · exact (hok.entry p hp).2.2.1
    have : natToDec p.1 ≠ tag35 := by
      rw [← natToDec_small.2.2.2.2.1]; exact fun hh => hne (Codec.natToDec_inj hh)
    simpa [toFld] using this
  have hmt : Codec.lastMtype (Codec.preFlds Proto.beginStringBytes (sessFlds s stamp m seq)) = cps m.mtype := by
    rw [sessFlds, List.map_cons, toFld, Session.tMsgType, natToDec_small.2.2.2.2.1]
    exact AsyncFix.Props.C01.lastMtype_preFlds _ _ _ h35
  have hbody : (preTags s stamp m seq).map toLeaf ++
      [Node.leaf tag10 (dec3 (Codec.frameCk Proto.beginStringBytes (sessFlds s stamp m seq)))] =
      (toCodec (Session.buildFrame s stamp m seq)).body := by
    -- the entries of the frame are its fields (`buildFrame_flds`), one leaf each
    rw [toCodec_body, map_toLeaf (Session.buildFrame s stamp m seq).tags, buildFrame_flds, Codec.frameFlds,
      preFlds_sessFlds, List.map_append, ← map_toLeaf, Codec.ckFld]
    rfl
  rw [hmt, hbody]
  rfl

end AsyncFix.Bridge
