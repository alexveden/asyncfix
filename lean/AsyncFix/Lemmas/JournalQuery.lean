/-
C13: the reading calls – ORDER BY, range queries, get_all_msgs, sessions().
-/
import AsyncFix.Lemmas.JournalRefine
namespace AsyncFix.Model.Journal

theorem mem_insertSeq {a r : MsgRow} {l : List MsgRow} : a ∈ insertSeq r l ↔ a = r ∨ a ∈ l := by
  induction l with
  | nil => simp [insertSeq]
  | cons x xs ih =>
    simp only [insertSeq]
    split <;> simp [ih, or_left_comm]

theorem mem_sortSeq {a : MsgRow} {l : List MsgRow} : a ∈ sortSeq l ↔ a ∈ l := by
  induction l with
  | nil => simp [sortSeq]
  | cons x xs ih => simp only [sortSeq, mem_insertSeq, ih, List.mem_cons]

theorem insertSeq_sorted {r : MsgRow} {l : List MsgRow}
    (hl : l.Pairwise fun a b => a.seq < b.seq) (hr : ∀ a ∈ l, a.seq ≠ r.seq) :
    (insertSeq r l).Pairwise fun a b => a.seq < b.seq := by
  induction l with
  | nil => simp [insertSeq]
  | cons x xs ih =>
    rw [List.pairwise_cons] at hl
    simp only [insertSeq]
    split
    · rename_i hlt
      refine List.pairwise_cons.mpr ⟨?_, List.pairwise_cons.mpr hl⟩
      intro a ha
      rcases List.mem_cons.mp ha with rfl | ha
      · exact hlt
      · have := hl.1 a ha; omega
    · rename_i hge
      refine List.pairwise_cons.mpr ⟨?_, ih hl.2 (fun a ha => hr a (List.mem_cons_of_mem _ ha))⟩
      intro a ha
      rcases mem_insertSeq.mp ha with rfl | ha
      · have := hr x (List.mem_cons_self ..); omega
      · exact hl.1 a ha

theorem sortSeq_sorted {l : List MsgRow} (hd : l.Pairwise fun a b => a.seq ≠ b.seq) :
    (sortSeq l).Pairwise fun a b => a.seq < b.seq := by
  induction l with
  | nil => simp [sortSeq]
  | cons x xs ih =>
    rw [List.pairwise_cons] at hd
    simp only [sortSeq]
    apply insertSeq_sorted (ih hd.2)
    intro a ha
    exact fun h => hd.1 a (mem_sortSeq.mp ha) h.symm

/-- the table is held in rowid order, so ORDER BY rowid changes nothing -/
theorem sortRowid_eq_self {l : List MsgRow} (hs : l.Pairwise fun a b => a.rowid < b.rowid) :
    sortRowid l = l := by
  induction l with
  | nil => rfl
  | cons x xs ih =>
    rw [List.pairwise_cons] at hs
    simp only [sortRowid, ih hs.2]
    cases xs with
    | nil => rfl
    | cons y ys => simp [insertRowid, hs.1 y (List.mem_cons_self ..)]

theorem filterMap_of_forall {α β γ} (g : α → β) (f : β → Option γ) (v : α → γ) (l : List α)
    (h : ∀ a ∈ l, f (g a) = some (v a)) : (l.map g).filterMap f = l.map v := by
  induction l with
  | nil => rfl
  | cons x xs ih =>
    simp only [List.map_cons, List.filterMap_cons, h x (List.mem_cons_self ..)]
    rw [ih (fun a ha => h a (List.mem_cons_of_mem _ ha))]

theorem selRange_isRange {j : Journal} (hinv : JInv j) (key : Int) (dir : Dir) (lo hi : BVal) :
    (abs j).IsRange key dir lo hi (selRange j key dir lo hi) := by
  let p : MsgRow → Bool := fun r => r.sid == key && r.dir == dir && lo.le r.seq && hi.ge r.seq
  have hp : ∀ r, p r = true ↔ r.sid = key ∧ r.dir = dir ∧ lo.le r.seq = true ∧ hi.ge r.seq = true := by
    intro r; simp [p, and_assoc]
  have hsub : ∀ r ∈ sortSeq (j.msgs.filter p),
      lo.le r.seq = true ∧ hi.ge r.seq = true ∧ (abs j).store key dir r.seq = some r.msg := by
    intro r hr
    obtain ⟨hm, hpr⟩ := List.mem_filter.mp (mem_sortSeq.mp hr)
    obtain ⟨h1, h2, h3, h4⟩ := (hp r).mp hpr
    exact ⟨h3, h4, h1 ▸ h2 ▸ store_of_mem hinv hm⟩
  refine ⟨(sortSeq (j.msgs.filter p)).map (·.seq), ?_, ?_, ?_⟩
  · rw [List.pairwise_map]
    apply sortSeq_sorted
    apply (hinv.keyUnique.filter p).imp_of_mem
    intro a b ha hb hne heq
    have ha' := (hp a).mp (List.mem_filter.mp ha).2
    have hb' := (hp b).mp (List.mem_filter.mp hb).2
    exact hne ⟨heq, ha'.1.trans hb'.1.symm, ha'.2.1.trans hb'.2.1.symm⟩
  · intro n
    simp only [List.mem_map]
    constructor
    · rintro ⟨r, hr, rfl⟩
      obtain ⟨h3, h4, hs⟩ := hsub r hr
      exact ⟨h3, h4, by simp [hs]⟩
    · rintro ⟨h3, h4, hs⟩
      obtain ⟨m, hm⟩ := Option.isSome_iff_exists.mp hs
      obtain ⟨r, hr, rfl, rfl, rfl, -⟩ := mem_of_store hm
      exact ⟨r, mem_sortSeq.mpr (List.mem_filter.mpr ⟨hr, (hp r).mpr ⟨rfl, rfl, h3, h4⟩⟩), rfl⟩
  · show (sortSeq (j.msgs.filter p)).map (·.msg) = _
    exact (filterMap_of_forall _ _ _ _ fun r hr => (hsub r hr).2.2).symm

theorem selAll_filter {j : Journal} (hinv : JInv j) (keys : Option (List Int)) (dir : Option Dir) :
    selAll j keys dir =
      (j.msgs.filter fun r =>
        (match keys with | some ks => ks.contains r.sid | none => true) &&
        (match dir with | some d => r.dir == d | none => true)).map
        fun r => (r.seq, r.msg, r.dir.val, r.sid) := by
  simp only [selAll]
  rw [sortRowid_eq_self (hinv.rowidAsc.filter _)]
  rfl

theorem dirVal_inj {a b : Dir} (h : a.val = b.val) : a = b := by
  cases a <;> cases b <;> simp_all [Dir.val]

theorem selAll_complete {j : Journal} (hinv : JInv j) (key : Int) (d : Dir) (n : Int) (m : Bytes) :
    (n, m, d.val, key) ∈ selAll j none none ↔ (abs j).store key d n = some m := by
  have hall : selAll j none none = j.msgs.map fun r => (r.seq, r.msg, r.dir.val, r.sid) := by
    rw [selAll_filter hinv]
    congr 1
    exact List.filter_eq_self.mpr fun _ _ => rfl
  rw [hall]
  simp only [List.mem_map, Prod.mk.injEq]
  constructor
  · rintro ⟨r, hr, rfl, rfl, hd, rfl⟩
    have := store_of_mem hinv hr
    rwa [dirVal_inj hd] at this
  · intro h
    obtain ⟨r, hr, rfl, rfl, rfl, rfl⟩ := mem_of_store h
    exact ⟨r, hr, rfl, rfl, rfl, rfl⟩

theorem dict_fold (rows : List SessRow) (acc : List ((String × String) × Handle))
    (hacc : ∀ r ∈ rows, ∀ e ∈ acc, e.1 ≠ (r.target, r.sender))
    (hrows : rows.Pairwise fun a b => ¬(a.target = b.target ∧ a.sender = b.sender)) :
    rows.foldl (fun d r => dictSet d (r.target, r.sender) (handleOf r)) acc =
      acc ++ rows.map fun r => ((r.target, r.sender), handleOf r) := by
  induction rows generalizing acc with
  | nil => simp
  | cons x xs ih =>
    rw [List.pairwise_cons] at hrows
    have hno : acc.any (·.1 == (x.target, x.sender)) = false := by
      rw [List.any_eq_false]
      intro e he
      simpa using hacc x (List.mem_cons_self ..) e he
    have hset : dictSet acc (x.target, x.sender) (handleOf x) = acc ++ [((x.target, x.sender), handleOf x)] := by
      simp only [dictSet, hno, Bool.false_eq_true, if_false]
    rw [List.foldl_cons, hset, ih]
    · simp
    · intro r hr e he
      rcases List.mem_append.mp he with he | he
      · exact hacc r (List.mem_cons_of_mem _ hr) e he
      · simp only [List.mem_singleton] at he
        subst he
        intro heq
        simp only [Prod.mk.injEq] at heq
        exact hrows.1 r hr heq
    · exact hrows.2

theorem sessions_eq_map {j : Journal} (hinv : JInv j) :
    sessions j = j.sessions.map fun r => ((r.target, r.sender), handleOf r) := by
  unfold sessions
  rw [dict_fold _ _ (by simp) hinv.pairUnique]
  simp

end AsyncFix.Model.Journal
