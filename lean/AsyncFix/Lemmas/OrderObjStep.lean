/-
The inductive invariant of the closed system; every action keeps it (unless it is one of the two
excluded races), hence every calm run does.
-/
import AsyncFix.Lemmas.OrderObjExch
namespace AsyncFix.Model.OrderLink
open AsyncFix.Model.OrderObj AsyncFix.Model.Exchange AsyncFix.Model.OrderTable AsyncFix.Props.C16

structure Inv (l : Link) : Prop where
  /-- a CREATED order has nothing in flight, in either direction, and is unknown to the exchange -/
  fresh : l.order.status = "Z" → l.c2e = [] ∧ l.e2c = [] ∧ l.ex.known = false
  /-- an exchange that does not know the order has sent nothing -/
  quiet : l.ex.known = false → l.e2c = []
  /-- the order digests the reports in flight without raising, and one that meets it with no request
  pending is an unsolicited report under its current ClOrdID -/
  chain : ChainP l.order l.e2c
  /-- once it has digested them the order agrees with the exchange, up to the one request that is in
  flight or held as pending -/
  sync : Sync0 (drain l.order l.e2c) l.c2e l.ex

/-- the reports an action makes the exchange emit -/
def emitted (l : Link) (a : Action) : List Report :=
  match (stepFull l a).2 with
  | .emit rs => rs
  | _ => []

/-- the two races the order object does not survive (known findings): a suspended order expires;
a replace is accepted on a suspended order (Replaced report with OrdStatus Suspended) -/
def excluded (l : Link) (a : Action) : Bool :=
  (l.ex.known && l.ex.base == "9" && a == .xExpire) ||
  (emitted l a).any fun r => r.execType == some "5" && r.ordStatus == some "9"

/-- no step of the run is an excluded race -/
def calm (l : Link) : List Action → Bool
  | [] => true
  | a :: rest => !excluded l a && calm (step l a) rest

theorem noSusp_of_not_excluded {l : Link} {a : Action} {rs : List Report}
    (h : excluded l a = false) (he : emitted l a = rs) : noSuspReplace rs := by
  intro r hr ⟨h1, h2⟩
  simp only [excluded, Bool.or_eq_false_iff] at h
  have := h.2
  rw [he, List.any_eq_false] at this
  have := this r hr
  simp [h1, h2] at this

theorem feed_status (o : Order) (r : Report) :
    (feed o r).1.status = o.status ∨ ∃ kind ∈ reportKinds, ∃ ex st,
      changeStatus spec o.status kind ex st false = .to (feed o r).1.status := by
  unfold feed; split
  · exact (processCancelRej_status o r).imp_right fun ⟨st, hs⟩ => ⟨"9", by decide, _, st, hs⟩
  · exact (processExecReport_shape o r).status.imp_right fun ⟨hs, _⟩ => ⟨"8", by decide, _, _, hs⟩

theorem feed_not_created (o : Order) (r : Report) (h : o.status ≠ "Z") : (feed o r).1.status ≠ "Z" := by
  rcases feed_status o r with hs | ⟨kind, hk, ex, st, hs⟩
  · rw [hs]; exact h
  · intro hz; rw [hz] at hs
    exact never_back_to_created _ _ _ _ _ hk hs

theorem drain_not_created (q : List Report) : ∀ o : Order, o.status ≠ "Z" → (drain o q).status ≠ "Z" := by
  induction q with
  | nil => exact fun _ h => h
  | cons r q ih => exact fun o h => ih _ (feed_not_created o r h)

theorem sync_known {o : Order} {c : List Msg} {e : Exch} (h : Sync0 o c e) (hz : o.status ≠ "Z")
    (hreq : ∀ m ∈ c, (Req.ofMsg m).kind ≠ "D") : e.known = true := by
  cases h with
  | created hs => exact absurd hs.status hz
  | newSent m oo hs => exact absurd (by rw [hs.req]) (hreq m (List.mem_singleton.mpr rfl))
  | idle hs => exact hs.known
  | reqSent m k pr qr hs => exact hs.known
  | reqPending p hs => exact hs.known

theorem sent_kind {o : Order} {c : List Msg} {e : Exch} (h : Sync0 o c e) (hk : e.known = true) :
    ∀ m ∈ c, (Req.ofMsg m).kind ≠ "D" := by
  cases h with
  | created hs => nofun
  | idle hs => nofun
  | reqPending p hs => nofun
  | newSent m oo hs => exact nomatch hs.known.symm.trans hk
  | reqSent m k pr qr hs =>
    intro m' hm'
    rw [List.mem_singleton.mp hm', hs.req]
    show k ≠ "D"
    rcases hs.kind with rfl | rfl <;> decide

/-- generic step of the exchange: `r` is what the operation returns on `l.ex` -/
theorem exch_inv {l : Link} (h : Inv l) (r : Exch × List Report)
    (hnoop : l.ex.known = false → r = (l.ex, []))
    (hemit : EmitOk (drain l.order l.e2c) l.c2e r) : Inv (exchDo l r).1 := by
  have hsync := hemit.2
  rw [← drain_append] at hsync
  refine ⟨?_, ?_, (ChainP_append _ _ _).mpr ⟨h.chain, hemit.1⟩, hsync⟩
  · intro hz
    obtain ⟨h1, h2, h3⟩ := h.fresh hz
    simp only [exchDo]
    rw [hnoop h3]
    exact ⟨h1, by simp [h2], h3⟩
  · intro hk
    simp only [exchDo] at hk ⊢
    cases hkn : l.ex.known with
    | false => rw [hnoop hkn, h.quiet hkn]; rfl
    | true =>
      -- the exchange knew the order, so the order is past CREATED and the exchange still knows it
      have hnz : l.order.status ≠ "Z" := fun hz => by have := (h.fresh hz).2.2; rw [hkn] at this; cases this
      have := sync_known hsync (drain_not_created _ _ hnz) (sent_kind h.sync hkn)
      rw [hk] at this; cases this

theorem unsol_inv {l : Link} (h : Inv l) {r : Exch × List Report} (hu : Unsol l.ex r) : Inv (exchDo l r).1 :=
  exch_inv h r hu.unknown (hu.ok h.sync)

theorem live_nonPending {s : String} (h : s ∈ Props.C16.live) : s ≠ "6" ∧ s ≠ "E" ∧ s ≠ "Z" ∧ s ≠ "A" := by
  simp only [Props.C16.live, List.mem_cons, List.not_mem_nil, or_false] at h
  rcases h with rfl | rfl | rfl <;> decide

theorem bases_not_Z {s : String} (h : s ∈ bases) : s ≠ "Z" := by revert s; decide

/-- a cancel / replace request built on a (possibly stale) live order -/
theorem request_inv {l : Link} (h : Inv l) (hl : l.order.status ∈ Props.C16.live) (k : String) (hk : k = "F" ∨ k = "G")
    (m : Msg) (pr qr : Option Int)
    (hreq : Req.ofMsg m = ⟨k, some (nextId l.order), some l.order.clordId, pr, qr⟩) :
    Inv { l with order := startRequest l.order (pstat k), c2e := l.c2e ++ [m] } := by
  obtain ⟨n6, nE, nZ, nA⟩ := live_nonPending hl
  have hnp : nonPending l.order := ⟨n6, nE⟩
  have hpst : (pstat k = "6" ∨ pstat k = "E") := pstat_pending k
  rw [startRequest_eq_ovl]
  obtain ⟨c1, c2, c3, c4, c5⟩ := ChainP_ovl ⟨pstat k, l.order.clordId, nextId l.order, l.order.clordCnt + 1⟩
    hpst l.e2c l.order hnp rfl h.chain
  refine ⟨?_, h.quiet, c1, ?_⟩
  · intro hz
    have : pstat k = "Z" := hz
    rcases hpst with h' | h' <;> rw [h'] at this <;> exact absurd this (by decide)
  · show Sync0 (drain (ovl _ l.order) l.e2c) (l.c2e ++ [m]) l.ex
    rw [c2]
    have hsync := h.sync
    have hdst : (drain l.order l.e2c).status ≠ "Z" := by
      rcases c5 with h5 | h5
      · rw [h5]; exact nZ
      · exact bases_not_Z h5
    cases hc : l.c2e with
    | cons m' rest =>
      rw [hc] at hsync
      cases hsync with
      | newSent _ oo hs =>
        have hq := h.quiet hs.known
        rw [hq] at hs
        exact absurd hs.status nA
      | reqSent _ k' pr' qr' hs => exact absurd c3 (pending_not_nonPending hs.status)
    | nil =>
      rw [hc] at hsync
      cases hsync with
      | created hs => exact absurd hs.status hdst
      | reqPending p hs => exact absurd c3 (pending_not_nonPending hs.status)
      | idle hs =>
        have hlive : l.ex.liveId = l.order.clordId := hs.clord.symm.trans c4
        exact Sync0.reqSent m k pr qr
          ⟨hs.known, hs.pend, hs.base, hk, by rw [hlive]; exact hreq, by rw [hlive]; rfl, hs.livene,
           nextId_ne_nil _, rfl, hs.rej0, ⟨hs.nums.cum, hs.nums.leaves, hs.nums.price, hs.nums.qty⟩⟩

theorem clientBuild_raised {l : Link} {e : Exc} : (clientBuild l (l.order, .raised e)).1 = l := rfl

theorem step_inv (l : Link) (a : Action) (h : Inv l) (hc : excluded l a = false) : Inv (step l a) := by
  unfold step
  cases a with
  | cNew =>
    simp only [stepFull]
    rw [newReq_eq]
    by_cases hz : l.order.status = "Z"
    · have hnn : ¬ l.order.status ≠ "Z" := fun hn => hn hz
      rw [if_neg hnn]
      show Inv { l with order := { takeNextId l.order with status := "A" }, c2e := l.c2e ++ [msgD l.order] }
      obtain ⟨h1, h2, h3⟩ := h.fresh hz
      have hsync := h.sync
      rw [h1, h2] at hsync
      have horig : l.order.origClordId = none := by
        cases hsync with
        | created hs => exact hs.orig
        | idle hs => exact absurd (hs.status ▸ hs.base) (by rw [show (drain l.order []).status = "Z" from hz]; decide)
        | reqPending p hs =>
          exact absurd (show nonPending (drain l.order []) by simp [nonPending, drain, hz])
            (pending_not_nonPending hs.status)
      refine ⟨fun hz' => absurd (show "A" = "Z" from hz') (by decide), fun _ => h2, ?_, ?_⟩
      · show ChainP _ l.e2c; rw [h2]; trivial
      · show Sync0 (drain _ l.e2c) (l.c2e ++ [msgD l.order]) l.ex
        rw [h1, h2]
        exact Sync0.newSent (msgD l.order) none
          ⟨h3, sync_known_false h.sync h3, rfl, horig, nextId_ne_nil _,
           by simp [Req.ofMsg, msgD, getText, getNum, takeNextId, drain]⟩
    · rw [if_pos hz]; exact h
  | cCancel =>
    simp only [stepFull]
    rcases cancelReq_cases l.order with ⟨e, hr⟩ | ⟨hl, hr⟩ <;> rw [hr]
    · exact h
    · exact request_inv h hl "F" (Or.inl rfl) (msgF l.order) none (some l.order.qty)
        (by simp [Req.ofMsg, msgF, getText, getNum])
  | cReplace p q =>
    simp only [stepFull]
    rcases replaceReq_cases l.order p q with ⟨e, hr⟩ | ⟨hl, hr⟩ <;> rw [hr]
    · exact h
    · exact request_inv h hl "G" (Or.inr rfl) (msgG l.order _ _) (some (effPrice l.order p))
        (some (effQty l.order q)) (by simp [Req.ofMsg, msgG, getText, getNum])
  | cRecv =>
    simp only [stepFull]
    cases hq : l.e2c with
    | nil => exact h
    | cons r rest =>
      have hch := h.chain
      rw [hq] at hch
      obtain ⟨⟨b, hb⟩, _, hrest⟩ := hch
      have hnz : l.order.status ≠ "Z" := by
        intro hz; have := (h.fresh hz).2.1; rw [hq] at this; cases this
      have hkn : l.ex.known = true := by
        cases hk : l.ex.known with
        | true => rfl
        | false => have := h.quiet hk; rw [hq] at this; cases this
      have hsync := h.sync
      rw [hq] at hsync
      have key : Inv { l with order := (feed l.order r).1, e2c := rest } :=
        ⟨fun hz => absurd hz (feed_not_created _ _ hnz),
         fun hk => (by rw [hkn] at hk; cases hk), hrest, hsync⟩
      dsimp only
      cases hf : feed l.order r with
      | mk o' res =>
        rw [hf] at key
        cases res with
        | ok b' => exact key
        | raised e => exact key
  | xRecv d =>
    simp only [stepFull]
    cases hcq : l.c2e with
    | nil => exact h
    | cons m rest =>
      have hsync := h.sync
      rw [hcq] at hsync
      have hem : emitted l (.xRecv d) = (l.ex.recv (Req.ofMsg m) d).2 := by
        simp only [emitted, stepFull, hcq, exchDo]
      have hnsr := noSusp_of_not_excluded hc hem
      have hnz : l.order.status ≠ "Z" := by
        intro hz; have := (h.fresh hz).1; rw [hcq] at this; cases this
      -- the request at the head is the only one
      have hrest : rest = [] := by cases hsync <;> rfl
      subst hrest
      have hemit : EmitOk (drain l.order l.e2c) [] (l.ex.recv (Req.ofMsg m) d) := by
        cases hsync with
        | newSent _ oo hs => exact recv_new_ok d hs
        | reqSent _ k pr qr hs => exact recv_req_ok d hs hnsr
      have hsync' := hemit.2
      rw [← drain_append] at hsync'
      -- the order is past CREATED, so the exchange it is in sync with knows it
      have hkn := sync_known hsync' (drain_not_created _ _ hnz) nofun
      refine ⟨fun hz => absurd hz hnz, ?_, ?_, hsync'⟩
      · intro hk; simp only [exchDo] at hk; rw [hkn] at hk; cases hk
      · simp only [exchDo]; exact (ChainP_append _ _ _).mpr ⟨h.chain, hemit.1⟩
  | xDecide d =>
    simp only [stepFull]
    have hem : emitted l (.xDecide d) = (l.ex.decide d).2 := rfl
    exact exch_inv h _ (fun hk => decide_none d (sync_known_false h.sync hk))
      (decide_ok d h.sync (noSusp_of_not_excluded hc hem))
  | xAck => exact unsol_inv h (ack_unsol _)
  | xRejNew => exact unsol_inv h (rejectNew_unsol _)
  | xFill q px => exact unsol_inv h (fill_unsol _ q px)
  | xExpire => exact unsol_inv h (expire_unsol _ fun hk h9 => by simp [excluded, hk, h9] at hc)
  | xSuspend => exact unsol_inv h (suspend_unsol _)
  | xResume => exact unsol_inv h (resume_unsol _)

theorem run_inv (acts : List Action) : ∀ l : Link, Inv l → calm l acts = true → Inv (run l acts) := by
  induction acts with
  | nil => intro l h _; exact h
  | cons a rest ih =>
    intro l h hc
    simp only [calm, Bool.and_eq_true, Bool.not_eq_true'] at hc
    exact ih _ (step_inv l a h hc.1) hc.2

end AsyncFix.Model.OrderLink
