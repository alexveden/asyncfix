import AsyncFix.Model.TesterDict

/-!
C20 helper lemmas: the dictionary check on rendered messages, reduced to tag lists; facts about the
GENERATED tables (`decide +kernel`, re-checked whenever tests/FIX44.xml or the schema parser changes).
-/
namespace AsyncFix.Tester

open AsyncFix.Session

theorem all_and {α} (l : List α) (p q : α → Bool) : (l.all fun x => p x && q x) = (l.all p && l.all q) := by
  induction l with
  | nil => rfl
  | cons x r ih => simp only [List.all_cons, ih, Bool.and_assoc, Bool.and_left_comm]

theorem dictCheck_eq (m : Msg) : dictCheck m = (dictStruct m && dictValues m) := by
  simp only [dictCheck, dictStruct, dictValues, Bool.or_and_distrib_left, all_and, Bool.and_assoc]

theorem msg_lookup_isSome (t : Nat) (tags : List (Nat × String)) :
    (Msg.lookup t tags).isSome = (tags.map (·.1)).contains t := by
  induction tags with
  | nil => rfl
  | cons p r ih =>
    rw [Msg.lookup, List.map_cons, List.contains_cons, ← ih]
    by_cases h : p.1 = t
    · simp [h]
    · simp [h, Ne.symm h]

theorem msg_has (m : Msg) (t : Nat) : m.has t = (m.tags.map (·.1)).contains t := msg_lookup_isSome t m.tags

theorem render_tags_fst (m : RMsg) : m.render.tags.map (·.1) = m.tagList := by
  simp [RMsg.render, RMsg.tagList, List.map_map, Function.comp_def]

theorem render_has (m : RMsg) (t : Nat) : m.render.has t = m.tagList.contains t := by
  rw [msg_has, render_tags_fst]

theorem dictStruct_eq (m : Msg) : dictStruct m = structOk m.mtype (m.tags.map (·.1)) := by
  simp only [dictStruct, structOk, msg_has, List.all_map, Function.comp_def]

theorem dictStruct_render (m : RMsg) : dictStruct m.render = structOk m.mtype m.tagList := by
  rw [dictStruct_eq, render_tags_fst]; rfl

/-- the four tag lists of `buildReport` (`documentedTags`): with or without OrigClOrdID (41) and LastQty (32) -/
theorem struct8 : ∀ (b1 b2 : Bool),
    structOk "8" ([11, 37, 17] ++ (if b1 then [41] else []) ++ [150, 39, 54, 14, 151]
      ++ (if b2 then [32] else []) ++ [55, 44, 38, 6, 1]) = true := by decide +kernel

theorem struct9 : structOk "9" [37, 11, 41, 39, 434] = true := by decide +kernel
theorem structLogon : structOk "A" [98, 108] = true := by decide +kernel
theorem structLogout : structOk "5" [] = true := by decide +kernel
theorem structHb0 : structOk "0" [] = true := by decide +kernel
theorem structHb1 : structOk "0" [112] = true := by decide +kernel
theorem structTestReq : structOk "1" [112] = true := by decide +kernel
theorem structSeqReset : structOk "4" [34, 123, 36] = true := by decide +kernel
theorem structResend : structOk "2" [7, 16] = true := by decide +kernel
theorem structCxlReq : structOk "F" [11, 38, 41, 55, 54, 60] = true := by decide +kernel
theorem structRepReq : structOk "G" [11, 41, 40, 55, 44, 38, 54, 60] = true := by decide +kernel

end AsyncFix.Tester
