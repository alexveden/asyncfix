import AsyncFix.Model.Restart
import AsyncFix.Lemmas.SessionHandlers
import AsyncFix.Lemmas.RestartMonad

/-!
Restart family, equations: the segmented handlers compose to the sequential model functions; what `eof` and
`connected` leave behind.
-/
namespace AsyncFix.Restart

open AsyncFix.Session AsyncFix.Generated AsyncFix.Generated.ConnEnum

theorem sendCore_eq (env : Env) (m : Msg) :
    sendCore env m = (do
      let p ← sendAlloc env m
      sendJournal p.1 p.2
      sendWrite p.2
      sendDrain) := by
  funext c
  simp only [sendCore, sendAlloc, sendJournal, sendWrite, sendDrain, bind_assoc, M.ite_bind, M.throw_bind,
    M.get_bind_apply, M.ite_apply, M.throw_apply, pure_bind]
  split
  · rfl
  · rcases h : encodeSeq m c with ⟨r, c1, e1⟩
    cases r with
    | error ex => rw [M.bind_err h, M.bind_err h]
    | ok seq =>
      rw [M.bind_ok h, M.bind_ok h]
      simp only [M.get_bind_apply, M.ite_apply]
      split
      · rfl
      · cases hp : c1.journal.persist .outbound seq (buildFrame c1.sess env.stamp m seq) with
        | none => simp
        | some j => simp [M.ite_apply]

theorem sendSeq_eq (env : Env) (m : Msg) : sendSeq env m = sendMsg env m := by
  simp only [sendSeq, sendSegs, runSegs, sendMsg, sendCore_eq, bind_assoc, pure_bind, sendDrain, bind_pure_unit]

theorem finalize_eq (env : Env) (m : Msg) (s : RecvSt) (hgo : s.go = true) (hv : s.valid = true) :
    (do let s1 ← recvCount m s
        let s2 ← recvMark env s1
        let _ ← recvJournal m s2
        pure ()) = finalizeMessage env m := by
  simp only [recvCount, hgo, hv, Bool.and_self, if_true, finalizeMessage, bind_assoc, pure_bind]
  congr 1
  funext k
  by_cases hk : k ≤ 0
  · have : ¬ (k > 0) := by omega
    simp [recvMark, recvJournal, hk, this]
  · have : k > 0 := by omega
    simp only [recvMark, recvJournal, this, decide_true, if_true, hk, if_false, bind_assoc, pure_bind,
      bind_pure_unit, M.ite_bind]

theorem recvSeq_eq (sr : Msg → Bool) (env : Env) (m : Msg) : recvSeq sr env m = processMessage env sr m := by
  simp only [recvSeq, recvSegs, runSegs, processMessage, recvHead, bind_assoc, pure_bind]
  congr 1
  funext integ
  cases integ with
  | critical => simp [recvDispatch, recvCount, recvMark, recvJournal]
  | reason text => simp [recvDispatch, recvCount, recvMark, recvJournal]
  | good =>
    simp only [bind_assoc]
    congr 1
    funext head
    cases head with
    | none => simp [recvDispatch, recvCount, recvMark, recvJournal]
    | some p =>
      obtain ⟨valid, n⟩ := p
      simp only [pure_bind, recvDispatch, if_true, bind_assoc]
      congr 1
      funext _
      cases valid with
      | false => simp [recvCount, recvMark, recvJournal]
      | true =>
        simp only [if_true]
        exact finalize_eq env m _ rfl rfl

/-- killed after the last segment: the connection and the effects are those of `_process_message` -/
theorem recvPrefix_all {k : Nat} (hk : 5 ≤ k) (sr : Msg → Bool) (env : Env) (m : Msg) (c : Conn) :
    (recvPrefix k sr env m c).conn = (processMessage env sr m c).conn ∧
      (recvPrefix k sr env m c).eff = (processMessage env sr m c).eff := by
  have htake : (recvSegs sr env m).take k = recvSegs sr env m := List.take_of_length_le hk
  rw [recvPrefix, htake, ← recvSeq_eq]
  exact ⟨(M.bind_pure_out _ () c).1.symm, (M.bind_pure_out _ () c).2.symm⟩

/-! the transport events pointwise, to set a restart against a mere disconnect -/

theorem eof_apply (env : Env) (c : Conn) (hsock : c.sock = true) (hst : c.state > st_DISCONNECTED_BROKEN_CONN) :
    (eof env c).1 = { c with state := st_DISCONNECTED_BROKEN_CONN, testReqId := none, lastTime := 0,
                             maxResend := 0, sock := false } := by
  have hA : (st_DISCONNECTED_BROKEN_CONN == st_ACTIVE) = false := by decide
  rw [eof, if_pos hsock, M.run_ok (disconnect_none env hst (Nat.le_refl _))]
  simp only [discTail, discReset, hA, Bool.or_false]

theorem connected_apply (c : Conn) (k : ConnKind) (hs : c.sock = false) :
    (connected c k).1 = match k with
      | .initiator => { c with sock := true, state := st_NETWORK_CONN_ESTABLISHED }
      | .initiatorFailed => { c with state := st_DISCONNECTED_BROKEN_CONN }
      | .acceptor => { c with sock := true, state := st_NETWORK_CONN_ESTABLISHED } := by
  cases k <;>
    simp only [connected, M.run, connectedM, M.get_bind_apply, M.ite_apply, hs, Bool.false_eq_true, if_false,
      M.modify_bind_apply, M.emit_apply, M.modify_apply]

end AsyncFix.Restart
