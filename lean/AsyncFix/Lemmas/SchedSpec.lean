import AsyncFix.Lemmas.SchedInv

/-!
`MSpec x`: an `M` computation (code INSIDE one segment, no await) started under `J` relates its start and end by
`Seg`, a pending exception counted as `raised ex`.  Rules, the walk `spec_tac`, and the specifications of the
await-free handlers that leave the outbound side alone (`sendCore`, which does not, is in `SchedSendCore.lean`).
-/
namespace AsyncFix.Sched

open AsyncFix.Session AsyncFix.Generated AsyncFix.Generated.ConnEnum

structure MSpec {α : Type} (inb : Bool) (x : M α) : Prop where
  out : ∀ c, J c → Seg inb c (x c).conn ((x c).eff ++ pend (x c).res)

namespace MSpec
variable {α β : Type} {i : Bool}

theorem weaken {x : M α} (h : MSpec false x) : MSpec i x := ⟨fun c hJ => (h.out c hJ).weaken i⟩

theorem pure (a : α) : MSpec i (Pure.pure a : M α) := ⟨fun _ hJ => Seg.refl hJ⟩
theorem get : MSpec i M.get := ⟨fun _ hJ => Seg.refl hJ⟩

theorem throw {ex : Exc} (h : benign ex = true := by rfl) : MSpec i (M.throw ex : M α) :=
  ⟨fun _ hJ => seg_raise hJ h⟩

theorem liftE_get (m : Msg) (t : Nat) : MSpec i (M.liftE (m.get t)) := by
  constructor
  intro c hJ
  unfold Msg.get
  cases m.get? t with
  | some v => exact Seg.refl hJ
  | none => exact seg_raise hJ rfl

theorem assert (b : Bool) : MSpec i (M.assert b) := by
  constructor
  intro c hJ
  rw [M.assert_apply]
  split
  · exact Seg.refl hJ
  · exact seg_raise hJ rfl

theorem int (s : String) : MSpec i (M.int s) := by
  constructor
  intro c hJ
  rw [M.int_apply]
  split
  · exact Seg.refl hJ
  · exact seg_raise hJ rfl

theorem bind {x : M α} {f : α → M β} (hx : MSpec i x) (hf : ∀ a, MSpec i (f a)) : MSpec i (x >>= f) := by
  constructor
  intro c hJ
  have h1 := hx.out c hJ
  rcases hxc : x c with ⟨r, c1, e1⟩
  rw [hxc] at h1
  cases r with
  | error ex => rw [M.bind_err hxc]; exact h1
  | ok a =>
    rw [M.bind_ok hxc]
    simp only [pend, List.append_nil] at h1
    have h2 := (hf a).out c1 h1.inv
    simpa [List.append_assoc] using h1.trans h2

theorem ite {p : Prop} [Decidable p] {a b : M α} (ha : MSpec i a) (hb : MSpec i b) :
    MSpec i (if p then a else b) := by
  split <;> assumption

/-- `M.modify` that leaves the outbound side alone (the walk closes the three side goals by `rfl`) -/
theorem modify {f : Conn → Conn} (h1 : ∀ c, (f c).sess.nextOut = c.sess.nextOut)
    (h2 : ∀ c, (f c).journal.out = c.journal.out) (h3 : ∀ c, (f c).journal.outSeq = c.journal.outSeq) :
    MSpec i (M.modify f) :=
  ⟨fun c hJ => Seg.of_same hJ ⟨h1 c, h2 c, h3 c⟩ rfl rfl rfl⟩

theorem emit {e : Effect} (h : quiet e = true := by rfl) : MSpec i (M.emit e) :=
  ⟨fun _ hJ => seg_quiet hJ h⟩

/-- `except Exception: log` keeps the spec: the swallowed exception is counted as it would have been -/
theorem swallow {x : M α} (d : α) (hx : MSpec false x) : MSpec i (swallow d x) := by
  constructor
  intro c hJ
  have h1 := hx.out c hJ
  unfold Session.swallow
  rcases hxc : x c with ⟨r, c1, e1⟩
  rw [hxc] at h1
  cases r with
  | ok a => rw [M.tryCatch_ok hxc]; exact h1.weaken i
  | error ex =>
    rw [M.tryCatch_err hxc]
    simp only [pend] at h1
    have : Seg i c c1 (e1 ++ [.caught ex]) := h1.caught_of_raised
    simpa [M.bind_apply, pend] using this

end MSpec

set_option hygiene false in
/-- the walk for `MSpec`; `rfl` closes the side goals of `throw`, `emit` and `modify` -/
macro "spec_tac" "[" ls:term,* "]" : tactic =>
  `(tactic| walk_tac [$ls,*]
      with AsyncFix.Sched.MSpec.bind AsyncFix.Sched.MSpec.ite AsyncFix.Sched.MSpec.pure AsyncFix.Sched.MSpec.throw
        AsyncFix.Sched.MSpec.get AsyncFix.Sched.MSpec.liftE_get AsyncFix.Sched.MSpec.assert AsyncFix.Sched.MSpec.int
        AsyncFix.Sched.MSpec.emit AsyncFix.Sched.MSpec.modify
      opening)

variable {i : Bool}

/-- `set_seq_num(next_num_in = n)`: the outbound rows are all below the counter, so the `DELETE … >=`
removes none of them and the stored outbound counter is rewritten with its own value -/
theorem setSeqNum_in_spec (n : Int) : MSpec i (setSeqNum none (some n)) := by
  constructor
  intro c hJ
  rw [setSeqNum_in_apply]
  split
  · refine Seg.of_same hJ ⟨rfl, Rows.below_of_allLt _ _ hJ.below, ?_⟩ rfl rfl rfl
    have := hJ.counter
    simp only [Journal.setSeq]
    omega
  · exact seg_raise hJ rfl

theorem persistInbound_spec (m : Msg) : MSpec true (persistInbound m) := by
  constructor
  intro c hJ
  have hraise : Seg true c c [.raised .fixMessage] := seg_raise hJ rfl
  unfold persistInbound
  cases hg : m.get? tMsgSeqNum with
  | none => simpa [M.bind_apply, pend] using hraise
  | some v =>
    dsimp only
    cases hp : pyInt v with
    | none => simpa [M.bind_apply, pend] using hraise
    | some n =>
      simp only [M.bind_apply, M.pure_apply, M.get_apply, List.nil_append, Journal.persist]
      cases c.journal.inb.insert n m with
      | none => exact Seg.of_same hJ (OutSame.refl c) rfl rfl rfl
      | some r => exact Seg.of_same hJ ⟨rfl, rfl, rfl⟩ rfl rfl rfl

theorem stateSet_spec (s : Nat) : MSpec i (stateSet s) := by
  unfold stateSet
  spec_tac []

theorem sendGate_spec (m : Msg) : MSpec i (sendGate m) := by
  unfold sendGate
  spec_tac [stateSet_spec]

theorem validateIntegrity_spec (m : Msg) : MSpec i (validateIntegrity m) := by
  unfold validateIntegrity
  spec_tac []

theorem processSeqreset_spec (m : Msg) : MSpec i (processSeqreset m) := by
  unfold processSeqreset
  spec_tac [setSeqNum_in_spec]

theorem setNextNumIn_spec (m : Msg) : MSpec i (setNextNumIn m) := by
  unfold setNextNumIn
  spec_tac []

end AsyncFix.Sched
