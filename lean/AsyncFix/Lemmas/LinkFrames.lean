import AsyncFix.Lemmas.LinkGood

/-!
C07: single-byte checks and abstraction of the frames the endpoints build; journal-row bookkeeping; the session-level
messages the endpoints build (Logon, Logout, ResendRequest, SequenceReset-GapFill), each an `OutMsg` of a known kind, and
what journaling a freshly numbered frame does to the abstraction.
-/
namespace AsyncFix.Link

open AsyncFix.Session AsyncFix.Generated AsyncFix.Generated.ConnEnum
open AsyncFix.Session.Msg AsyncFix.Session.Rows

theorem isLatin1_nameI : isLatin1 nameI = true := by decide +kernel
theorem isLatin1_nameA : isLatin1 nameA = true := by decide +kernel

theorem writesOf_append (a b : List Effect) : writesOf (a ++ b) = writesOf a ++ writesOf b := by
  induction a with
  | nil => rfl
  | cons x xs ih => cases x <;> simp [writesOf, ih]

theorem deliveriesOf_append (a b : List Effect) : deliveriesOf (a ++ b) = deliveriesOf a ++ deliveriesOf b := by
  induction a with
  | nil => rfl
  | cons x xs ih => cases x <;> simp [deliveriesOf, ih]

theorem hasRaised_append (a b : List Effect) : hasRaised (a ++ b) = (hasRaised a || hasRaised b) := by
  induction a with
  | nil => rfl
  | cons x xs ih => cases x <;> simp [hasRaised, ih]

theorem appTagOk_hdr {k : Nat} (v : String) (h1 : k ∈ hdrTags) (h2 : (k == tPossDupFlag) = false)
    (h3 : (k == tOrigSendingTime) = false) : appTagOk (k, v) = false := by
  simp [appTagOk, h1, h2, h3]

/-- the encoder copies every field of an application message -/
theorem ownTags_app {m : Msg} (ha : isAppMsg m = true) : ownTags m = m.tags := by
  apply List.filter_eq_self.mpr
  intro p hp
  simp only [isAppMsg, Bool.and_eq_true, List.all_eq_true] at ha
  have := ha.2 p hp
  obtain ⟨k, v⟩ := p
  have a1 : k ≠ tMsgSeqNum := by
    rintro rfl; rw [appTagOk_hdr v (by decide) (by decide) (by decide)] at this; cases this
  have a2 : k ≠ tSendingTime := by
    rintro rfl; rw [appTagOk_hdr v (by decide) (by decide) (by decide)] at this; cases this
  have a3 : k ≠ tSenderCompID := by
    rintro rfl; rw [appTagOk_hdr v (by decide) (by decide) (by decide)] at this; cases this
  have a4 : k ≠ tTargetCompID := by
    rintro rfl; rw [appTagOk_hdr v (by decide) (by decide) (by decide)] at this; cases this
  simp [a1, a2, a3, a4]

/-- for an application message (no header tags among its fields) the check is exactly `msgLatin1` -/
theorem frameLatin1_build_app {s : Session} {stamp : String} {m : Msg} {n : Int}
    (h1 : isLatin1 s.sender = true) (h2 : isLatin1 s.target = true) (h3 : isLatin1 stamp = true)
    (ha : isAppMsg m = true) :
    frameLatin1 (buildFrame s stamp m n) = msgLatin1 m := by
  rw [frameLatin1_buildFrame_eq, h1, h2, h3, ownTags_app ha]
  simp [msgLatin1]

theorem isLatin1_of_get? {f : Msg} {t : Nat} {v : String} (hl : frameLatin1 f = true) (h : f.get? t = some v) :
    isLatin1 v = true :=
  all_of_lookup (fun p => isLatin1 p.2) f.tags t v hl h

theorem absFrame_seq {f : Msg} {n : Int} (h : f.get? tMsgSeqNum = some (pyStr n)) : (absFrame f).seq = n := by
  simp [absFrame, seqOf_of_get? h]

theorem absFrame_eq {f : Msg} {n : Int} {k : AKind} (hs : f.get? tMsgSeqNum = some (pyStr n))
    (hk : (absFrame f).kind = k) : absFrame f = ⟨n, k⟩ := by
  rw [← hk, ← absFrame_seq hs]

theorem intTag_of_get? {f : Msg} {t : Nat} {n : Int} (h : f.get? t = some (pyStr n)) : intTag f t = n := by
  simp [intTag, h, pyInt_pyStr]

theorem absFrame_logon {f : Msg} (h : f.mtype = mLogon) : (absFrame f).kind = .logon := by
  simp [absFrame, h]

theorem absFrame_resend {f : Msg} {b : Int} (h : f.mtype = mResendRequest)
    (hb : f.get? tBeginSeqNo = some (pyStr b)) : (absFrame f).kind = .resend b := by
  simp [absFrame, h, intTag_of_get? hb, mResendRequest, mLogon]

theorem absFrame_gapFill {f : Msg} {nw : Int} (h : f.mtype = mSequenceReset)
    (hb : f.get? tNewSeqNo = some (pyStr nw)) : (absFrame f).kind = .gapFill nw := by
  simp [absFrame, h, intTag_of_get? hb, mResendRequest, mLogon, mSequenceReset]

theorem absFrame_logout {f : Msg} (h : f.mtype = mLogout) : (absFrame f).kind = .logout := by
  simp [absFrame, h, mResendRequest, mLogon, mSequenceReset, mLogout]

theorem absFrame_app {f : Msg} (hA : f.mtype ≠ mLogon) (h2 : f.mtype ≠ mResendRequest)
    (h4 : f.mtype ≠ mSequenceReset) (h5 : f.mtype ≠ mLogout) :
    (absFrame f).kind = .app (payloadOf f) (f.get? tPossDupFlag == some "Y") := by
  simp [absFrame, hA, h2, h4, h5]

theorem allLt_append_last {k n : Int} {m : Msg} {rs : Rows} (h : AllLt k rs) (hk : k < n) :
    AllLt n (rs ++ [(k, m)]) :=
  allLt_append_singleton (allLt_mono (by omega) h) hk

theorem rowsGood_allLt {snd tgt : String} {o : Int} {rs : Rows} (h : RowsGood snd tgt o rs) : AllLt o rs :=
  fun p hp => (h.range p hp).2

theorem rowsGood_append {snd tgt : String} {o : Int} {rs : Rows} {f : Msg} (h : RowsGood snd tgt o rs)
    (ho : 1 ≤ o) (hf : FrameGood snd tgt f) (h34 : f.get? tMsgSeqNum = some (pyStr o)) :
    RowsGood snd tgt (o + 1) (rs ++ [(o, f)]) where
  sorted := sorted_append_last _ _ _ h.sorted (rowsGood_allLt h)
  range := by
    intro r hr
    rcases List.mem_append.mp hr with hr | hr
    · have := h.range r hr; omega
    · simp only [List.mem_singleton] at hr; subst hr; simp; omega
  good := by
    intro r hr
    rcases List.mem_append.mp hr with hr | hr
    · exact h.good r hr
    · simp only [List.mem_singleton] at hr; subst hr; exact ⟨hf, h34⟩

theorem absRow_frame {o : Int} {f : Msg} {k : AKind} (h : (absFrame f).kind = k)
    (hs : f.mtype ≠ mHeartbeat ∧ f.mtype ≠ mTestRequest) : absRow (o, f) = (o, k.entry) := by
  obtain ⟨h0, h1⟩ := hs
  subst h
  unfold absRow absFrame
  by_cases a1 : f.mtype = mLogon
  · simp [a1, noReplay, mLogon, AKind.entry]
  by_cases a2 : f.mtype = mResendRequest
  · simp [a2, noReplay, mLogon, mResendRequest, AKind.entry]
  by_cases a3 : f.mtype = mSequenceReset
  · simp [a3, noReplay, mLogon, mResendRequest, mSequenceReset, AKind.entry]
  by_cases a4 : f.mtype = mLogout
  · simp [a4, noReplay, mLogon, mResendRequest, mSequenceReset, mLogout, AKind.entry]
  have : ¬ f.mtype ∈ noReplay := by
    simp only [noReplay, List.mem_cons, List.not_mem_nil, or_false, not_or]
    exact ⟨h0, h1, a2, a3, a4, a1⟩
  simp [a1, a2, a3, a4, this, AKind.entry]

/-! The abstraction reads only the type and fields the encoder does not write, so it commutes with `buildFrame`:
what a frame abstracts to is decided by the message handed to `send_msg`. -/

section build
variable (s : Session) (stamp : String) (m : Msg) (n : Int)

theorem absFrame_build : absFrame (buildFrame s stamp m n) = ⟨n, (absFrame m).kind⟩ := by
  simp only [absFrame, seqOf_build, Option.getD_some, buildFrame_mtype, intTag, payloadOf_build,
    buildFrame_get?_other s stamp m n (t := tBeginSeqNo) (by decide),
    buildFrame_get?_other s stamp m n (t := tNewSeqNo) (by decide),
    buildFrame_get?_other s stamp m n (t := tPossDupFlag) (by decide)]

theorem kindOK_build : KindOK (buildFrame s stamp m n) = KindOK m := by
  simp only [KindOK, buildFrame_mtype, Msg.has,
    buildFrame_get?_other s stamp m n (t := tEncryptMethod) (by decide),
    buildFrame_get?_other s stamp m n (t := tHeartBtInt) (by decide),
    buildFrame_get?_other s stamp m n (t := tPossDupFlag) (by decide),
    buildFrame_get?_other s stamp m n (t := tBeginSeqNo) (by decide),
    buildFrame_get?_other s stamp m n (t := tEndSeqNo) (by decide),
    buildFrame_get?_other s stamp m n (t := tGapFillFlag) (by decide),
    buildFrame_get?_other s stamp m n (t := tNewSeqNo) (by decide)]

theorem absRow_build (k : Int) : absRow (k, buildFrame s stamp m n) = absRow (k, m) := by
  simp only [absRow, buildFrame_mtype, payloadOf_build]

end build

theorem kindOK_ne {f : Msg} (h : KindOK f) : f.mtype ≠ mHeartbeat ∧ f.mtype ≠ mTestRequest := by
  by_cases hA : f.mtype = mLogon
  · rw [hA]; decide
  by_cases h2 : f.mtype = mResendRequest
  · rw [h2]; decide
  by_cases h4 : f.mtype = mSequenceReset
  · rw [h4]; decide
  by_cases h5 : f.mtype = mLogout
  · rw [h5]; decide
  exact kindOK_app hA h2 h4 h5 ▸ h

/-- a message as an endpoint hands it to the encoder: single-byte, with the fields of its kind -/
structure OutMsg (m : Msg) : Prop where
  kind : KindOK m
  lty : isLatin1 m.mtype = true
  ltags : m.tags.all (fun p => isLatin1 p.2) = true

theorem OutMsg.frameGood {m : Msg} (h : OutMsg m) {s : Session} {stamp : String} (n : Int)
    (h1 : isLatin1 s.sender = true) (h2 : isLatin1 s.target = true) (h3 : isLatin1 stamp = true) :
    FrameGood s.sender s.target (buildFrame s stamp m n) :=
  frameGood_build (frameLatin1_buildFrame s stamp m n h1 h2 h3 h.lty h.ltags) (by rw [kindOK_build]; exact h.kind)

/-- the journal row of the frame, whatever its number -/
theorem OutMsg.absRow {m : Msg} (h : OutMsg m) (s : Session) (stamp : String) (k n : Int) :
    absRow (k, buildFrame s stamp m n) = (k, (absFrame m).kind.entry) :=
  (absRow_build s stamp m n k).trans (absRow_frame rfl (kindOK_ne h.kind))

/-- an application row (not one of the session-level types) -/
def IsAppRow (row : Msg) : Prop := ConnEnum.noReplay.contains row.mtype = false

theorem isAppRow_ne {row : Msg} (h : IsAppRow row) :
    row.mtype ≠ mHeartbeat ∧ row.mtype ≠ mTestRequest ∧ row.mtype ≠ mResendRequest ∧ row.mtype ≠ mSequenceReset ∧
      row.mtype ≠ mLogout ∧ row.mtype ≠ mLogon := by
  unfold IsAppRow at h
  simp only [noReplay, List.contains_eq_mem, List.mem_cons, List.not_mem_nil, or_false, decide_eq_false_iff_not,
    not_or] at h
  exact h

theorem absRow_of_appRow {row : Msg} (ha : IsAppRow row) (n : Int) : absRow (n, row) = (n, some (payloadOf row)) := by
  unfold absRow
  unfold IsAppRow at ha
  simp only [ha, Bool.false_eq_true, if_false]

theorem absRow_of_sessRow {row : Msg} (ha : ¬ IsAppRow row) (n : Int) : absRow (n, row) = (n, none) := by
  unfold absRow
  simp only [show ConnEnum.noReplay.contains row.mtype = true from eq_true_of_ne_false ha, if_true]

theorem outMsg_resendReq (b : Int) : OutMsg (resendRequestMsg b) :=
  ⟨by rw [kindOK_resend rfl]; exact ⟨⟨b, rfl⟩, rfl, rfl⟩, by show isLatin1 mResendRequest = true; decide,
    by simp [resendRequestMsg, Msg.mk', isLatin1_pyStr]; decide⟩

theorem kind_resendReq (b : Int) : (absFrame (resendRequestMsg b)).kind = .resend b := absFrame_resend rfl rfl

theorem outMsg_logonReply {e h : String} (he : isLatin1 e = true) (hh : isLatin1 h = true) :
    OutMsg (logonReplyMsg e h) :=
  ⟨by rw [kindOK_logon rfl]; exact ⟨rfl, rfl, rfl⟩, by show isLatin1 mLogon = true; decide,
    by simp [logonReplyMsg, Msg.mk', he, hh]⟩

theorem kind_logonReply (e h : String) : (absFrame (logonReplyMsg e h)).kind = .logon := absFrame_logon rfl

theorem outMsg_logout {text : String} (ht : isLatin1 text = true) : OutMsg (logoutMsg text) :=
  ⟨by rw [kindOK_logout rfl]; exact logoutMsg_get43 text, by show isLatin1 mLogout = true; decide,
    by unfold logoutMsg Msg.mk'; by_cases h : text == "" <;> simp [h, ht]⟩

theorem kind_logout (text : String) : (absFrame (logoutMsg text)).kind = .logout := absFrame_logout rfl

theorem outMsg_gapFill (a z : Int) : OutMsg (gapFillMsg a z) :=
  ⟨by rw [kindOK_gapFill rfl]; exact ⟨rfl, ⟨z, rfl⟩, rfl⟩, by show isLatin1 mSequenceReset = true; decide,
    by simp [gapFillMsg, Msg.mk', isLatin1_pyStr]; decide⟩

theorem kind_gapFill (a z : Int) : (absFrame (gapFillMsg a z)).kind = .gapFill z := absFrame_gapFill rfl rfl

/-- journaling a freshly numbered frame is `AConn.push` of the kind of its message, on any connection -/
theorem absConn_sentFresh {m : Msg} (hm : OutMsg m) (stamp : String) (c : Conn) :
    absConn (sentFresh c (buildFrame c.sess stamp m c.sess.nextOut)) = ((absConn c).push (absFrame m).kind).1 := by
  simp only [absConn, sentFresh, AConn.push, List.map_append, List.map_cons, List.map_nil, hm.absRow]

end AsyncFix.Link
