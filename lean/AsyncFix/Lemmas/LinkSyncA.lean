import AsyncFix.Lemmas.LinkSafeB

/-!
Link family, coverage invariant (`SyncInv`), one direction: list lemmas (`dropWhile`, `requests`), the
reply to `ResendRequest(b, 0)` is a chain `b … o` of gap fills and retransmissions (`serve_spec`), what an
established endpoint does with a frame (`arecv_est`), the three ways `DirSync` is established (`DirSync.of_active`,
`.of_asking`, `.of_answered`: G1, G2, G3) and what it reads (`DirSync.congr`), and its preservation in both directions by a
delivery (`dirsync_recv`, `dirsync_serve`) and by a fresh numbered send (`dirsync_push_fwd`, `dirsync_push_bwd`).
-/
namespace AsyncFix.Link

open AsyncFix.Session

theorem dropWhile_nil_iff {α} (p : α → Bool) (l : List α) : l.dropWhile p = [] ↔ ∀ x ∈ l, p x = true := by
  induction l with
  | nil => simp
  | cons x r ih =>
    by_cases hx : p x = true
    · simp [hx, ih]
    · simp [hx]

theorem dropWhile_append_of_nil {α} (p : α → Bool) (l r : List α) (h : l.dropWhile p = []) :
    (l ++ r).dropWhile p = r.dropWhile p := by
  induction l with
  | nil => rfl
  | cons x t ih =>
    by_cases hx : p x = true
    · simp [hx] at h ⊢
      exact ih h
    · simp [hx] at h

theorem dropWhile_append_of_ne_nil {α} (p : α → Bool) (l r : List α) (h : l.dropWhile p ≠ []) :
    (l ++ r).dropWhile p = l.dropWhile p ++ r := by
  induction l with
  | nil => simp at h
  | cons x t ih =>
    by_cases hx : p x = true
    · simp [hx] at h ⊢
      exact ih h
    · simp [hx]

theorem dropWhile_chain {Q : List AFrame} {e b : Int} (h : chain e Q b) :
    Q.dropWhile (fun f => e < f.seq) = Q := by
  cases Q with
  | nil => rfl
  | cons f r =>
    obtain ⟨h1, _, _⟩ := h
    simp [h1]

theorem dropWhile_chain_above {Q : List AFrame} {e a b : Int} (h : chain a Q b) (ha : e < a) :
    Q.dropWhile (fun f => e < f.seq) = [] := by
  rw [dropWhile_nil_iff]
  intro f hf
  have := chain_seq_ge h f hf
  simp; omega

theorem est.ne_disc {s : ASt} (h : est s) : s ≠ .disc := by
  rcases h with h | h <;> simp [h]

/-- neither Logon nor Logout -/
def clean (f : AFrame) : Prop := f.kind ≠ .logon ∧ f.kind ≠ .logout

theorem isData.clean {f : AFrame} (h : isData f) : clean f := by
  unfold isData at h; unfold Link.clean
  cases hk : f.kind <;> simp_all

theorem isData.resendB {f : AFrame} (h : isData f) : resendB f = none := by
  unfold isData at h; unfold Link.resendB
  cases hk : f.kind <;> simp_all

theorem requests_append (q r : List AFrame) : requests (q ++ r) = requests q ++ requests r := by
  simp [requests, List.filterMap_append]

theorem requests_cons (f : AFrame) (r : List AFrame) :
    requests (f :: r) = (match resendB f with | some b => b :: requests r | none => requests r) := by
  simp only [requests, List.filterMap_cons]
  cases resendB f <;> rfl

theorem requests_data {q : List AFrame} (h : ∀ f ∈ q, isData f) : requests q = [] := by
  induction q with
  | nil => rfl
  | cons f r ih =>
    rw [requests_cons, (h f (by simp)).resendB]
    exact ih fun g hg => h g (by simp [hg])

theorem all_not_logon {q : List AFrame} : q.all (fun g => !isLogon g) = true ↔ ∀ f ∈ q, f.kind ≠ .logon := by
  simp [isLogon]

theorem all_not_logout {q : List AFrame} : q.all (fun g => !isLogout g) = true ↔ ∀ f ∈ q, f.kind ≠ .logout := by
  simp [isLogout]

/-- the fields of an endpoint that `serve` does not touch -/
def AConn.same (c d : AConn) : Prop := d.st = c.st ∧ d.e = c.e ∧ d.o = c.o ∧ d.w = c.w ∧ d.ini = c.ini

theorem AConn.same.rfl' (c : AConn) : c.same c := ⟨rfl, rfl, rfl, rfl, rfl⟩

/-- the reply to `ResendRequest(b, 0)`, `1 ≤ b < o`: a chain `b … o` of gap fills and retransmissions -/
theorem serve_spec (c : AConn) (b : Int) (hb1 : 1 ≤ b) (hbo : b < c.o) (hk : keysOK c.o c.out)
    (hmax : c.o ≤ sysMaxsize + 1) :
    chain b (c.serve b).2 c.o ∧ (∀ f ∈ (c.serve b).2, isData f) ∧ c.same (c.serve b).1 := by
  obtain ⟨F, e, h1, h2, _⟩ := serve_reply c b hk hmax hb1 hbo
  rw [e]
  exact ⟨h1, h2, AConn.same.rfl' c⟩

/-- endpoint and frames written by the `ResendRequest` part of `arecv` -/
def served (c : AConn) (f : AFrame) : AConn × List AFrame :=
  match f.kind with
  | .resend b => c.serve b
  | _ => (c, [])

/-- an established endpoint, a frame that is neither Logon nor Logout and is not numbered below `e`
(and, if numbered `e`, is well-formed): a ResendRequest is served; the frame is accepted iff numbered `e` -/
theorem arecv_est (c : AConn) (f : AFrame) (hst : est c.st) (hn : c.e ≤ f.seq) (hcl : clean f)
    (hnext : f.seq = c.e → f.seq < f.next) (hjunk : f.seq = c.e ∨ c.st = .awaiting) :
    (arecv c f).c = (if f.seq = c.e then (served c f).1.advance f.next else (served c f).1) ∧
    (arecv c f).wr = (served c f).2 := by
  obtain ⟨n, k⟩ := f
  obtain ⟨hl1, hl2⟩ := hcl
  simp only at hn hl1 hl2 hnext hjunk
  have hnlt : ¬ n < c.e := by omega
  have hconn : c.st ≠ .conn := by rcases hst with h | h <;> simp [h]
  have hsent : c.st ≠ .sent := by rcases hst with h | h <;> simp [h]
  by_cases he : n = c.e
  · have hnx := hnext he
    cases k with
    | logon => exact absurd rfl hl1
    | logout => exact absurd rfl hl2
    | gapFill nw =>
      simp only [AFrame.next] at hnx
      have : c.e < nw := by omega
      simp [arecv, served, hconn, hsent, he, AFrame.next, this]
    | resend b => simp [arecv, served, hconn, hsent, he, AFrame.next]
    | app p pd => simp [arecv, served, hconn, hsent, he, AFrame.next]
  · have haw : c.st = .awaiting := by rcases hjunk with h | h; exact absurd h he; exact h
    have hgt : c.e < n := by omega
    cases k with
    | logon => exact absurd rfl hl1
    | logout => exact absurd rfl hl2
    | gapFill nw => simp [arecv, served, hnlt, he, haw]
    | resend b => simp [arecv, served, hnlt, he, haw]
    | app p pd => simp [arecv, served, hnlt, he, haw, hgt]

/-- `Y` active: the frames in flight are exactly what `Y` has not seen, and no request of `Y` is in flight (G1) -/
theorem DirSync.of_active {X Y : AConn} {Q Q' : List AFrame} (ha : Y.st = .active) (hc : chain Y.e Q X.o)
    (hr : requests Q' = []) : DirSync X Y Q Q' :=
  ⟨fun _ => ⟨hc, hr⟩, fun h => (by rw [ha] at h; cases h)⟩

/-- `Y` awaiting, its request still in flight: everything towards it is numbered above `e` (G2) -/
theorem DirSync.of_asking {X Y : AConn} {Q Q' : List AFrame} (ha : Y.st = .awaiting) (h1 : Y.e ≤ Y.w)
    (h2 : Y.w < X.o) (hj : Q.dropWhile (fun f => Y.e < f.seq) = []) (hr : requests Q' = [Y.e]) :
    DirSync X Y Q Q' :=
  ⟨fun h => (by rw [ha] at h; cases h), fun _ => ⟨h1, h2, Or.inl ⟨hj, hr⟩⟩⟩

/-- `Y` awaiting, the answer in flight behind the frames numbered above `e` (G3) -/
theorem DirSync.of_answered {X Y : AConn} {Q Q' : List AFrame} (ha : Y.st = .awaiting) (h1 : Y.e ≤ Y.w)
    (h2 : Y.w < X.o) (hne : Q.dropWhile (fun f => Y.e < f.seq) ≠ [])
    (hc : chain Y.e (Q.dropWhile fun f => Y.e < f.seq) X.o) (hr : requests Q' = []) : DirSync X Y Q Q' :=
  ⟨fun h => (by rw [ha] at h; cases h), fun _ => ⟨h1, h2, Or.inr ⟨hne, hc, hr⟩⟩⟩

/-- `DirSync X Y Q Q'` reads `X.o`, the phase and the numbers `e`, `w` of `Y`, `Q`, and the requests in `Q'` -/
theorem DirSync.congr {X Y X' Y' : AConn} {Q Q' Q'' : List AFrame} (h : DirSync X Y Q Q') (ho : X'.o = X.o)
    (hst : Y'.st = Y.st) (he : Y'.e = Y.e) (hw : Y'.w = Y.w) (hr : requests Q'' = requests Q') :
    DirSync X' Y' Q Q'' := by
  unfold DirSync at h ⊢
  rw [ho, hst, he, hw, hr]
  exact h

/-- head of the queue towards an established `Y`: numbered `e` (then well-formed) or, while awaiting, above -/
theorem dirsync_head {X Y : AConn} {f : AFrame} {rest Q' : List AFrame} (h : DirSync X Y (f :: rest) Q')
    (hst : est Y.st) :
    Y.e ≤ f.seq ∧ (f.seq = Y.e → f.seq < f.next) ∧ (f.seq = Y.e ∨ Y.st = .awaiting) := by
  rcases hst with ha | ha
  · obtain ⟨⟨h1, h2, _⟩, _⟩ := h.1 ha
    exact ⟨by omega, fun _ => h2, Or.inl h1⟩
  · obtain ⟨_, _, h3⟩ := h.2 ha
    by_cases hj : Y.e < f.seq
    · exact ⟨by omega, fun h => by omega, Or.inr ha⟩
    · simp only [List.dropWhile_cons, hj, decide_false] at h3
      rcases h3 with ⟨h3, _⟩ | ⟨_, ⟨h1, h2, _⟩, _⟩
      · simp at h3
      · exact ⟨by omega, fun _ => h2, Or.inl h1⟩

/-- `Y` takes the head frame `f` of `Q`; `Ys` is `Y` after serving (same phase and counters), `Q''` the opposite
queue afterwards (same requests) -/
theorem dirsync_recv {X Y Ys : AConn} {f : AFrame} {rest Q' Q'' : List AFrame} (h : DirSync X Y (f :: rest) Q')
    (hst : est Y.st) (hs : Y.same Ys) (hq : requests Q'' = requests Q') (hw : Y.st = .awaiting → 0 < Y.w)
    (Y' : AConn) (hY' : Y' = if f.seq = Y.e then Ys.advance f.next else Ys) :
    DirSync X Y' rest Q'' ∧ est Y'.st ∧ (Y'.st = .awaiting → 0 < Y'.w) ∧ Y'.o = Y.o ∧ Y'.ini = Y.ini := by
  obtain ⟨hs1, hs2, hs3, hs4, hs5⟩ := hs
  obtain ⟨hh1, _, _⟩ := dirsync_head h hst
  rcases hst with ha | ha
  · -- active: the head is numbered e
    obtain ⟨⟨h1, h2, h3⟩, h4⟩ := h.1 ha
    have : Y' = { Ys with e := f.next } := by simp [hY', h1, AConn.advance, hs1, ha]
    subst this
    have hst' : Ys.st = .active := hs1.trans ha
    exact ⟨.of_active hst' h3 (hq.trans h4), Or.inl hst', fun h => (by rw [hst'] at h; cases h), hs3, hs5⟩
  · obtain ⟨g1, g2, g3⟩ := h.2 ha
    have hst' : Ys.st = .awaiting := hs1.trans ha
    by_cases hj : Y.e < f.seq
    · -- numbered above e: ignored
      have hne : ¬ f.seq = Y.e := by omega
      have : Y' = Ys := by simp [hY', hne]
      subst this
      simp only [List.dropWhile_cons, hj, decide_true, if_true] at g3
      exact ⟨(DirSync.congr ⟨fun h => (by rw [ha] at h; cases h), fun _ => ⟨g1, g2, g3⟩⟩ rfl hs1 hs2 hs4 hq),
        Or.inr hst', fun _ => hs4 ▸ hw ha, hs3, hs5⟩
    · have he : f.seq = Y.e := by omega
      simp only [List.dropWhile_cons, hj, decide_false] at g3
      rcases g3 with ⟨g3, _⟩ | ⟨_, ⟨_, h2, h3⟩, h4⟩
      · simp at g3
      · by_cases hdone : f.next - 1 ≥ Y.w
        · have : Y' = { Ys with e := f.next, st := .active, w := 0 } := by
            simp [hY', he, AConn.advance, hs1, ha, hs4, hdone]
          subst this
          exact ⟨.of_active rfl h3 (hq.trans h4), Or.inl rfl, nofun, hs3, hs5⟩
        · have : Y' = { Ys with e := f.next } := by
            simp [hY', he, AConn.advance, hs1, ha, hs4, hdone]
          subst this
          have hne : rest ≠ [] := by
            rintro rfl
            have := chain_nil.1 h3
            omega
          have hd := dropWhile_chain h3
          exact ⟨.of_answered hst' (by show f.next ≤ Ys.w; omega) (by show Ys.w < X.o; omega)
              (by rw [hd]; exact hne) (by rw [hd]; exact h3) (hq.trans h4),
            Or.inr hst', fun _ => hs4 ▸ hw ha, hs3, hs5⟩

/-- a ResendRequest of `X` in flight: `X` is awaiting, everything in flight towards it is junk, and it asks
for `X.e` -/
theorem resend_inflight {X Y : AConn} {f : AFrame} {rest Q' : List AFrame} {b : Int}
    (h : DirSync Y X Q' (f :: rest)) (hst : est X.st) (hk : f.kind = .resend b) :
    X.st = .awaiting ∧ b = X.e ∧ X.e ≤ X.w ∧ X.w < Y.o ∧ Q'.dropWhile (fun g => X.e < g.seq) = [] ∧
      requests rest = [] := by
  have hr : requests (f :: rest) = b :: requests rest := by simp [requests_cons, resendB, hk]
  rcases hst with ha | ha
  · have := (h.1 ha).2
    simp [hr] at this
  · obtain ⟨g1, g2, g3⟩ := h.2 ha
    rw [hr] at g3
    rcases g3 with ⟨g3, g4⟩ | ⟨_, _, g4⟩
    · simp at g4
      exact ⟨ha, g4.1, g1, g2, g3, g4.2⟩
    · simp at g4

theorem dirsync_serve {X Y : AConn} {f : AFrame} {rest Q' : List AFrame}
    (h : DirSync Y X Q' (f :: rest)) (hst : est X.st) (he1 : 1 ≤ X.e) (hk : keysOK Y.o Y.out)
    (hmax : Y.o ≤ sysMaxsize + 1) :
    (∀ Y' : AConn, Y'.o = Y.o → DirSync Y' X (Q' ++ (served Y f).2) rest) ∧ (∀ g ∈ (served Y f).2, isData g) ∧
      Y.same (served Y f).1 := by
  by_cases hres : ∃ b, f.kind = .resend b
  · obtain ⟨b, hb⟩ := hres
    obtain ⟨ha, rfl, g1, g2, g3, g4⟩ := resend_inflight h hst hb
    obtain ⟨s1, s2, s3⟩ := serve_spec Y X.e he1 (by omega) hk hmax
    have hsv : served Y f = Y.serve X.e := by simp [served, hb]
    rw [hsv]
    refine ⟨fun Y' ho => ?_, s2, s3⟩
    have hne : (Y.serve X.e).2 ≠ [] := by
      intro h0
      rw [h0] at s1
      have := chain_nil.1 s1
      omega
    have hd : (Q' ++ (Y.serve X.e).2).dropWhile (fun g => X.e < g.seq) = (Y.serve X.e).2 := by
      rw [dropWhile_append_of_nil _ _ _ g3, dropWhile_chain s1]
    exact .of_answered ha g1 (ho ▸ g2) (by rw [hd]; exact hne) (by rw [hd, ho]; exact s1) g4
  · have hsv : served Y f = (Y, []) := by
      unfold served
      cases hk' : f.kind <;> simp_all
    have hr : requests (f :: rest) = requests rest := by
      have : resendB f = none := by
        unfold resendB
        cases hk' : f.kind <;> simp_all
      simp [requests_cons, this]
    rw [hsv]
    exact ⟨fun Y' ho => by simpa using h.congr ho rfl rfl rfl hr.symm, by simp, AConn.same.rfl' Y⟩

theorem dirsync_push_fwd {X X' Y : AConn} {Q Q' : List AFrame} {k : AKind} (h : DirSync X Y Q Q')
    (ho : X'.o = X.o + 1) (hk : (⟨X.o, k⟩ : AFrame).next = X.o + 1) :
    DirSync X' Y (Q ++ [⟨X.o, k⟩]) Q' := by
  refine ⟨fun ha => ?_, fun ha => ?_⟩
  · obtain ⟨h1, h2⟩ := h.1 ha
    rw [ho, ← hk]
    exact ⟨chain_snoc _ h1 rfl (by rw [hk]; show X.o < X.o + 1; omega), h2⟩
  · obtain ⟨g1, g2, g3⟩ := h.2 ha
    refine ⟨g1, by omega, ?_⟩
    rcases g3 with ⟨g3, g4⟩ | ⟨g3, g4, g5⟩
    · left
      refine ⟨?_, g4⟩
      rw [dropWhile_append_of_nil _ _ _ g3]
      have : Y.e < X.o := by omega
      simp [this]
    · right
      rw [dropWhile_append_of_ne_nil _ _ _ g3]
      refine ⟨by simp, ?_, g5⟩
      rw [ho, ← hk]
      exact chain_snoc _ g4 rfl (by rw [hk]; show X.o < X.o + 1; omega)

theorem dirsync_push_bwd {X X' Y : AConn} {Q Q' : List AFrame} {f : AFrame} (h : DirSync Y X Q' Q)
    (hst : X'.st = X.st) (he : X'.e = X.e) (hw : X'.w = X.w) (hf : resendB f = none) :
    DirSync Y X' Q' (Q ++ [f]) :=
  h.congr rfl hst he hw (by simp [hf, requests])

end AsyncFix.Link
