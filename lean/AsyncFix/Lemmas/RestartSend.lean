import AsyncFix.Lemmas.RestartInv
import AsyncFix.Lemmas.SessionData
import AsyncFix.Lemmas.SessionHandlers
import AsyncFix.Lemmas.SessionPlain

/-!
`send_msg`: which messages take a new number (`ownSeq`) and which frames are new; the gate is quiet; an own number
leaves the counters alone and writes no new frame (`RResend`); a new number keeps `Good` when the send returns.
-/

namespace AsyncFix.Restart

open AsyncFix.Session AsyncFix.Generated AsyncFix.Generated.ConnEnum

variable {g : List Effect → Bool} {om : Option Msg}

theorem pyStr_inj {a b : Int} (h : pyStr a = pyStr b) : a = b :=
  Option.some.inj (by rw [← pyInt_pyStr a, h, pyInt_pyStr])

theorem get_ok_get? {m : Msg} {t : Nat} {v : String} (h : m.get t = .ok v) : m.get? t = some v := by
  unfold Msg.get at h
  split at h
  · rename_i w hw; cases h; exact hw
  · cases h

theorem seqOf_of_get {m : Msg} {v : String} {n : Int} (hv : m.get tMsgSeqNum = .ok v) (hn : pyInt v = some n) :
    seqOf m = some n := by
  rw [seqOf, get_ok_get? hv, Option.bind_some, hn]

theorem newSeqOf_of_get {m : Msg} {w : String} {nw : Int} (hw : m.get tNewSeqNo = .ok w)
    (hn : pyInt w = some nw) : newSeqOf m = some nw := by
  rw [newSeqOf, get_ok_get? hw, Option.bind_some, hn]

theorem buildFrame_isNew (s : Session) (st : String) (m : Msg) (seq : Int) :
    isNewFrame (buildFrame s st m seq) = !ownSeq m := by
  rw [isNewFrame_eq, Session.buildFrame_isNew, ownSeq_eq, Bool.not_not]

theorem prepareReplay_possdup {r rp : Msg} (h : prepareReplay r = .ok rp) :
    rp.get? tPossDupFlag = some "Y" := by
  unfold prepareReplay at h
  simp only [bind, Except.bind, pure, Except.pure] at h
  repeat' split at h
  all_goals first
    | cases h
    | skip
  · rename_i _ _ e6 _ _ _ e5 _ _ e4 _ _ e3 _ _ e2 _ _ e1 _ _ e0
    rw [Msg.delR_of_del h, Msg.delR_of_del e0, Msg.delR_of_del e1, Msg.delR_of_del e2, Msg.delR_of_del e3,
      Msg.delR_of_del e4, Msg.delR_of_del e5, Msg.setR_of_set e6]
    simp [Msg.get?_delR, Msg.get?_setR, tPossDupFlag, tCheckSum, tTargetCompID, tSenderCompID, tSendingTime,
      tBodyLength, tBeginString, tMsgType]
  · rename_i _ _ e8 _ _ _ _ _ _ e6 _ _ e5 _ _ e4 _ _ e3 _ _ e2 _ _ e1 _ _ e0
    rw [Msg.delR_of_del h, Msg.delR_of_del e0, Msg.delR_of_del e1, Msg.delR_of_del e2, Msg.delR_of_del e3,
      Msg.delR_of_del e4, Msg.delR_of_del e5, Msg.setR_of_set e6, Msg.setR_of_set e8]
    simp [Msg.get?_delR, Msg.get?_setR, tPossDupFlag, tCheckSum, tTargetCompID, tSenderCompID, tSendingTime,
      tBodyLength, tBeginString, tMsgType, tOrigSendingTime]

theorem ownSeq_logout (text : String) : ownSeq (logoutMsg text) = false := by
  rw [ownSeq_eq, (logoutMsg_plain text).isNew]; rfl

theorem ownSeq_of_possdup {m : Msg} (h : m.get? tPossDupFlag = some "Y") : ownSeq m = true := by
  simp [ownSeq, h]

theorem ownSeq_gapFill (a b : Int) : ownSeq (gapFillMsg a b) = true := by
  show (mSequenceReset == mSequenceReset || _) = true
  rfl

theorem rows_insert_find' {k : Int} {m : Msg} {rs r : Rows} (h : Rows.insert k m rs = some r) :
    r.find k = some m := Rows.find_insert h

section walk
attribute [local irreducible] M.bind' M.pure' M.throw M.tryCatch M.get M.modify M.emit M.liftE M.assert M.int

theorem stateSet_quietly (s : Nat) : M.Rel Quietly (stateSet s) := by
  unfold stateSet
  exact M.Rel.bind (Quietly.modify fun _ => ⟨rfl, rfl, rfl⟩) fun _ => Quietly.emit (by intro f h; cases h)

theorem sendGate_quietly (m : Msg) : M.Rel Quietly (sendGate m) := by
  unfold sendGate
  rel_tac [stateSet_quietly, Quietly.modify]
  all_goals exact ⟨rfl, rfl, rfl⟩

/-- SequenceReset and PossDupFlag=Y: the number is read off the message -/
theorem encodeSeq_own (m : Msg) (h : ownSeq m = true) : M.Rel RSame (encodeSeq m) := by
  unfold encodeSeq
  unfold ownSeq at h
  by_cases h1 : (m.mtype == mSequenceReset) = true
  · simp only [h1, if_true]
    rel_tac []
  · simp only [h1, Bool.false_or] at h
    simp only [h1, h, if_true, Bool.false_eq_true, if_false]
    rel_tac []

end walk

theorem Good.modify {f : Conn → Conn}
    (h : ∀ c, (f c).sess = c.sess ∧ (f c).journal = c.journal ∧ (f c).hb = c.hb) :
    OkRel g (Good om) (M.modify f) :=
  OkSpec.ofRel ((Quietly.modify h).mono fun _ _ _ q => q.frame.good)

theorem Good.emit {e : Effect} (h : ∀ f, e ≠ .write f) : OkRel g (Good om) (M.emit e) :=
  OkSpec.ofRel ((Quietly.emit h).mono fun _ _ _ q => q.frame.good)

theorem stateSet_good (s : Nat) : OkRel g (Good om) (stateSet s) :=
  OkSpec.ofRel ((stateSet_quietly s).mono fun _ _ _ q => q.frame.good)

/-- own number: the session object is left alone and the frame written is not a new one -/
theorem sendCore_rr (env : Env) (m : Msg) (hown : ownSeq m = true) : M.Rel RResend (sendCore env m) := by
  constructor
  intro c
  have hs := (encodeSeq_own m hown).out c
  rcases he : encodeSeq m c with ⟨r, c1, e1⟩
  rw [he] at hs
  obtain ⟨rfl, rfl⟩ := hs
  rw [sendCore_apply env m he]
  split
  · exact Compositional.refl _
  cases r with
  | error ex => exact Compositional.refl _
  | ok seq =>
    dsimp only
    split
    · exact ⟨rfl, rfl, rfl, rfl, NoNewWrites.nil⟩
    split
    · exact Compositional.refl _
    · rename_i j hj
      obtain ⟨_, _, rfl⟩ := persist_out_inv hj
      split
      · exact ⟨rfl, rfl, rfl, rfl, NoNewWrites.nil⟩
      · refine ⟨rfl, rfl, rfl, rfl, fun f hf => ?_⟩
        simp only [List.mem_singleton, Effect.write.injEq] at hf
        rw [hf, buildFrame_isNew, hown]; rfl

/-- new number: a send that returns has journaled and written the frame numbered `nextOut` and moved the counter
past it -/
theorem sendCore_new (env : Env) (m : Msg) (hnew : ownSeq m = false) (c : Conn) :
    ∀ a, (sendCore env m c).res = .ok a → Good om c (sendCore env m c).conn (sendCore env m c).eff := by
  have h := Bool.or_eq_false_iff.mp hnew
  rw [sendCore_fresh env (ne_of_beq_false h.1) (ne_of_beq_false h.2) c]
  split
  · exact fun _ h => by cases h
  dsimp only
  split
  · exact fun _ h => by cases h
  generalize hfr : buildFrame _ env.stamp m c.sess.nextOut = fr
  split
  · exact fun _ h => by cases h
  · rename_i j hj
    obtain ⟨_, _, rfl⟩ := persist_out_inv hj
    split
    · exact fun _ h => by cases h
    · refine fun _ _ => ⟨fun _ => rfl, ?_, ?_, Or.inl ⟨rfl, rfl, rfl⟩, ⟨rfl, rfl, rfl⟩, id⟩
      · show c.sess.nextOut ≤ c.sess.nextOut + 1
        omega
      · intro f n hf _ hs
        simp only [List.mem_singleton, Effect.write.injEq] at hf
        rw [hf, ← hfr, buildFrame_get_seq] at hs
        have := pyStr_inj (Option.some.inj hs)
        show n < c.sess.nextOut + 1
        omega

theorem sendMsg_rr (env : Env) (m : Msg) (hown : ownSeq m = true) : M.Rel RResend (sendMsg env m) :=
  M.Rel.bind ((sendGate_quietly m).mono fun _ _ _ q => q.frame.resend) fun _ => sendCore_rr env m hown

theorem sendMsg_good [EffGuard g] (env : Env) (m : Msg) (hnew : ownSeq m = false) :
    OkRel g (Good om) (sendMsg env m) :=
  OkRel.bind (OkSpec.ofRel ((sendGate_quietly m).mono fun _ _ _ q => q.frame.good))
    fun _ => ⟨fun c a _ _ h _ => by have := sendCore_new (om := om) env m hnew c a (by rw [h]); rwa [h] at this⟩

end AsyncFix.Restart
