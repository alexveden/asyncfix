import AsyncFix.Lemmas.SessionFoot

/-!
Session family: the trace relations shared by the families, each with the kinds of step it admits (`SessionFoot`).
Three for the handlers that never disconnect:

* `RSame`: connection and trace untouched (`validateIntegrity`); it implies every reflexive relation.
* `RSil`: nothing emitted, state kept (the counter / journal updates).
* `RPlain c c' e`: the state after the handler is the one its `on_state_change` calls report (`track`), and the
  trace contains no `deliver`, no `onDisconnect`, no `onConnect`, and only `onState s` with `s` a connected state
  (everything on the sending side, the gap check, `_process_resend`, `_finalize_message`).

and one for every handler: `RAB`, "`on_disconnect` calls = transitions into a disconnected state".
-/
namespace AsyncFix.Session

open AsyncFix.Generated.ConnEnum

def RSame (c c' : Conn) (e : List Effect) : Prop := e = [] ∧ c' = c

instance : Compositional RSame where
  refl := fun _ => ⟨rfl, rfl⟩
  trans := by
    intro c c1 c2 e1 e2 h1 h2
    exact ⟨by rw [h1.1, h2.1]; rfl, by rw [h2.2, h1.2]⟩

theorem RSame.to {α : Type} {R : Conn → Conn → List Effect → Prop} [Compositional R] {x : M α}
    (h : M.Rel RSame x) : M.Rel R x :=
  ⟨fun c => by rw [(h.out c).1, (h.out c).2]; exact Compositional.refl c⟩

def RSil (c c' : Conn) (e : List Effect) : Prop := e = [] ∧ c'.state = c.state

instance : Compositional RSil where
  refl := fun _ => ⟨rfl, rfl⟩
  trans := by
    intro c c1 c2 e1 e2 h1 h2
    exact ⟨by rw [h1.1, h2.1]; rfl, by rw [h2.2, h1.2]⟩

def plainUp : Effect → Bool
  | .deliver _ => false
  | .onDisconnect => false
  | .onConnect => false
  | .onState s => !isDisc s
  | _ => true

def RPlain (c c' : Conn) (e : List Effect) : Prop :=
  c'.state = track c.state e ∧ e.all plainUp = true

instance : Compositional RPlain where
  refl := fun c => ⟨rfl, rfl⟩
  trans := by
    intro c c1 c2 e1 e2 h1 h2
    refine ⟨?_, ?_⟩
    · rw [track_append, ← h1.1, h2.1]
    · rw [List.all_append, h1.2, h2.2]; rfl

theorem RSil.toPlain {α : Type} {x : M α} (h : M.Rel RSil x) : M.Rel RPlain x :=
  ⟨fun c => by rw [RPlain, (h.out c).1]; exact ⟨(h.out c).2, rfl⟩⟩

theorem RPlain.modify {f : Conn → Conn} (h : ∀ c, (f c).state = c.state) :
    M.Rel RPlain (M.modify f) := ⟨fun c => ⟨h c, rfl⟩⟩

/-- emitting an effect other than `onState` -/
theorem RPlain.emit {e : Effect} (h : plainUp e = true) (h' : ∀ s, track s [e] = s := by intro s; rfl) :
    M.Rel RPlain (M.emit e) := by
  constructor
  intro c
  exact ⟨(h' c.state).symm, by simp [h]⟩

def silK : Foot
  | .roleI | .roleA | .out | .inn | .jout | .jin | .setSeq | .wd => true
  | _ => false

theorem sil_adm : ∀ k, silK k = true → ∀ c c' e, k.sem c c' e → RSil c c' e := by
  intro k hk c c' e h
  cases k with
  | roleI | roleA | out | inn | jout | jin | setSeq | wd => exact ⟨h.1, by rw [h.2]⟩
  | _ => cases hk

/-- every kind that keeps the connection up and neither delivers nor connects -/
def plainK : Foot
  | .deliver | .onConn | .up | .fail | .drop => false
  | _ => true

theorem plain_adm : ∀ k, plainK k = true → ∀ c c' e, k.sem c c' e → RPlain c c' e := by
  intro k hk c c' e h
  cases k with
  | st s => rw [h.1, h.2]; exact ⟨rfl, by simp [plainUp, s.up]⟩
  | roleI | roleA | out | inn | jout | jin | setSeq | wd => rw [h.1]; exact ⟨by rw [h.2]; rfl, rfl⟩
  | write => obtain ⟨rfl, f, _, rfl⟩ := h; exact ⟨rfl, rfl⟩
  | caught | logon | logout | raised => obtain ⟨rfl, x, rfl⟩ := h; exact ⟨rfl, rfl⟩
  | close => obtain ⟨rfl, rfl⟩ := h; exact ⟨rfl, rfl⟩
  | _ => cases hk

theorem validateIntegrity_same (m : Msg) : M.Rel RSame (validateIntegrity m) :=
  Fp.to (K := fun _ => false) (fun _ h => nomatch h) (validateIntegrity_fp m) rfl

theorem validateIntegrity_apply (m : Msg) (c : Conn) :
    validateIntegrity m c = ⟨(validateIntegrity m c).res, c, []⟩ := by
  have h := (validateIntegrity_same m).out c
  rcases hx : validateIntegrity m c with ⟨r, c1, e1⟩
  rw [hx] at h
  cases (h.1 : e1 = []); cases (h.2 : c1 = c); rfl

/-- the verdict of `_validate_integrity` (`Except.error` = the exception it raises) -/
def integrityOf (c : Conn) (m : Msg) : Except Exc Integrity := (validateIntegrity m c).res

theorem validateIntegrity_of {m : Msg} {c : Conn} {r : Except Exc Integrity} (h : integrityOf c m = r) :
    validateIntegrity m c = ⟨r, c, []⟩ := by
  rw [validateIntegrity_apply, ← h]; rfl

theorem resetSeqNum_sil : M.Rel RSil resetSeqNum := Fp.to sil_adm resetSeqNum_fp rfl

theorem setNextNumIn_sil (m : Msg) : M.Rel RSil (setNextNumIn m) := Fp.to sil_adm (setNextNumIn_fp m) rfl

theorem persistInbound_sil (m : Msg) : M.Rel RSil (persistInbound m) := Fp.to sil_adm (persistInbound_fp m) rfl

theorem setSeqNum_plain (a b : Option Int) : M.Rel RPlain (setSeqNum a b) := Fp.to plain_adm (setSeqNum_fp a b) rfl

theorem stateSet_plain {s : Nat} (h : isDisc s = false) : M.Rel RPlain (stateSet s) := by
  constructor
  intro c
  simp [stateSet, RPlain, track, plainUp, h, bind, M.bind']

theorem sendMsg_plain (env : Env) (m : Msg) : M.Rel RPlain (sendMsg env m) := Fp.to plain_adm (sendMsg_fp env m) rfl

theorem sendTestReq_plain (env : Env) : M.Rel RPlain (sendTestReq env) := Fp.to plain_adm (sendTestReq_fp env) rfl

theorem checkSeqnumGaps_plain (env : Env) (n : Int) : M.Rel RPlain (checkSeqnumGaps env n) :=
  Fp.to plain_adm (checkSeqnumGaps_fp env n) rfl

theorem processSeqreset_plain (m : Msg) : M.Rel RPlain (processSeqreset m) :=
  Fp.to plain_adm (processSeqreset_fp m) rfl

theorem finalizeMessage_plain (env : Env) (m : Msg) : M.Rel RPlain (finalizeMessage env m) :=
  Fp.to plain_adm (finalizeMessage_fp env m) rfl

theorem processTestRequest_plain (env : Env) (m : Msg) : M.Rel RPlain (processTestRequest env m) :=
  Fp.to plain_adm (processTestRequest_fp env m) rfl

theorem processResend_plain (env : Env) (sr : Msg → Bool) (m : Msg) :
    M.Rel RPlain (processResend env sr m) :=
  Fp.to plain_adm (processResend_fp env sr m) rfl

theorem all_imp {p q : Effect → Bool} (h : ∀ x, p x = true → q x = true) {e : List Effect}
    (he : e.all p = true) : e.all q = true :=
  List.all_eq_true.mpr fun x hx => h x (List.all_eq_true.mp he x hx)

theorem plain_track_up {e : List Effect} (h : e.all plainUp = true) {s : Nat} (hs : isDisc s = false) :
    isDisc (track s e) = false := by
  induction e generalizing s with
  | nil => exact hs
  | cons x xs ih =>
    simp only [List.all_cons, Bool.and_eq_true] at h
    cases x with
    | onState s' => exact ih h.2 (by simpa [plainUp] using h.1)
    | _ => exact ih h.2 hs

theorem plain_nDisc {e : List Effect} (h : e.all plainUp = true) : nDisc e = 0 := by
  induction e with
  | nil => rfl
  | cons x xs ih =>
    simp only [List.all_cons, Bool.and_eq_true] at h
    cases x with
    | onDisconnect => cases h.1
    | _ => exact ih h.2

def notConn : Effect → Bool
  | .onConnect => false
  | _ => true

/-- post-state = tracked state, as many `onDisconnect` as transitions connected → disconnected, and no
`onConnect` (only transport set-up emits that) -/
def RAB (c c' : Conn) (e : List Effect) : Prop :=
  c'.state = track c.state e ∧ nDisc e = nTrans c.state e ∧ e.all notConn = true

instance : Compositional RAB where
  refl := fun c => ⟨rfl, rfl, rfl⟩
  trans := by
    intro c c1 c2 e1 e2 h1 h2
    refine ⟨?_, ?_, ?_⟩
    · rw [track_append, ← h1.1, h2.1]
    · rw [nDisc_append, nTrans_append, ← h1.1, h1.2.1, h2.2.1]
    · rw [List.all_append, h1.2.2, h2.2.2]; rfl

/-- every kind but transport set-up -/
def abK : Foot
  | .onConn | .up | .fail => false
  | _ => true

theorem RAB.adm : ∀ k, abK k = true → ∀ c c' e, k.sem c c' e → RAB c c' e := by
  intro k hk c c' e h
  cases k with
  | st s => rw [h.1, h.2]; exact ⟨rfl, by simp [nDisc, nTrans, s.up], rfl⟩
  | roleI | roleA | out | inn | jout | jin | setSeq | wd => rw [h.1]; exact ⟨by rw [h.2]; rfl, rfl, rfl⟩
  | write => obtain ⟨rfl, f, _, rfl⟩ := h; exact ⟨rfl, rfl, rfl⟩
  | caught | logon | logout | deliver | raised => obtain ⟨rfl, x, rfl⟩ := h; exact ⟨rfl, rfl, rfl⟩
  | close => obtain ⟨rfl, rfl⟩ := h; exact ⟨rfl, rfl, rfl⟩
  | drop =>
    obtain ⟨hc, d, hd, rfl, rfl⟩ := h
    cases hs : c.sock <;> simp [discTail, RAB, track, nDisc, nTrans, hs, hc, hd, notConn]
  | _ => cases hk

end AsyncFix.Session
