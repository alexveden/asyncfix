import AsyncFix.Lemmas.SessionOutSend
import AsyncFix.Lemmas.SessionFoot

/-!
C05: the handlers that do not service a ResendRequest.

Most of what they do leaves alone what C05 talks about: of the kinds of primitive step (`SessionFoot`) only a live
`_state_set`, the outbound counter, an outbound row and a written frame matter, and `GoodFrom` admits all other
kinds by one lemma (`good_adm`).  A handler made of such steps only is covered by its footprint (`Hold.quiet`); a
handler that needs nothing but the invariant, by a walk with its callees' statements (`sendMsg_rel`,
`disconnect_rel`).  `_state_set` to a live state needs the transport, which `OutInv` promises in a live state only:
the handlers that set one – or call one that does – after a guard or a callee's result has shown the connection
live are Hoare walks carrying `Live` (`processLogon_hold`, `checkSeqnumGaps_hold`, `processHead_hold`,
`finalizeMessage_hold`).  The walks follow the join-free texts of `SessionParts` (`processHead_eq` with `headMid`,
`headRest`, `headTail`; `processLogon_eq`); `finalizeMessage` has none there, its two join points are named by
`extract_lets` and their triple proved once.
-/
namespace AsyncFix.Session

open AsyncFix.Generated AsyncFix.Generated.ConnEnum

variable {sr : Msg → Bool} {U X : Prop} {α : Type}

theorem setSeq_out (c : Conn) (hI : OutInv c) (ni : Int) :
    (c.journal.setSeq c.sess.nextOut ni).out = c.journal.out ∧
    (c.journal.setSeq c.sess.nextOut ni).outSeq = c.journal.outSeq :=
  ⟨Rows.below_of_allLt _ _ hI.allLt, by have := hI.counter; simp only [Journal.setSeq]; omega⟩

def fpQuiet : Foot
  | .st _ | .out | .jout | .write => false
  | _ => true

theorem good_adm : ∀ k, fpQuiet k = true → ∀ c c' e, k.sem c c' e → GoodFrom sr U X c c' e := by
  intro k hk c c' e h hI
  have same : ∀ {c' : Conn} {e : List Effect}, OutEq c c' → c'.state = c.state → c'.sock = c.sock →
      newWrites e = [] → Good sr U X c c' e := fun he hs hk hw =>
    Good.of_outEq (hI.of_outEq he (by rw [hs, hk]; exact hI.sock)) he hw
  cases k with
  | st _ | out | jout | write => cases hk
  | roleI | roleA | inn | jin | wd =>
    obtain ⟨rfl, h⟩ := h; rw [h]; exact same ⟨⟨rfl, rfl, rfl⟩, rfl, rfl⟩ rfl rfl rfl
  | setSeq =>
    obtain ⟨rfl, h⟩ := h; rw [h]
    have := setSeq_out c hI c.sess.nextIn
    exact same ⟨⟨rfl, rfl, rfl⟩, this.1, this.2⟩ rfl rfl rfl
  | caught | logon | logout | deliver | raised =>
    obtain ⟨rfl, x, rfl⟩ := h; exact same (OutEq.refl _) rfl rfl rfl
  | close | onConn => obtain ⟨rfl, rfl⟩ := h; exact same (OutEq.refl _) rfl rfl rfl
  | up =>
    -- the transport comes up together with the live state
    obtain ⟨rfl, h⟩ := h; rw [h]
    exact Good.of_outEq (hI.of_outEq ⟨⟨rfl, rfl, rfl⟩, rfl, rfl⟩ fun _ => rfl) ⟨⟨rfl, rfl, rfl⟩, rfl, rfl⟩ rfl
  | fail =>
    obtain ⟨rfl, h⟩ := h; rw [h]
    exact Good.of_outEq (hI.of_outEq ⟨⟨rfl, rfl, rfl⟩, rfl, rfl⟩ fun h => absurd h (Nat.lt_irrefl _))
      ⟨⟨rfl, rfl, rfl⟩, rfl, rfl⟩ rfl
  | drop =>
    -- between the last three statements of `disconnect` the state is live without a transport: one step
    obtain ⟨_, d, hd, rfl, rfl⟩ := h
    have hd' := isDisc_le hd
    exact Good.of_outEq (hI.of_outEq ⟨⟨rfl, rfl, rfl⟩, rfl, rfl⟩ fun h => absurd h (by rw [discTail_state]; omega))
      ⟨⟨rfl, rfl, rfl⟩, rfl, rfl⟩ (by rw [discTail_eff]; split <;> rfl)

theorem GoodFrom.quiet {A : Foot} {x : M α} (h : M.Rel (Fp A) x) (hA : A.sub fpQuiet = true) :
    M.Rel (GoodFrom sr U X) x := Fp.to good_adm h hA

/-- the quiet kinds that touch neither state nor transport -/
def fpKeep : Foot
  | .roleI | .roleA | .inn | .jin | .setSeq | .wd | .caught | .logon | .logout | .deliver | .raised | .close
  | .onConn => true
  | _ => false

def KeepSt (c c' : Conn) (_ : List Effect) : Prop := c'.state = c.state ∧ c'.sock = c.sock

instance : Compositional KeepSt where
  refl _ := ⟨rfl, rfl⟩
  trans h1 h2 := ⟨h2.1.trans h1.1, h2.2.trans h1.2⟩

theorem keep_adm : ∀ k, fpKeep k = true → ∀ c c' e, k.sem c c' e → KeepSt c c' e := by
  intro k hk c c' e h
  cases k with
  | roleI | roleA | inn | jin | wd | setSeq => rw [h.2]; exact ⟨rfl, rfl⟩
  | caught | logon | logout | deliver | raised | close | onConn => rw [h.1]; exact ⟨rfl, rfl⟩
  | _ => cases hk

theorem Hold.quiet {A : Foot} {x : M α} (h : M.Rel (Fp A) x) (hA : A.sub fpKeep = true) {c : Conn} (hI : OutInv c) :
    Hold sr U X c x (fun _ c' => c'.state = c.state ∧ c'.sock = c.sock) :=
  ⟨(GoodFrom.quiet (Fp.sub h hA) rfl).out c hI, fun _ _ => (Fp.to keep_adm h hA).out c⟩

theorem sendMsg_rel (env : Env) (m : Msg) (hn : isNew m = true) : M.Rel (GoodFrom sr U X) (sendMsg env m) :=
  GoodFrom.of_hold fun c hI => sendMsg_hold env m c hI hn

/-- by the equations of `disconnect`: reset, the optional Logout (its exception swallowed), the tail as one step -/
theorem disconnect_rel (env : Env) (d : Nat) (lo : Option String) :
    M.Rel (GoodFrom sr U X) (disconnect env d lo) := by
  constructor
  intro c
  cases h : isDisc c.state with
  | true => rw [disconnect_of_disc env d lo c (isDisc_le h)]; exact Compositional.refl c
  | false =>
    cases hd : isDisc d with
    | false =>
      rw [disconnect_bad_target env d lo c (isDisc_lt h) (by simpa [isDisc] using hd)]
      exact Compositional.refl c
    | true =>
      have h0 : GoodFrom sr U X c (discReset c) [] := good_adm .wd rfl _ _ _ ⟨rfl, rfl⟩
      have tail : ∀ c1, isDisc c1.state = false → GoodFrom sr U X c1 (discTail c1 d).1 (discTail c1 d).2 :=
        fun c1 h1 => good_adm .drop rfl _ _ _ ⟨h1, d, hd, rfl, rfl⟩
      cases lo with
      | none =>
        rw [disconnect_none env (isDisc_lt h) (isDisc_le hd)]
        have := Compositional.trans h0 (tail (discReset c) h)
        exact this
      | some text =>
        have hs := (sendMsg_rel (sr := sr) (U := U) (X := X) env _ (logoutMsg_plain text).isNew).out (discReset c)
        have hup := send_up ((sendMsg_fp env (logoutMsg text)).out (discReset c)) h
        rcases hsend : sendMsg env (logoutMsg text) (discReset c) with ⟨r, c1, e1⟩
        rw [hsend] at hs hup
        rw [disconnect_logout env (isDisc_lt h) (isDisc_le hd) hsend]
        have hc : GoodFrom sr U X c1 c1 (caught r) := by
          cases r with
          | ok _ => exact Compositional.refl c1
          | error ex => exact good_adm .caught rfl _ _ _ ⟨rfl, ex, rfl⟩
        exact Compositional.trans (Compositional.trans (Compositional.trans h0 hs) hc) (tail c1 hup)

theorem sendTestReq_rel (env : Env) : M.Rel (GoodFrom sr U X) (sendTestReq env) := by
  unfold sendTestReq
  rel_tac [GoodFrom.quiet (A := fpQuiet) (Fp.wd _ _ _ rfl) rfl, sendMsg_rel env _ (testRequestMsg_plain env).isNew]

theorem tickLate_rel (env : Env) : M.Rel (GoodFrom sr U X) (tickLate env) := by
  unfold tickLate tickLate2
  rel_tac [disconnect_rel _ _ _]

theorem tickBody_rel (env : Env) : M.Rel (GoodFrom sr U X) (tickBody env) := by
  rw [tickBody_eq]
  rel_tac [tickLate_rel _, GoodFrom.quiet (A := fpQuiet) (Fp.wd _ _ _ rfl) rfl, sendTestReq_rel _]

theorem processHeartbeat_rel (env : Env) (m : Msg) : M.Rel (GoodFrom sr U X) (processHeartbeat env m) := by
  unfold processHeartbeat
  rel_tac [GoodFrom.quiet (A := fpQuiet) (Fp.wd _ _ _ rfl) rfl, disconnect_rel _ _ _]

theorem processLogout_rel (env : Env) (m : Msg) : M.Rel (GoodFrom sr U X) (processLogout env m) := by
  unfold processLogout
  rel_tac [GoodFrom.quiet (A := fpQuiet) (Fp.onLogout _ rfl) rfl, disconnect_rel _ _ _]

theorem processTestRequest_rel (env : Env) (m : Msg) : M.Rel (GoodFrom sr U X) (processTestRequest env m) := by
  unfold processTestRequest
  rel_tac [sendMsg_rel env _ (heartbeatMsg_plain _).isNew]

theorem logonTail_hold (n : Int) (c : Conn) (hI : OutInv c) (hl : Live c) :
    Hold sr U X c (logonTail n) (fun _ _ => True) := by
  unfold logonTail
  have hset := fun s => stateSet_hold (sr := sr) (U := U) (X := X) s c hI (fun _ => hI.sock hl)
  repeat' with_reducible first | hstep | (refine Hold.bind (hset _) ?_; intro _ _ _ _)

theorem processLogon_hold (env : Env) (m : Msg) (c : Conn) (hI : OutInv c) (hl : Live c) :
    Hold sr U X c (processLogon env m) (fun _ _ => True) := by
  rw [processLogon_eq]
  hstep; hstep; hstep; hstep; hstep
  have hdisc := fun lo c1 (hI1 : OutInv c1) => Hold.of_rel (sr := sr) (U := U) (X := X) hI1
    (disconnect_rel env st_DISCONNECTED_BROKEN_CONN lo)
  hstep
  · hstep; hstep
    · -- no reply possible: Logout, disconnect
      exact Hold.bind (hdisc _ c hI) (fun _ _ hI1 _ => Hold.pure hI1 trivial)
    hstep
    · -- the reply, and (fix a9dbd9f) `disconnect` + re-raise when it cannot be sent
      unfold logonAnswer
      hstep; hstep
      refine Hold.bind (Hold.tryCatch (sendMsg_hold env _ c hI (logonReplyMsg_plain _ _).isNew)
        (fun _ c1 hI1 => Hold.bind (hdisc _ c1 hI1) (fun _ _ hI2 _ => Hold.throw hI2))) ?_
      intro _ c1 hI1 h1
      exact logonTail_hold _ c1 hI1 (by unfold Live; rw [h1]; exact afterGate_alive c hl)
    · exact logonTail_hold _ c hI hl
  · exact logonTail_hold _ c hI hl

theorem checkSeqnumGaps_hold (env : Env) (n : Int) (c : Conn) (hI : OutInv c) (hl : Live c) :
    Hold sr U X c (checkSeqnumGaps env n) (fun _ c' => Live c') := by
  unfold checkSeqnumGaps
  dsimp only
  repeat' hstep
  refine Hold.bind_modify hI ⟨⟨rfl, rfl, rfl⟩, rfl, rfl⟩ rfl rfl ?_; intro hI1
  refine Hold.bind (sendMsg_hold env _ _ hI1 (resendRequestMsg_plain _).isNew) ?_
  intro _ c1 hI2 h1
  have hl1 : Live c1 := by unfold Live; rw [h1]; exact afterGate_alive _ hl
  refine Hold.bind (stateSet_hold _ c1 hI2 (fun _ => hI2.sock hl1)) ?_
  intro _ c2 hI3 h2
  exact Hold.pure hI3 (by unfold Live; rw [h2.1]; decide)

theorem finalizeMessage_hold (env : Env) (m : Msg) (c : Conn) (hI : OutInv c) :
    Hold sr U X c (finalizeMessage env m) (fun _ _ => True) := by
  unfold finalizeMessage
  refine Hold.bind (Hold.quiet (setNextNumIn_fp m) rfl hI) ?_
  intro n c1 hI1 _
  hstep
  · hstep
  hstep
  -- join points: the journal write, and the receive-time stamp before it
  extract_lets store stamp
  have hstamp : ∀ r c2, OutInv c2 → Hold sr U X c2 (stamp r) (fun _ _ => True) := by
    intro r c2 hI2
    dsimp only [stamp, store]
    repeat' with_reducible first
      | hstep
      | exact (Hold.quiet (persistInbound_fp m) rfl ‹_›).true_of
      | (refine Hold.bind_modify ‹_› ⟨⟨rfl, rfl, rfl⟩, rfl, rfl⟩ rfl rfl ?_; intro _)
  clear_value stamp
  hstep
  · -- while awaiting, the transport is there
    have hs : c1.sock = true := hI1.sock (by
      rw [show c1.state = st_RESENDREQ_AWAITING by simpa using ‹(c1.state == st_RESENDREQ_AWAITING) = true›]
      decide)
    hstep; hstep
    · refine Hold.bind_modify hI1 ⟨⟨rfl, rfl, rfl⟩, rfl, rfl⟩ rfl rfl ?_; intro hI2
      exact Hold.bind (stateSet_hold _ _ hI2 (fun _ => hs)) (fun _ _ hI3 _ => hstamp _ _ hI3)
    · exact hstamp _ _ hI1
  · exact hstamp _ _ hI1

/-! `_process_message` up to the gap check, by the named parts of `SessionParts`: `some _` is only returned from a
live connection -/

theorem headTail_hold (env : Env) (m : Msg) (c : Conn) (hI : OutInv c) :
    Hold sr U X c (headTail env m) (fun r c' => r.isSome = true → Live c') := by
  unfold headTail
  hstep; hstep
  · exact Hold.pure hI (by simp)
  hstep; hstep
  have : ¬ c.state ≤ st_DISCONNECTED_BROKEN_CONN := ‹_›
  refine Hold.bind (checkSeqnumGaps_hold env _ c hI (by unfold Live; omega)) ?_
  exact fun _ c2 hI2 hl2 => Hold.pure hI2 (fun _ => hl2)

theorem headRest_hold (env : Env) (m : Msg) (c : Conn) (hI : OutInv c) (hl : Live c) :
    Hold sr U X c (headRest env m) (fun r c' => r.isSome = true → Live c') := by
  have tail := fun c1 (hI1 : OutInv c1) => headTail_hold (sr := sr) (U := U) (X := X) env m c1 hI1
  by_cases hA : m.mtype = mLogon
  · rw [headRest_logon hA]
    exact Hold.bind (processLogon_hold env m c hI hl) (fun _ c1 hI1 _ => tail c1 hI1)
  by_cases h4 : m.mtype = mSequenceReset
  · rw [headRest_seqreset h4]
    refine Hold.bind (Hold.quiet (processSeqreset_fp m) rfl hI) ?_
    intro ok c2 hI2 h2
    hstep
    · exact tail c2 hI2
    · unfold headSkip
      hstep; hstep
      refine Hold.bind (checkSeqnumGaps_hold env _ c2 hI2 (by unfold Live; rw [h2.1]; exact hl)) ?_
      exact fun _ _ hI3 _ => Hold.pure hI3 (by simp)
  by_cases h5 : m.mtype = mLogout
  · rw [headRest_logout h5]
    exact Hold.bind (Hold.of_rel hI (processLogout_rel env m)) (fun _ c1 hI1 _ => tail c1 hI1)
  · rw [headRest_plain hA h4 h5]
    exact tail c hI

theorem headMid_hold (env : Env) (m : Msg) (c : Conn) (hI : OutInv c) (hl : Live c) :
    Hold sr U X c (headMid env m) (fun r c' => r.isSome = true → Live c') := by
  unfold headMid
  hstep; hstep
  · -- initiator before the Logon reply
    exact Hold.bind (Hold.of_rel hI (disconnect_rel env _ none)) (fun _ _ hI2 _ => Hold.pure hI2 (by simp))
  · exact headRest_hold env m c hI hl

theorem processHead_hold (env : Env) (m : Msg) (c : Conn) (hI : OutInv c) :
    Hold sr U X c (processHead env m) (fun r c' => r.isSome = true → Live c') := by
  rw [processHead_eq]
  hstep; hstep
  have h6 : st_NETWORK_CONN_ESTABLISHED ≤ c.state := of_decide_eq_true ‹_›
  have hl : Live c := Nat.lt_of_lt_of_le (by decide) h6
  hstep
  · hstep
    · exact Hold.bind (Hold.of_rel hI (disconnect_rel env _ none)) (fun _ _ hI1 _ => Hold.pure hI1 (by simp))
    · refine Hold.bind (stateSet_hold _ c hI (fun _ => hI.sock hl)) ?_
      intro _ c1 hI1 h1
      have hl1 : Live c1 := by unfold Live; rw [h1.1]; decide
      exact Hold.bind_modify hI1 ⟨⟨rfl, rfl, rfl⟩, rfl, rfl⟩ rfl rfl (fun hI2 => headMid_hold env m _ hI2 hl1)
  · exact headMid_hold env m c hI hl

end AsyncFix.Session
