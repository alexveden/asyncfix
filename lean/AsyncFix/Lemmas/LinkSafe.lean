import AsyncFix.Lemmas.LinkSafeB

/-!
Link family: `SafeInv` is an inductive invariant of the abstract protocol model (`safeInv_init`, `safeInv_step`);
the counters never decrease (`astep_o_mono`).  One entry point `arecv` is a `RecvStep` for the direction the
endpoint receives on and a `SendStep` for the direction it sends on (`arecv_ok`); `astep` is described event by
event (`astep_appSend_ok`, `astep_deliver`, `astep_reconnect`, …), with the side as a variable.
-/
namespace AsyncFix.Link

open AsyncFix.Session

/-- what one entry point does to the endpoint, seen from both directions -/
structure RecvOK (c : AConn) (f : AFrame) (r : ARes) : Prop where
  recv : RecvStep c.e f r.c.e r.dl
  mono : c.o ≤ r.c.o
  send : keysOK c.o c.out → 1 ≤ c.o → r.c.o ≤ sysMaxsize + 1 → SendStep c.o c.out r.c.o r.c.out r.wr []

theorem advance_e (c : AConn) (e' : Int) : (c.advance e').e = e' := by
  unfold AConn.advance; split <;> rfl

theorem advance_o (c : AConn) (e' : Int) : (c.advance e').o = c.o := by
  unfold AConn.advance; split <;> rfl

theorem advance_out (c : AConn) (e' : Int) : (c.advance e').out = c.out := by
  unfold AConn.advance; split <;> rfl

theorem push_send (c : AConn) (k : AKind) (hn : (⟨c.o, k⟩ : AFrame).next = c.o + 1) (hk : keysOK c.o c.out)
    (h1 : 1 ≤ c.o) : SendStep c.o c.out (c.push k).1.o (c.push k).1.out [(c.push k).2] (pushExt c.o k) :=
  sendStep_push hk h1 k hn

theorem askResend_send (c : AConn) (n : Int) (hk : keysOK c.o c.out) (h1 : 1 ≤ c.o) :
    SendStep c.o c.out (c.askResend n).1.o (c.askResend n).1.out [(c.askResend n).2] [] :=
  sendStep_push hk h1 (.resend c.e) rfl

/-- the endpoint ignores the frame (as far as numbers and journal go) -/
theorem recvOK_same {c c' : AConn} {f : AFrame} (he : c'.e = c.e) (ho : c'.o = c.o) (hj : c'.out = c.out) :
    RecvOK c f { c := c' } :=
  ⟨Or.inl ⟨he, rfl⟩, by simp [ho], fun hk _ _ => by simpa [ho, hj] using SendStep.refl hk⟩

theorem recvOK_ask (c : AConn) (f : AFrame) (n : Int) :
    RecvOK c f { c := (c.askResend n).1, wr := [(c.askResend n).2] } :=
  ⟨Or.inl ⟨rfl, rfl⟩, by simp [AConn.askResend, AConn.push] <;> omega, fun hk h1 _ => askResend_send c n hk h1⟩

theorem recvOK_dropLogout (c : AConn) (f : AFrame) : RecvOK c f c.dropLogout := by
  refine ⟨Or.inl ⟨?_, ?_⟩, ?_, fun hk h1 _ => ?_⟩
  · simp only [AConn.dropLogout, AConn.push, AConn.drop]; split <;> rfl
  · rfl
  · simp only [AConn.dropLogout, AConn.push, AConn.drop]; split <;> (first | omega | (simp only []; omega))
  · have : c.dropLogout.c.o = c.o + 1 ∧ c.dropLogout.c.out = c.out ++ [(c.o, none)] ∧
        c.dropLogout.wr = [⟨c.o, .logout⟩] := by
      simp only [AConn.dropLogout, AConn.push, AConn.drop]; split <;> simp [AKind.entry]
    rw [this.1, this.2.1, this.2.2]
    exact sendStep_push hk h1 .logout rfl

/-- the endpoint accepts the frame as number `e` without sending anything -/
theorem recvOK_accept {c c' : AConn} {f : AFrame} {dl} (hs : f.seq = c.e) (he : c'.e = f.next) (ho : c'.o = c.o)
    (hj : c'.out = c.out) (hd : dl = pushExt f.seq f.kind) : RecvOK c f { c := c', dl := dl } :=
  ⟨Or.inr ⟨hs, he, hd⟩, by simp [ho], fun hk _ _ => by simpa [ho, hj] using SendStep.refl hk⟩

theorem recvOK_resend {c X c' : AConn} {f : AFrame} {b : Int} {wr1 : List AFrame} (hkind : f.kind = .resend b)
    (hX : (X = c ∧ wr1 = []) ∨ (X = (c.askResend f.seq).1 ∧ wr1 = [(c.askResend f.seq).2]))
    (hc' : (f.seq = c.e ∧ c' = (X.serve b).1.advance (c.e + 1)) ∨ (f.seq ≠ c.e ∧ c' = (X.serve b).1)) :
    RecvOK c f { c := c', wr := wr1 ++ (X.serve b).2 } := by
  have hXe : X.e = c.e := by rcases hX with ⟨rfl, _⟩ | ⟨rfl, _⟩ <;> rfl
  have hXo : c.o ≤ X.o := by
    rcases hX with ⟨rfl, _⟩ | ⟨rfl, _⟩
    · exact Int.le_refl _
    · simp [AConn.askResend, AConn.push] <;> omega
  have hXs : keysOK c.o c.out → 1 ≤ c.o → SendStep c.o c.out X.o X.out wr1 [] := by
    intro hk h1
    rcases hX with ⟨rfl, rfl⟩ | ⟨rfl, rfl⟩
    · exact SendStep.refl hk
    · exact askResend_send c f.seq hk h1
  have hc'o : c'.o = X.o := by
    rcases hc' with ⟨_, rfl⟩ | ⟨_, rfl⟩
    · rw [advance_o, serve_o]
    · rw [serve_o]
  have hc'j : c'.out = (X.serve b).1.out := by
    rcases hc' with ⟨_, rfl⟩ | ⟨_, rfl⟩
    · rw [advance_out]
    · rfl
  refine ⟨?_, by simp only [hc'o]; exact hXo, fun hk h1 hmax => ?_⟩
  · rcases hc' with ⟨hs, rfl⟩ | ⟨_, rfl⟩
    · exact Or.inr ⟨hs, by simp [advance_e, AFrame.next, hkind, hs], by simp [pushExt, AKind.entry, hkind]⟩
    · exact Or.inl ⟨by simp only [serve_e]; exact hXe, rfl⟩
  · simp only [hc'o, hc'j] at hmax ⊢
    have S1 := hXs hk h1
    have S2 := sendStep_serve X b S1.keys hmax
    rw [serve_o] at S2
    simpa using S1.trans S2

theorem arecv_ok (c : AConn) (f : AFrame) : RecvOK c f (arecv c f) := by
  unfold arecv
  simp only []
  -- the three guards, by the induction principle of `ite` (`split` is slow on a term of this size)
  refine iteInduction (motive := RecvOK c f) (fun _ => recvOK_dropLogout c f) fun _ => ?_
  refine iteInduction (motive := RecvOK c f) (fun _ => recvOK_same rfl rfl rfl) fun _ => ?_
  refine iteInduction (motive := RecvOK c f) (fun _ => recvOK_same rfl rfl rfl) fun _ => ?_
  split
  · -- Logon
    rename_i hkind
    have hnext : f.next = f.seq + 1 := by simp [AFrame.next, hkind]
    have hd : ([] : List (Int × Payload)) = pushExt f.seq f.kind := by simp [pushExt, AKind.entry, hkind]
    have S1 := push_send { c with ini := false } .logon rfl
    split
    · split
      · rename_i hs
        exact ⟨Or.inr ⟨hs, by rw [hnext, hs], hd⟩, by simp [AConn.push]; omega, fun hk h1 _ => S1 hk h1⟩
      · refine ⟨Or.inl ⟨rfl, rfl⟩, by simp [AConn.push, AConn.askResend]; omega, fun hk h1 _ => ?_⟩
        exact (S1 hk h1).trans (askResend_send _ f.seq (S1 hk h1).keys (by simp [AConn.push]; omega))
    split
    · exact recvOK_same rfl rfl rfl
    split
    · rename_i hs
      exact recvOK_accept hs (by rw [hnext, hs]) rfl rfl hd
    · exact recvOK_ask c f f.seq
  · exact recvOK_same rfl rfl rfl
  · -- gap fill
    rename_i nw hkind
    split
    · rename_i h
      exact recvOK_accept (of_decide_eq_true (Bool.and_eq_true .. ▸ h).1) (by simp [AFrame.next, hkind, advance_e])
        (advance_o _ _) (advance_out _ _) (by simp [pushExt, AKind.entry, hkind])
    split
    · exact recvOK_ask c f f.seq
    · exact recvOK_same rfl rfl rfl
  · -- ResendRequest
    rename_i b hkind
    refine recvOK_resend hkind ?_ ?_
    · split
      · exact Or.inr ⟨rfl, rfl⟩
      · exact Or.inl ⟨rfl, rfl⟩
    · split
      · exact Or.inl ⟨‹_›, rfl⟩
      · exact Or.inr ⟨‹_›, rfl⟩
  · -- application frame
    rename_i p pd hkind
    split
    · split
      · exact recvOK_ask c f f.seq
      · exact recvOK_same rfl rfl rfl
    split
    · rename_i hs
      exact recvOK_accept hs (by simp [AFrame.next, hkind, advance_e, hs]) (advance_o _ _) (advance_out _ _)
        (by simp [pushExt, AKind.entry, hkind])
    · exact recvOK_same rfl rfl rfl

theorem safeInv_init :
    SafeInv { i := ⟨.disc, true, 1, 1, 0, []⟩, a := ⟨.disc, false, 1, 1, 0, []⟩ } := by
  decide

theorem eof_o (c : AConn) : c.eof.o = c.o := by
  unfold AConn.eof; split <;> rfl

theorem eof_out (c : AConn) : c.eof.out = c.out := by
  unfold AConn.eof; split <;> rfl

theorem eof_e (c : AConn) : c.eof.e = c.e := by
  unfold AConn.eof; split <;> rfl

theorem eof_st (c : AConn) : c.eof.st = .disc := by
  unfold AConn.eof; split
  · assumption
  · rfl

theorem astep_appSend_ok {l : ALink} {s : Side} {ok : Bool} (p : Payload) (h : ((l.conn s).canSend && ok) = true) :
    astep l (.appSend s p ok) =
      (l.absorb s ⟨((l.conn s).push (.app p false)).1, [((l.conn s).push (.app p false)).2], []⟩).noteAccepted s p := by
  simp only [astep]
  rw [if_pos h]

theorem astep_appSend_no {l : ALink} {s : Side} {ok : Bool} (p : Payload) (h : ¬((l.conn s).canSend && ok) = true) :
    astep l (.appSend s p ok) = l := by
  simp only [astep]
  rw [if_neg h]

theorem astep_deliver_nil {l : ALink} {s : Side} (hq : l.queueTo s = []) : astep l (.deliverNext s) = l := by
  simp only [astep, hq]

theorem astep_deliver_disc {l : ALink} {s : Side} {f rest} (hq : l.queueTo s = f :: rest)
    (hst : (l.conn s).st = .disc) : astep l (.deliverNext s) = l.pop s := by
  simp only [astep, hq, hst, if_true]

theorem astep_deliver {l : ALink} {s : Side} {f rest} (hq : l.queueTo s = f :: rest) (hst : (l.conn s).st ≠ .disc) :
    astep l (.deliverNext s) = (l.pop s).absorb s (arecv (l.conn s) f) := by
  simp only [astep, hq, hst, if_false]

theorem astep_reconnect_no {l : ALink} (h : ¬(l.i.st = .disc ∧ l.a.st = .disc)) : astep l .reconnect = l := by
  simp only [astep]
  rw [if_pos]
  simp only [Bool.or_eq_true, decide_eq_true_eq]
  exact Decidable.not_and_iff_not_or_not.1 h

theorem astep_reconnect {l : ALink} (hi : l.i.st = .disc) (ha : l.a.st = .disc) :
    astep l .reconnect =
      { l with toA := [⟨l.i.o, .logon⟩], toI := [], a := { l.a with st := .conn },
               i := { l.i with st := .sent, ini := true, o := l.i.o + 1, out := l.i.out ++ [(l.i.o, none)] },
               wireI := l.wireI ++ [⟨l.i.o, .logon⟩] } := by
  simp [astep, hi, ha, AConn.push, AKind.entry]

theorem astep_o_mono (l : ALink) (ev : AEv) : l.i.o ≤ (astep l ev).i.o ∧ l.a.o ≤ (astep l ev).a.o := by
  have refl : l.i.o ≤ l.i.o ∧ l.a.o ≤ l.a.o := ⟨Int.le_refl _, Int.le_refl _⟩
  cases ev with
  | appSend s p ok =>
    by_cases hc : ((l.conn s).canSend && ok) = true
    · rw [astep_appSend_ok p hc]
      cases s <;> simp [ALink.absorb, ALink.noteAccepted, ALink.conn, AConn.push] <;> omega
    · rw [astep_appSend_no p hc]; exact refl
  | deliverNext s =>
    cases hq : l.queueTo s with
    | nil => rw [astep_deliver_nil hq]; exact refl
    | cons f rest =>
      by_cases hst : (l.conn s).st = .disc
      · rw [astep_deliver_disc hq hst]; cases s <;> exact refl
      · rw [astep_deliver hq hst]
        cases s
        · exact ⟨(arecv_ok l.i f).mono, Int.le_refl _⟩
        · exact ⟨Int.le_refl _, (arecv_ok l.a f).mono⟩
  | breakConn => simp [astep, eof_o]
  | reconnect =>
    by_cases hd : l.i.st = .disc ∧ l.a.st = .disc
    · rw [astep_reconnect hd.1 hd.2]; exact ⟨by show l.i.o ≤ l.i.o + 1; omega, Int.le_refl _⟩
    · rw [astep_reconnect_no hd]; exact refl

/-- one delivery, seen from both directions: `Y` consumes the head of `X → Y` and answers on `Y → X` -/
theorem safe_deliver {X Y : AConn} {QXY QYX delY delX accX accY wireX wireY} {f : AFrame} {rest}
    (hXY : Safe X Y QXY delY accX wireX) (hYX : Safe Y X QYX delX accY wireY) (hq : QXY = f :: rest)
    (hmax : (arecv Y f).c.o ≤ sysMaxsize + 1) :
    Safe X (arecv Y f).c QXY.tail (delY ++ (arecv Y f).dl) accX wireX ∧
      Safe (arecv Y f).c X (QYX ++ (arecv Y f).wr) delX accY (wireY ++ (arecv Y f).wr) := by
  have ok := arecv_ok Y f
  constructor
  · exact (safe_recv hXY (hXY.sub f (by simp [hq])) ok.recv).subQ fun g hg => List.mem_of_mem_tail hg
  · have h1 : 1 ≤ Y.o := Int.le_trans hYX.e1 hYX.s2
    simpa using safe_send (X' := (arecv Y f).c) hYX (ok.send hYX.keys h1 hmax)

theorem safe_push {X Y : AConn} {Q delY accX wireX} (h : Safe X Y Q delY accX wireX) (k : AKind)
    (hn : (⟨X.o, k⟩ : AFrame).next = X.o + 1) :
    Safe (X.push k).1 Y (Q ++ [(X.push k).2]) delY (accX ++ (pushExt X.o k).map (·.2)) (wireX ++ [(X.push k).2]) :=
  safe_send (X' := (X.push k).1) h (push_send X k hn h.keys (Int.le_trans h.e1 h.s2))

theorem safeInv_step (l : ALink) (ev : AEv) (h : SafeInv l) (hb : Bounded (astep l ev)) :
    SafeInv (astep l ev) := by
  obtain ⟨hIA, hAI⟩ := h
  cases ev with
  | appSend s p ok =>
    by_cases hc : ((l.conn s).canSend && ok) = true
    · rw [astep_appSend_ok p hc]
      cases s
      · refine ⟨safe_push hIA (.app p false) rfl, ?_⟩
        simpa [ALink.absorb, ALink.noteAccepted, ALink.conn] using
          hAI.congr (Y' := (l.i.push (.app p false)).1) rfl rfl rfl
      · refine ⟨?_, safe_push hAI (.app p false) rfl⟩
        simpa [ALink.absorb, ALink.noteAccepted, ALink.conn] using
          hIA.congr (Y' := (l.a.push (.app p false)).1) rfl rfl rfl
    · rw [astep_appSend_no p hc]; exact ⟨hIA, hAI⟩
  | deliverNext s =>
    cases hq : l.queueTo s with
    | nil => rw [astep_deliver_nil hq]; exact ⟨hIA, hAI⟩
    | cons f rest =>
      by_cases hst : (l.conn s).st = .disc
      · rw [astep_deliver_disc hq hst]
        cases s
        · exact ⟨hIA, hAI.subQ fun g hg => List.mem_of_mem_tail hg⟩
        · exact ⟨hIA.subQ fun g hg => List.mem_of_mem_tail hg, hAI⟩
      · rw [astep_deliver hq hst] at hb ⊢
        cases s
        · exact (safe_deliver hAI hIA hq hb.1).symm
        · exact safe_deliver hIA hAI hq hb.2
  | breakConn =>
    exact ⟨(hIA.congr (eof_o _) (eof_out _) (eof_e _)).subQ (fun _ hf => by cases hf),
      (hAI.congr (eof_o _) (eof_out _) (eof_e _)).subQ (fun _ hf => by cases hf)⟩
  | reconnect =>
    by_cases hd : l.i.st = .disc ∧ l.a.st = .disc
    · rw [astep_reconnect hd.1 hd.2]
      have h1 := safe_push (hIA.congr (X' := { l.i with st := .sent, ini := true }) rfl rfl rfl) .logon rfl
      rw [show (pushExt l.i.o .logon).map (·.2) = [] from rfl, List.append_nil] at h1
      exact ⟨(h1.congr (Y' := { l.a with st := .conn }) rfl rfl rfl).subQ (by simp [AConn.push]),
        Safe.subQ (Q' := []) (hAI.congr rfl rfl rfl) (fun _ hf => by cases hf)⟩
    · rw [astep_reconnect_no hd]; exact ⟨hIA, hAI⟩

end AsyncFix.Link
