import AsyncFix.Lemmas.SessionPlain

/-!
Session family: silence after a disconnect.

`quiet d e`: walking the trace `e` with the flag `d` = "a disconnect has been reported and no new
transport has come up since" (`onDisconnect` sets it, `onConnect` clears it), no *busy* effect occurs
while the flag is set: nothing loud (frame written, `on_message`, `on_logon`, `on_logout`), no state
change, no second `on_disconnect`.

`QSpec G o` is the specification of a handler outcome `o` started from a CONNECTED state: the trace is
quiet, the final state is a disconnected one exactly when the trace ends with the flag set, and a
result returned in a disconnected state satisfies `G`.  `Calm o` is the specification of a
continuation that runs from a DISCONNECTED state: only `caught` / `raised` effects, stays disconnected.
`QS G x` / `CalmFrom x` say this of a handler from every connected / disconnected start, with the rules for
`>>=`, `try`, `if`; `disconnect` meets both.
-/
namespace AsyncFix.Session

open AsyncFix.Generated.ConnEnum

def Effect.loud : Effect → Bool
  | .write _ => true
  | .deliver _ => true
  | .onLogon _ => true
  | .onLogout _ => true
  | _ => false

/-- effects that show activity of a live session: the loud ones, state changes and the disconnect report -/
def Effect.busy : Effect → Bool
  | .onState _ => true
  | .onDisconnect => true
  | e => e.loud

def quiet : Bool → List Effect → Bool
  | _, [] => true
  | d, .onDisconnect :: r => !d && quiet true r
  | _, .onConnect :: r => quiet false r
  | d, e :: r => !(d && e.busy) && quiet d r

def flagAfter : Bool → List Effect → Bool
  | d, [] => d
  | _, .onDisconnect :: r => flagAfter true r
  | _, .onConnect :: r => flagAfter false r
  | d, _ :: r => flagAfter d r

/-- effects a handler may still emit once the connection is in a disconnected state -/
def Effect.calm : Effect → Bool
  | .caught _ => true
  | .raised _ => true
  | _ => false

theorem quiet_append (d : Bool) (a b : List Effect) :
    quiet d (a ++ b) = (quiet d a && quiet (flagAfter d a) b) := by
  induction a generalizing d with
  | nil => simp [quiet, flagAfter]
  | cons x xs ih => cases x <;> simp [quiet, flagAfter, ih, Bool.and_assoc]

theorem flagAfter_append (d : Bool) (a b : List Effect) :
    flagAfter d (a ++ b) = flagAfter (flagAfter d a) b := by
  induction a generalizing d with
  | nil => rfl
  | cons x xs ih => cases x <;> simp [flagAfter, ih]

theorem calm_quiet {e : List Effect} (h : e.all Effect.calm = true) (d : Bool) :
    quiet d e = true ∧ flagAfter d e = d := by
  induction e with
  | nil => exact ⟨rfl, rfl⟩
  | cons x xs ih =>
    simp only [List.all_cons, Bool.and_eq_true] at h
    cases x with
    | caught ex => simpa [quiet, flagAfter, Effect.busy, Effect.loud] using ih h.2
    | raised ex => simpa [quiet, flagAfter, Effect.busy, Effect.loud] using ih h.2
    | _ => cases h.1

theorem plain_quiet {e : List Effect} (h : e.all plainUp = true) :
    quiet false e = true ∧ flagAfter false e = false := by
  induction e with
  | nil => exact ⟨rfl, rfl⟩
  | cons x xs ih =>
    simp only [List.all_cons, Bool.and_eq_true] at h
    cases x with
    | onDisconnect => cases h.1
    | onConnect => cases h.1
    | _ => exact ih h.2

/-- `quiet false` is the weakest requirement -/
theorem quiet_mono {e : List Effect} {d : Bool} (h : quiet d e = true) : quiet false e = true := by
  induction e generalizing d with
  | nil => rfl
  | cons x xs ih =>
    cases x <;> simp only [quiet, Bool.false_and, Bool.not_false, Bool.true_and, Bool.and_eq_true] at h ⊢ <;>
      first | exact h | exact h.2 | exact ih h.2

/-- outcome specification from a connected start state -/
def QSpec {α : Type} (G : α → Prop) (o : Out α) : Prop :=
  quiet false o.eff = true ∧ isDisc o.conn.state = flagAfter false o.eff ∧
    (∀ a, o.res = .ok a → isDisc o.conn.state = true → G a)

/-- outcome specification from a disconnected start state -/
def Calm {α : Type} (o : Out α) : Prop :=
  o.eff.all Effect.calm = true ∧ isDisc o.conn.state = true

/-- `x` meets `QSpec G` from every connected state -/
structure QS {α : Type} (G : α → Prop) (x : M α) : Prop where
  out : ∀ c, isDisc c.state = false → QSpec G (x c)

/-- `x` is calm from every disconnected state -/
structure CalmFrom {α : Type} (x : M α) : Prop where
  out : ∀ c, isDisc c.state = true → Calm (x c)

namespace QS
variable {α β : Type}

/-- a handler that keeps the plain invariant never leaves the connected states -/
theorem of_plain {G : α → Prop} {x : M α} (h : M.Rel RPlain x) : QS G x := by
  constructor
  intro c hc
  have hp := h.out c
  have hup := plain_track_up hp.2 hc
  rw [← hp.1] at hup
  refine ⟨(plain_quiet hp.2).1, ?_, ?_⟩
  · rw [(plain_quiet hp.2).2, hup]
  · intro a _ hd; rw [hup] at hd; cases hd

/-- sequencing after a step that may disconnect: the continuation must be calm from a disconnected
state for every result `a` that the first step can return there (`G a`) -/
theorem bind {G : α → Prop} {H : β → Prop} {x : M α} {f : α → M β} (hx : QS G x)
    (hf : ∀ a, QS H (f a)) (hcalm : ∀ a, G a → CalmFrom (f a))
    (hH : ∀ a c1, G a → isDisc c1.state = true → ∀ b, (f a c1).res = .ok b → H b) :
    QS H (x >>= f) := by
  constructor
  intro c hc
  have hx := hx.out c hc
  rcases hxc : x c with ⟨r, c1, e1⟩
  rw [hxc] at hx
  obtain ⟨hq, hst, hg⟩ := hx
  cases r with
  | error ex =>
    rw [M.bind_err hxc]
    exact ⟨hq, hst, by intro a h; cases h⟩
  | ok a =>
    rw [M.bind_ok hxc]
    cases hd : isDisc c1.state with
    | false =>
      have h2 := (hf a).out c1 hd
      have hfl : flagAfter false e1 = false := by rw [← hst]; exact hd
      refine ⟨?_, ?_, h2.2.2⟩
      · show quiet false (e1 ++ (f a c1).eff) = true
        rw [quiet_append, hq, hfl, h2.1]; rfl
      · show isDisc (f a c1).conn.state = flagAfter false (e1 ++ (f a c1).eff)
        rw [flagAfter_append, hfl]; exact h2.2.1
    | true =>
      have hG := hg a rfl hd
      have h2 := (hcalm a hG).out c1 hd
      have hfl : flagAfter false e1 = true := by rw [← hst]; exact hd
      refine ⟨?_, ?_, ?_⟩
      · show quiet false (e1 ++ (f a c1).eff) = true
        rw [quiet_append, hq, hfl, (calm_quiet h2.1 true).1]; rfl
      · show isDisc (f a c1).conn.state = flagAfter false (e1 ++ (f a c1).eff)
        rw [flagAfter_append, hfl, (calm_quiet h2.1 true).2]; exact h2.2
      · intro b hb _; exact hH a c1 hG hd b hb

/-- sequencing after a plain step (it never ends in a disconnected state) -/
theorem bind_plain {G : β → Prop} {x : M α} {f : α → M β} (hx : M.Rel RPlain x)
    (hf : ∀ a, QS G (f a)) : QS G (x >>= f) :=
  bind (G := fun _ => False) (of_plain hx) hf (fun _ h => h.elim) (fun _ _ h => h.elim)

theorem tryCatch_plain {G : α → Prop} {x : M α} {h : Exc → M α} (hx : M.Rel RPlain x)
    (hh : ∀ ex, QS G (h ex)) : QS G (M.tryCatch x h) := by
  constructor
  intro c hc
  have hp := hx.out c
  have hup := plain_track_up hp.2 hc
  rw [← hp.1] at hup
  rcases hxc : x c with ⟨r, c1, e1⟩
  rw [hxc] at hp hup
  cases r with
  | ok a =>
    rw [M.tryCatch_ok hxc]
    refine ⟨(plain_quiet hp.2).1, ?_, ?_⟩
    · show isDisc c1.state = flagAfter false e1
      rw [(plain_quiet hp.2).2]; exact hup
    · intro b _ hd
      have hd' : isDisc c1.state = true := hd
      rw [hup] at hd'; cases hd'
  | error ex =>
    rw [M.tryCatch_err hxc]
    have h2 := (hh ex).out c1 hup
    refine ⟨?_, ?_, h2.2.2⟩
    · show quiet false (e1 ++ (h ex c1).eff) = true
      rw [quiet_append, (plain_quiet hp.2).1, (plain_quiet hp.2).2, h2.1]; rfl
    · show isDisc (h ex c1).conn.state = flagAfter false (e1 ++ (h ex c1).eff)
      rw [flagAfter_append, (plain_quiet hp.2).2]; exact h2.2.1

theorem ite {G : α → Prop} {p : Prop} [Decidable p] {a b : M α} (ha : QS G a) (hb : QS G b) :
    QS G (if p then a else b) := by
  split <;> assumption

theorem pure {G : α → Prop} (a : α) : QS G (Pure.pure a : M α) :=
  of_plain (M.Rel.pure a)

/-- any single effect other than `onDisconnect` may be emitted from a connected state -/
theorem emit {G : Unit → Prop} {e : Effect} (h : flagAfter false [e] = false := by rfl) : QS G (M.emit e) := by
  constructor
  intro c hc
  refine ⟨?_, ?_, ?_⟩
  · show quiet false [e] = true
    cases e <;> first | rfl | (simp [flagAfter] at h)
  · show isDisc c.state = flagAfter false [e]
    rw [h, hc]
  · intro a _ hd
    have : isDisc c.state = true := hd
    rw [hc] at this; cases this

theorem mono {G H : α → Prop} {x : M α} (h : ∀ a, G a → H a) (hx : QS G x) : QS H x :=
  ⟨fun c hc => ⟨(hx.out c hc).1, (hx.out c hc).2.1, fun a ha hd => h a ((hx.out c hc).2.2 a ha hd)⟩⟩

end QS

theorem CalmFrom.pure {α : Type} (a : α) : CalmFrom (Pure.pure a : M α) :=
  ⟨fun _ hc => ⟨rfl, hc⟩⟩

theorem discTail_QSpec (c1 : Conn) (d : Nat) (hd : isDisc d = true) :
    quiet false (discTail c1 d).2 = true ∧ flagAfter false (discTail c1 d).2 = true ∧
      isDisc (discTail c1 d).1.state = true := by
  cases hs : c1.sock <;> simp [discTail, quiet, flagAfter, hs, hd, Effect.loud]

theorem disconnect_QS (env : Env) (d : Nat) (lo : Option String) :
    QS (fun _ => True) (disconnect env d lo) := by
  constructor
  intro c h
  cases hd : isDisc d with
  | false =>
    rw [disconnect_bad_target env d lo c (isDisc_lt h) (by simpa [isDisc] using hd)]
    exact ⟨rfl, h, fun _ _ _ => trivial⟩
  | true =>
    obtain ⟨c1, e1, hf, _, heq⟩ := disconnect_cases env d lo c h hd
    have hp : RPlain c c1 e1 := Fp.adm plain_adm rfl hf
    obtain ⟨h1, h2, h3⟩ := discTail_QSpec c1 d hd
    rw [heq]
    refine ⟨?_, ?_, fun _ _ _ => trivial⟩
    · show quiet false (e1 ++ (discTail c1 d).2) = true
      rw [quiet_append, (plain_quiet hp.2).1, (plain_quiet hp.2).2, h1]; rfl
    · show isDisc (discTail c1 d).1.state = flagAfter false (e1 ++ (discTail c1 d).2)
      rw [flagAfter_append, (plain_quiet hp.2).2, h2]; exact h3

theorem disconnect_calm (env : Env) (d : Nat) (lo : Option String) : CalmFrom (disconnect env d lo) :=
  ⟨fun c hc => by rw [disconnect_of_disc env d lo c (isDisc_le hc)]; exact ⟨rfl, hc⟩⟩

end AsyncFix.Session
