import AsyncFix.Lemmas.SessionRel

/-!
The handlers whose `do` blocks have join points (`let x ← if …; rest`: Lean elaborates `rest` as a local function
that every branch calls, and `simp` / `split` copy it into each branch), cut at those points: every tail is a
definition of its own, the handler equals the composition by `rfl`, and a proof walks or rewrites one part at a
time.  Only tails can be named: a named head bound with `>>=` is not definitionally the model's term.
Where the right side of such an `rfl` equation still has a `let x ← if …` (`processSeqreset_eq`), the goal after `rw` is a
`have __do_jp := …; if …` term: `dsimp only; split` before `apply`-ing a rule for `>>=`.

| handler | parts, front to tail | on a connection | footprint | after a disconnect (`QS` / `RPlain`) |
|---|---|---|---|---|
| `processHead` | `headMid` → `headRest` → `headTail` or `headSkip` | `processHead_gates`, `headTail_apply/_closed`, `headSkip_apply` (SessionHandlers) | `headTail_fp`, `headMid_fp` (SessionFoot) | `headTail_plain`, `headRest_QS`, `headMid_QS` (SessionQuietH) |
| `processLogon` | `logonAnswer` → `logonTail` | `logonTail_apply` (SessionHandlers) | `logonTail_fp` | `logonTail_plain` |
| `processSeqreset` | `seqresetApply` | `processSeqreset_off/_skip/_honoured` (SessionHandlers) | – | – |
| `tickBody` | `tickLate` → `tickLate2` | SessionWatchdog (`tick_*`) | `tickLate_fp` | `tickLate_QS` |
| `processResend` | `resendBody` → `resendServe` → `resendReplay` | SessionResendLoop; `processResend_ignored` (SessionHandlers) | `resendBody_fp` | – |
The families' own walks of a part carry the part's name too (`headMid_good`, `logonTail_hold`, `tickLate_rel`, …).
-/
namespace AsyncFix.Session
open AsyncFix.Generated AsyncFix.Generated.ConnEnum

/-- the end of `processHead`: nothing more on a connection the handlers closed, else the sequence check -/
def headTail (env : Env) (m : Msg) : M (Option (Bool × Int)) := do
  let c2 ← M.get
  if c2.state ≤ st_DISCONNECTED_BROKEN_CONN then pure none
  else do
    let v ← M.liftE (m.get tMsgSeqNum)
    let n ← M.int v
    let valid ← checkSeqnumGaps env n
    pure (some (valid, n))

/-- a SequenceReset that `_process_seqreset` declined: only the gap check, then `return` -/
def headSkip (env : Env) (m : Msg) : M (Option (Bool × Int)) := do
  let v ← M.liftE (m.get tMsgSeqNum)
  let n ← M.int v
  let _ ← checkSeqnumGaps env n
  pure none

/-- `processHead` past the logon gates: the handlers that run before the sequence check, then
`headTail` unless one of them has said `return` -/
def headRest (env : Env) (m : Msg) : M (Option (Bool × Int)) := do
  let stop ←
    if m.mtype == mLogon then do processLogon env m; pure false
    else if m.mtype == mSequenceReset then do
      let ok ← processSeqreset m
      if !ok then do
        let v ← M.liftE (m.get tMsgSeqNum)
        let n ← M.int v
        let _ ← checkSeqnumGaps env n
        pure true
      else pure false
    else if m.mtype == mLogout then do processLogout env m; pure false
    else pure false
  if stop then pure none else headTail env m

/-- past the first-frame check: the initiator's gate (F11), then `headRest` -/
def headMid (env : Env) (m : Msg) : M (Option (Bool × Int)) := do
  let c1 ← M.get
  if c1.state == st_LOGON_INITIAL_SENT && m.mtype != mLogon && m.mtype != mLogout then do
    disconnect env st_DISCONNECTED_BROKEN_CONN none
    pure none
  else headRest env m

/-- the first-frame check written out by branch (no join point left): every branch ends in a named tail -/
theorem processHead_eq (env : Env) (m : Msg) :
    processHead env m = (do
      let c ← M.get
      M.assert (decide (c.state ≥ st_NETWORK_CONN_ESTABLISHED))
      if c.state == st_NETWORK_CONN_ESTABLISHED then
        if m.mtype != mLogon then do
          disconnect env st_DISCONNECTED_BROKEN_CONN none
          pure none
        else do
          stateSet st_LOGON_INITIAL_RECV
          M.modify fun c => { c with role := roleAcceptor }
          headMid env m
      else headMid env m) := rfl

theorem headRest_logon {env : Env} {m : Msg} (h : m.mtype = mLogon) :
    headRest env m = (do processLogon env m; headTail env m) := by
  unfold headRest
  simp only [h, beq_self_eq_true, if_true]
  rfl

theorem headRest_seqreset {env : Env} {m : Msg} (h : m.mtype = mSequenceReset) :
    headRest env m = (do
      let ok ← processSeqreset m
      if ok then headTail env m else headSkip env m) := by
  unfold headRest headSkip
  have : (mSequenceReset == mLogon) = false := by decide
  simp only [h, this, beq_self_eq_true, if_true, Bool.false_eq_true, if_false]
  funext c
  simp only [M.bind_apply]
  rcases processSeqreset m c with ⟨r, c1, e1⟩
  cases r with
  | error ex => rfl
  | ok ok => cases ok <;> rfl

theorem headRest_logout {env : Env} {m : Msg} (h : m.mtype = mLogout) :
    headRest env m = (do processLogout env m; headTail env m) := by
  unfold headRest
  have a : (mLogout == mLogon) = false := by decide
  have b : (mLogout == mSequenceReset) = false := by decide
  simp only [h, a, b, beq_self_eq_true, if_true, Bool.false_eq_true, if_false]
  rfl

theorem headRest_plain {env : Env} {m : Msg} (hA : m.mtype ≠ mLogon) (h4 : m.mtype ≠ mSequenceReset)
    (h5 : m.mtype ≠ mLogout) : headRest env m = headTail env m := by
  unfold headRest
  simp only [beq_eq_false_iff_ne.2 hA, beq_eq_false_iff_ne.2 h4, beq_eq_false_iff_ne.2 h5, Bool.false_eq_true, if_false]
  rfl

/-- the end of `_process_logon`: the state by the Logon's number, then `on_logon` -/
def logonTail (n : Int) : M Unit := do
  let c2 ← M.get
  if n == c2.sess.nextIn then stateSet st_ACTIVE else stateSet st_RECV_SEQNUM_TOO_HIGH
  let c3 ← M.get
  M.emit (.onLogon (c3.state == st_ACTIVE))

/-- the acceptor's answer (fix a9dbd9f: a reply that cannot be sent drops the connection, then the error goes on),
then `logonTail` -/
def logonAnswer (env : Env) (m : Msg) (n : Int) : M Unit := do
  let e ← M.liftE (m.get tEncryptMethod)
  let h ← M.liftE (m.get tHeartBtInt)
  M.tryCatch (sendMsg env (Msg.mk mLogon [(tEncryptMethod, e), (tHeartBtInt, h)])) fun ex => do
    disconnect env st_DISCONNECTED_BROKEN_CONN none
    M.throw ex
  logonTail n

theorem processLogon_eq (env : Env) (m : Msg) :
    processLogon env m = (do
      M.assert (m.mtype == mLogon)
      let c ← M.get
      M.assert (c.role == roleAcceptor || c.role == roleInitiator)
      let v ← M.liftE (m.get tMsgSeqNum)
      let n ← M.int v
      if c.role == roleAcceptor then do
        M.assert (c.state == st_LOGON_INITIAL_RECV)
        if !m.has tEncryptMethod || !m.has tHeartBtInt then do
          disconnect env st_DISCONNECTED_BROKEN_CONN (some "Logon() without EncryptMethod(98) / HeartBtInt(108)")
          pure ()
        else if n ≥ c.sess.nextIn then logonAnswer env m n
        else logonTail n
      else logonTail n) := rfl

/-- the TestRequest timeout of `heartbeat_timer_task` -/
def tickLate2 (env : Env) : M Unit := do
  let c2 ← M.get
  if c2.testReqId.getD 0 != 0 && env.now - (c2.testReqId.getD 0) * 1000 > c2.hb * 2 * 1000
      && env.now - c2.lastTime > c2.hb * 2 * 1000 then
    disconnect env st_DISCONNECTED_BROKEN_CONN none
  else pure ()

/-- the "message last time" timeout, then `tickLate2` -/
def tickLate (env : Env) : M Unit := do
  let c1 ← M.get
  if c1.lastTime != 0 && env.now - c1.lastTime > c1.hb * 2 * 1000 then do
    disconnect env st_DISCONNECTED_BROKEN_CONN none
    tickLate2 env
  else tickLate2 env

theorem tickBody_eq (env : Env) :
    tickBody env = (do
      let c ← M.get
      if !c.sock then pure ()
      else if c.state == st_ACTIVE then
        if env.now - c.lastTime > (c.hb - 1) * 1000 then
          if c.testReqId.getD 0 == 0 then do
            sendTestReq env
            M.modify fun c => { c with lastTime := env.now }
            tickLate env
          else tickLate env
        else tickLate env
      else tickLate env) := rfl

/-- from the first `set_seq_num` on; `rows` = the recovered rows, `cur` = the remembered counter -/
def resendReplay (env : Env) (sr : Msg → Bool) (rows : List Msg) (cur b e : Int) : M Unit := do
  setSeqNum (some b) none
  let (gfb, gfe) ← resendLoop env sr e rows b b
  M.assert (decide (gfe ≤ cur))
  let gfe2 := min (e + 1) cur
  if gfb < gfe2 then sendMsg env (gapFillMsg gfb gfe2) else pure ()
  setSeqNum (some cur) none
  let c2 ← M.get
  if c2.state != st_RESENDREQ_AWAITING then stateSet st_ACTIVE else pure ()

/-- the range check (F15) on the connection `c` read after the state excursion began, then the replay -/
def resendServe (env : Env) (sr : Msg → Bool) (c : Conn) (b e0 : Int) : M Unit :=
  if b < 1 || b ≥ c.sess.nextOut then
    if c.state != st_RESENDREQ_AWAITING then stateSet st_ACTIVE else pure ()
  else resendReplay env sr (c.journal.recoverOut b sysMaxsize) c.sess.nextOut b (if e0 == 0 then sysMaxsize else e0)

/-- `_process_resend` after the state excursion began: the asserts, the two numbers, then `resendServe` -/
def resendBody (env : Env) (sr : Msg → Bool) (m : Msg) : M Unit := do
  M.assert (m.mtype == mResendRequest)
  let c ← M.get
  M.assert (c.state == st_RESENDREQ_HANDLING || c.state == st_RESENDREQ_AWAITING)
  let vb ← M.liftE (m.get tBeginSeqNo)
  let b ← M.int vb
  let ve ← M.liftE (m.get tEndSeqNo)
  let e0 ← M.int ve
  resendServe env sr c b e0

theorem processResend_eq (env : Env) (sr : Msg → Bool) (m : Msg) :
    processResend env sr m = (do
      let c0 ← M.get
      if c0.state != st_RESENDREQ_AWAITING then do
        stateSet st_RESENDREQ_HANDLING
        resendBody env sr m
      else resendBody env sr m) := rfl

/-- an honoured SequenceReset: NewSeqNo read and checked first (fix d38d961), then both `set_seq_num` -/
def seqresetApply (m : Msg) (v : String) : M Bool := do
  let w ← M.liftE (m.get tNewSeqNo)
  let nw ← M.int w
  M.assert (decide (nw > 0))
  let n ← M.int v
  setSeqNum none (some n)
  setSeqNum none (some nw)
  pure true

theorem processSeqreset_eq (m : Msg) :
    processSeqreset m = (do
      M.assert (m.mtype == mSequenceReset)
      let c ← M.get
      let v ← M.liftE (m.get tMsgSeqNum)
      let honoured ←
        if m.get? tGapFillFlag == some "Y" then do
          let n ← M.int v
          if n != c.sess.nextIn then pure false
          else do
            let w ← M.liftE (m.get tNewSeqNo)
            let nw ← M.int w
            pure (!(nw ≤ n))
        else pure true
      if !honoured then pure false else seqresetApply m v) := rfl

end AsyncFix.Session
