/-
C03, part 2: what `decode` does on a buffer that starts with junk and a frame, or junk and a proper prefix of a frame.
A frame here is any `f` with `decode bs tbl f = .msg m f.length f`.  That alone fixes what the reader needs of it
(`self_frame`): the marker is at 0, the first `SOH 10=…SOH` closes at the end of `f` (a returned piece is cut at a closed
CheckSum field, and this piece is all of `f`), so no proper prefix is closed, and the fields are accepted with declared
length `f.length`.
-/
import AsyncFix.Lemmas.CodecReaderBasic
import AsyncFix.Lemmas.CodecDecodeCk
namespace AsyncFix.Model.Codec

theorem self_frame {bs : Bytes} {tbl : Tbl} {f : Bytes} {m : Msg} (hd : decode bs tbl f = .msg m f.length f) :
    marker <+: f ∧ closedAtOf f = some f.length ∧ Accepted bs tbl (fieldsOf f) f.length m ∧ 6 < f.length := by
  obtain ⟨vi, c, hvi, hc, he⟩ := decode_msg_closed hd
  obtain ⟨vi', ml, hvi', _, _, ha, _, hn⟩ := decode_msg_iff.1 hd
  rw [hvi] at hvi'; cases hvi'
  -- the piece is all of `f`: the marker is at 0 and the cut at the end
  have hl := congrArg List.length he
  have hcle := (closedAtOf_le hc).2
  simp only [List.length_take, List.length_drop] at hl hcle
  have hvi0 : vi = 0 := by omega
  subst hvi0
  rw [List.drop_zero] at hc he
  have hcl : c = f.length := by omega
  subst hcl
  have hml : ml = f.length := by omega
  subst hml
  obtain ⟨b, hb, _⟩ := drop_of_findSub hvi
  refine ⟨⟨b, by simpa using hb.symm⟩, hc, ha, ?_⟩
  -- a declared length counts `10=000` and three separators
  obtain ⟨f0, f1, _, _, _, _, hh, _⟩ := ha
  obtain ⟨_, _, _, _, _, _, _, hdl⟩ := hdr_ok hh
  rw [hdl]; unfold declaredLen; omega

theorem closedAtOf_prefix {f p : Bytes} (hc : closedAtOf f = some f.length) (hp : p <+: f)
    (hlt : p.length < f.length) : closedAtOf p = none := by
  cases h : closedAtOf p with
  | none => rfl
  | some c =>
    obtain ⟨t, rfl⟩ := hp
    rw [closedAtOf_append t h] at hc
    have := (closedAtOf_le h).2
    cases hc
    omega

/-- context independence: junk + frame + anything decodes to that frame -/
theorem decode_frame_ctx {bs : Bytes} {tbl : Tbl} {f g : Bytes} {m : Msg}
    (hd : decode bs tbl f = .msg m f.length f) (hg : NoMarker g) (rest : Bytes) :
    decode bs tbl (g ++ (f ++ rest)) = .msg m (g.length + f.length) f := by
  obtain ⟨hm, hc, ha, _⟩ := self_frame hd
  have hc' := closedAtOf_append rest hc
  refine decode_msg_iff.2 ⟨g.length, f.length, findSub_marker_junk hg (hm.trans (List.prefix_append _ _)),
    ?_, ?_, ha, ?_, rfl⟩
  · rw [List.drop_left, ckOpen_of_closed hc']
  · rw [List.drop_left, cutOf_of_closed hc', List.take_left]
  · simp only [List.length_append]; omega

/-- junk + a proper prefix of a frame that already shows the marker: wait, keeping the prefix -/
theorem decode_frame_prefix {bs : Bytes} {tbl : Tbl} {f g p : Bytes} {m : Msg}
    (hd : decode bs tbl f = .msg m f.length f) (hg : NoMarker g)
    (hp : p <+: f) (hlt : p.length < f.length) (h6 : 6 ≤ p.length) :
    decode bs tbl (g ++ p) = .none g.length := by
  obtain ⟨hm, hc, ⟨f0, f1, r, _, hf, hr, hh, _⟩, _⟩ := self_frame hd
  have hf3 : 3 ≤ (fieldsOf f).length := by rw [hf]; exact Nat.not_lt.1 (three_le hr)
  have hmp : marker <+: p := List.prefix_of_prefix_length_le hm hp (by rw [marker_length]; exact h6)
  rw [decode_eq, findSub_marker_junk hg hmp]
  simp only [List.drop_left]
  split
  · rfl
  rw [waitResOf_of_open _ (closedAtOf_prefix hc hp hlt)]
  generalize cutOf p = c
  have he : p.take c <+: f := (List.take_prefix c p).trans hp
  by_cases h3 : (fieldsOf (p.take c)).length < 3
  · exact (FOut.few h3).eq
  · have h2 := fieldsOf_prefix he (by omega) hf3
    rw [hf] at h2
    match hfe : fieldsOf (p.take c), h3, h2 with
    | a :: b :: r', h3, h2 =>
      simp only [List.take_succ_cons, List.take_zero, List.cons.injEq, and_true] at h2
      obtain ⟨rfl, rfl⟩ := h2
      exact (FOut.short (by rintro rfl; simp at h3) hh (by simp only [List.length_append]; omega)).eq
    | [], h3, _ => simp at h3
    | [_], h3, _ => simp at h3

theorem decode_junk {bs : Bytes} {tbl : Tbl} {x : Bytes} (hx : NoMarker x) :
    decode bs tbl x = .none (x.length - partialMarkerKeep x) :=
  (Decodes.noMarker hx).eq

end AsyncFix.Model.Codec
