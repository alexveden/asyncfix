/-
Uniqueness of the decomposition `pre ++ SOH "10=" v SOH` of a frame, and what it gives: a frame-shaped buffer
whose CheckSum value does not match its bytes is never returned, whatever follows it
(`mismatching_frame_rejected`), and no single-byte substitution of a returned frame is returned, wherever it hits
(`substitution_never_returned`).
-/
import AsyncFix.Lemmas.CodecDecodeCk
namespace AsyncFix.Model.Codec

theorem last_field_unique {p1 p2 X1 X2 : Bytes} (h : p1 ++ SOH :: X1 = p2 ++ SOH :: X2)
    (h1 : SOH ∉ X1) (h2 : SOH ∉ X2) : p1 = p2 ∧ X1 = X2 := by
  rcases List.append_eq_append_iff.1 h with ⟨a', ha, hy⟩ | ⟨c', hc, hz⟩
  · cases a' with
    | nil =>
      simp only [List.nil_append, List.cons.injEq, true_and] at hy
      exact ⟨by simpa using ha.symm, hy⟩
    | cons d a'' =>
      simp only [List.cons_append, List.cons.injEq] at hy
      exfalso; apply h1; rw [hy.2]; simp
  · cases c' with
    | nil =>
      simp only [List.nil_append, List.cons.injEq, true_and] at hz
      exact ⟨by simpa using hc, hz.symm⟩
    | cons d c'' =>
      simp only [List.cons_append, List.cons.injEq] at hz
      exfalso; apply h2; rw [hz.2]; simp

theorem ckParse_some {v : Bytes} {n : Nat} (h : ckParse v = some n) :
    ∃ a b c, v = [a, b, c] ∧ isDigit a = true ∧ isDigit b = true ∧ isDigit c = true ∧
      n = (a - 48) * 100 + (b - 48) * 10 + (c - 48) := by
  unfold ckParse at h
  split at h
  · rename_i a b c
    split at h
    · rename_i hd
      simp only [Bool.and_eq_true] at hd
      cases h
      exact ⟨a, b, c, rfl, hd.1.1, hd.1.2, hd.2, rfl⟩
    · cases h
  · cases h

theorem ckParse_inj {v1 v2 : Bytes} {n : Nat} (h1 : ckParse v1 = some n) (h2 : ckParse v2 = some n) :
    v1 = v2 := by
  obtain ⟨a, b, c, rfl, ha, hb, hc, hn⟩ := ckParse_some h1
  obtain ⟨a', b', c', rfl, ha', hb', hc', hn'⟩ := ckParse_some h2
  simp only [isDigit, Bool.and_eq_true, decide_eq_true_eq] at ha hb hc ha' hb' hc'
  have : a = a' ∧ b = b' ∧ c = c' := by omega
  rw [this.1, this.2.1, this.2.2]

theorem ckParse_noSep {v : Bytes} {n : Nat} (h : ckParse v = some n) : SOH ∉ v := by
  obtain ⟨a, b, c, rfl, ha, hb, hc, _⟩ := ckParse_some h
  simp only [isDigit, Bool.and_eq_true, decide_eq_true_eq] at ha hb hc
  simp only [List.mem_cons, List.not_mem_nil, or_false, SOH]
  omega

/-- a frame determines its CheckSum field: the decomposition is unique -/
theorem ck_decomp_unique {p1 p2 v1 v2 t1 : Bytes}
    (h : p1 ++ SOH :: (ck3 ++ v1) ++ t1 = p2 ++ SOH :: (ck3 ++ v2) ++ [SOH])
    (h1 : SOH ∉ v1) (h2 : SOH ∉ v2) (ht1 : t1 = [] ∨ t1 = [SOH]) : p1 = p2 ∧ v1 = v2 := by
  rcases ht1 with rfl | rfl
  · rw [List.append_nil] at h
    exact absurd h (not_end_with_sep (by simp [ck3]) (ckfield_noSep h1))
  · obtain ⟨hp, hx⟩ := last_field_unique (List.append_cancel_right h) (ckfield_noSep h1) (ckfield_noSep h2)
    exact ⟨hp, List.append_cancel_left hx⟩

theorem sum_subst_ne {a b : Bytes} {x y : Nat} (hx : x < 256) (hy : y < 256) (hxy : x ≠ y) :
    (sum (a ++ x :: b) + 1) % 256 ≠ (sum (a ++ y :: b) + 1) % 256 := by
  rw [sum_append, sum_append, sum_cons, sum_cons]
  omega

/-- what `decode` parses when the buffer starts with a frame-shaped piece -/
theorem cut_of_frame {pre v rest : Bytes} (hck : findSub cksumPat (pre ++ cksumPat) = some pre.length)
    (hv : SOH ∉ v) :
    (pre ++ cksumPat ++ v ++ SOH :: rest).take (cutOf (pre ++ cksumPat ++ v ++ SOH :: rest)) =
      pre ++ cksumPat ++ v ++ [SOH] := by
  have h1 : findSub cksumPat (pre ++ cksumPat ++ v ++ SOH :: rest) = some pre.length := by
    have := findSub_append (v ++ SOH :: rest) hck
    simpa only [List.append_assoc] using this
  have h2 : (pre ++ cksumPat ++ v ++ SOH :: rest).drop (pre.length + 1) = (ck3 ++ v) ++ SOH :: rest := by
    apply drop_succ_of_eq _ (P := pre) (s := SOH) _ rfl
    simp [cksumPat_eq]
  have h3 : findChar SOH ((ck3 ++ v) ++ SOH :: rest) = some (ck3 ++ v).length :=
    findChar_of_notMem _ _ (ckfield_noSep hv)
  have hc : closedAtOf (pre ++ cksumPat ++ v ++ SOH :: rest) =
      some (pre ++ cksumPat ++ v ++ [SOH]).length := by
    refine closedAtOf_eq_some.2 ⟨_, _, h1, h2 ▸ h3, ?_⟩
    simp [cksumPat, ck3]; omega
  rw [cutOf_of_closed hc]
  have : pre ++ cksumPat ++ v ++ SOH :: rest = (pre ++ cksumPat ++ v ++ [SOH]) ++ rest := by simp
  rw [this]
  exact List.take_left' rfl

theorem findSub_zero_of_prefix {pat s : Bytes} (hs : s ≠ []) (h : isPrefix pat s = true) :
    findSub pat s = some 0 := by
  cases s with
  | nil => exact absurd rfl hs
  | cons c cs => simp [findSub, h]

/-- **a frame-shaped buffer whose CheckSum value does not match its bytes is never returned**,
whatever follows it in the buffer -/
theorem mismatching_frame_rejected (bs : Bytes) (tbl : Tbl) {pre v : Bytes}
    (hm : isPrefix marker pre = true)
    (hck : findSub cksumPat (pre ++ cksumPat) = some pre.length) (hv : SOH ∉ v)
    (hbad : ckParse v ≠ some ((sum pre + 1) % 256)) (rest : Bytes) (m : Msg) (n : Nat) (e : Bytes) :
    decode bs tbl (pre ++ cksumPat ++ v ++ SOH :: rest) ≠ .msg m n e := by
  intro h
  obtain ⟨vi, _, hvi, _, he, _⟩ := decode_msg_iff.1 h
  have hpre : isPrefix marker (pre ++ cksumPat ++ v ++ SOH :: rest) = true := by
    simp only [List.append_assoc]
    exact isPrefix_append_right _ _ _ hm
  rw [findSub_zero_of_prefix (by simp [cksumPat]) hpre] at hvi
  cases hvi
  rw [List.drop_zero, cut_of_frame hck hv] at he
  obtain ⟨p2, v2, henc, hpy, _⟩ := decode_checksum_soh h
  rw [he] at henc
  have hform : pre ++ cksumPat ++ v ++ [SOH] = pre ++ SOH :: (ck3 ++ v) ++ [SOH] := by
    simp [cksumPat_eq]
  rw [hform] at henc
  obtain ⟨hp, hvv⟩ := ck_decomp_unique henc hv (ckParse_noSep hpy) (Or.inr rfl)
  apply hbad
  rw [hvv, hp]; exact hpy

theorem subst_position {pre T a b : Bytes} {x : Nat} (h : pre ++ T = a ++ x :: b) :
    (∃ b', pre = a ++ x :: b' ∧ b = b' ++ T) ∨ (∃ a', a = pre ++ a' ∧ T = a' ++ x :: b) := by
  rcases List.append_eq_append_iff.1 h with ⟨a', ha, hT⟩ | ⟨c', hc, hb⟩
  · exact Or.inr ⟨a', ha, hT⟩
  · cases c' with
    | nil =>
      simp only [List.append_nil, List.nil_append] at hc hb
      exact Or.inr ⟨[], by simp [hc], hb.symm⟩
    | cons c cs =>
      simp only [List.cons_append, List.cons.injEq] at hb
      exact Or.inl ⟨cs, by rw [hc, hb.1], hb.2⟩

/-- **every single-byte substitution of a returned frame is rejected**: if the frame `a ++ x :: b`
is returned by the decoder then `a ++ y :: b` (`y ≠ x`, bytes < 256) is never returned.
Both frames end `SOH 10=ddd SOH`.  A substitution in front of that changes the byte sum but not the digits;
one inside it leaves the summed bytes, hence the digits they demand, as they were. -/
theorem substitution_never_returned {bs : Bytes} {tbl : Tbl} {raw : Bytes} {m : Msg} {n : Nat}
    {a b : Bytes} {x y : Nat}
    (h : decode bs tbl raw = .msg m n (a ++ x :: b)) (hxy : x ≠ y) (hx : x < 256) (hy : y < 256) :
    ∀ bs' tbl' raw' m' n', decode bs' tbl' raw' ≠ .msg m' n' (a ++ y :: b) := by
  intro bs' tbl' raw' m' n' h'
  obtain ⟨pre, v, he, hp, _⟩ := decode_checksum_soh h
  obtain ⟨p2, v2, he2, hp2, _⟩ := decode_checksum_soh h'
  rw [List.append_assoc] at he
  rcases subst_position he.symm with ⟨b', rfl, rfl⟩ | ⟨a', rfl, hT⟩
  · have he2' : (a ++ y :: b') ++ SOH :: (ck3 ++ v) ++ [SOH] = p2 ++ SOH :: (ck3 ++ v2) ++ [SOH] := by
      rw [← he2]; simp
    obtain ⟨rfl, rfl⟩ := ck_decomp_unique he2' (ckParse_noSep hp) (ckParse_noSep hp2) (Or.inr rfl)
    rw [hp] at hp2
    exact sum_subst_ne hx hy hxy (Option.some.inj hp2)
  · obtain ⟨d1, d2, d3, rfl, _⟩ := ckParse_some hp
    obtain ⟨e1, e2, e3, rfl, _⟩ := ckParse_some hp2
    have hlen : (a' ++ y :: b).length = (SOH :: (ck3 ++ [e1, e2, e3]) ++ [SOH]).length := by
      have := congrArg List.length hT
      simp only [List.length_append, List.length_cons] at this ⊢
      omega
    rw [List.append_assoc, List.append_assoc] at he2
    obtain ⟨rfl, hT2⟩ := List.append_inj' he2 hlen
    cases ckParse_inj hp hp2
    exact hxy (by simpa using List.append_cancel_left (hT.symm.trans hT2.symm))

end AsyncFix.Model.Codec
