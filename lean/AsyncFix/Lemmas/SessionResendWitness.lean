import AsyncFix.Lemmas.SessionResendLoop
import AsyncFix.Lemmas.SessionResendRecv

/-!
C06: concrete connections and requests for the non-vacuity examples (`Props/C06.lean`).  Rows are built
by the model's own encoder (`buildFrame`), i.e. they are what `send_msg` journals.
-/
namespace AsyncFix.Session.C06.Witness
open Msg AsyncFix.Generated AsyncFix.Generated.ConnEnum

def stamp0 : String := "20240102-00:00:00.000"
def envW : Env := { now := 1000, stamp := "20240102-00:00:01.000" }

/-- journal row `n`: message of type `ty` with content `tags`, as `send_msg` journals it -/
def row (n : Int) (ty : String) (tags : List (Nat × String)) : Int × Msg :=
  (n, buildFrame { sender := "S", target := "T" } stamp0 (Msg.mk' ty tags) n)

/-- application message `n` -/
def app (n : Int) : Int × Msg := row n "D" [(11, "o" ++ pyStr n), (58, "x")]

/-- ACTIVE initiator "S"→"T", next inbound 3, next outbound `nextOut`, the given outbound rows -/
def conn (nextOut : Int) (rows : Rows) : Conn :=
  { state := st_ACTIVE, role := roleInitiator, wasActive := true, sock := true,
    sess := { sender := "S", target := "T", nextIn := 3, nextOut := nextOut },
    journal := { out := rows, outSeq := nextOut - 1, inSeq := 2 } }

/-- ResendRequest(b, e) from the peer, numbered 3 -/
def req (b e : Int) : Msg :=
  buildFrame { sender := "T", target := "S" } envW.stamp
    (Msg.mk' mResendRequest [(tBeginSeqNo, pyStr b), (tEndSeqNo, pyStr e)]) 3

theorem latin_envW : isLatin1 envW.stamp = true := by decide

theorem rowOK_row (n : Int) (ty : String) (tags : List (Nat × String))
    (hty : isLatin1 ty = true) (htags : tags.all (fun p => isLatin1 p.2) = true) :
    RowOK (row n ty tags).1 (row n ty tags).2 :=
  rowOK_buildFrame _ _ _ n (by decide) (by decide) (by decide) hty htags

theorem rowOK_app (n : Int) : RowOK (app n).1 (app n).2 :=
  rowOK_row n "D" _ (by decide)
    (by simp only [List.all_cons, List.all_nil, isLatin1_append, isLatin1_pyStr]; decide)

theorem outInv_conn {nextOut : Int} {rows : Rows} (hs : Rows.Sorted rows)
    (hlt : Rows.AllLt nextOut rows) (hok : ∀ p ∈ rows, RowOK p.1 p.2) : OutInv (conn nextOut rows) :=
  ⟨hs, hlt, hok, Int.sub_add_cancel _ _⟩

theorem envelope_req (nextOut : Int) (rows : Rows) (b e : Int) :
    Envelope (conn nextOut rows) (req b e) where
  begin_ := buildFrame_get_begin ..
  sender := buildFrame_get_sender ..
  target := buildFrame_get_target ..
  seq := ⟨pyStr 3, buildFrame_get_seq .., pyInt_pyStr 3⟩

theorem req_req (b e : Int) : Req (req b e) b e where
  mtype := rfl
  begin_ := ⟨pyStr b, by rw [req, buildFrame_get?_other _ _ _ _ (by decide)]; rfl, pyInt_pyStr b⟩
  end_ := ⟨pyStr e, by rw [req, buildFrame_get?_other _ _ _ _ (by decide)]; rfl, pyInt_pyStr e⟩

end AsyncFix.Session.C06.Witness
