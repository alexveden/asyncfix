import AsyncFix.Lemmas.SessionFoot

/-!
Bridge, trace level: the invariant "every `write` effect is a latin-1 `buildFrame`" (`Built`, in `SessionFoot`).

`RW`: every `Effect.write f` of a trace has `Built f`.  It is compositional and admits every kind of primitive
step (the only kind that writes carries `Built`), so it holds of every history.
-/
namespace AsyncFix.Session

/-- the per-effect invariant: a `write` carries a `Built` frame -/
def okWrite : Effect → Prop
  | .write f => Built f
  | _ => True

def RW (_ _ : Conn) (e : List Effect) : Prop := ∀ x ∈ e, okWrite x

instance : Compositional RW where
  refl := fun _ x hx => by cases hx
  trans := by
    intro c c1 c2 e1 e2 h1 h2 x hx
    rcases List.mem_append.mp hx with h | h
    · exact h1 x h
    · exact h2 x h

theorem RW.one {x : Effect} (h : okWrite x) (c c' : Conn) : RW c c' [x] := fun y hy => by
  cases hy with
  | head => exact h
  | tail _ h => cases h

theorem rw_adm : ∀ k : Kind, (fun _ => true) k = true → ∀ c c' e, k.sem c c' e → RW c c' e := by
  intro k _ c c' e h
  cases k with
  | st s => rw [h.2]; exact RW.one (by trivial) c c'
  | write => obtain ⟨_, f, hf, rfl⟩ := h; exact RW.one (by exact hf) c c'
  | caught => obtain ⟨_, x, rfl⟩ := h; exact RW.one (by trivial) c c'
  | logon => obtain ⟨_, x, rfl⟩ := h; exact RW.one (by trivial) c c'
  | logout => obtain ⟨_, x, rfl⟩ := h; exact RW.one (by trivial) c c'
  | deliver => obtain ⟨_, x, rfl⟩ := h; exact RW.one (by trivial) c c'
  | raised => obtain ⟨_, x, rfl⟩ := h; exact RW.one (by trivial) c c'
  | close => rw [h.2]; exact RW.one (by trivial) c c'
  | onConn => rw [h.2]; exact RW.one (by trivial) c c'
  | drop =>
    obtain ⟨_, d, _, _, rfl⟩ := h
    intro x hx
    rcases mem_discTail hx with rfl | rfl | rfl <;> trivial
  | _ => rw [h.1]; exact Compositional.refl (R := RW) c

/-- **trace invariant over histories**: every `write` of every history is a latin-1 `buildFrame` -/
theorem run_hist_W (sr : Msg → Bool) (c : Conn) (evs : List Event) :
    ∀ e ∈ (run sr c evs).2, okWrite e :=
  Fp.adm (R := RW) rw_adm rfl (hist_fp sr c evs)

end AsyncFix.Session
