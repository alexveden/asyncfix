import AsyncFix.Lemmas.SessionRel

/-!
The handler monad `M` is lawful.  The instance lives in a module of its own: with it in scope `simp` rewrites with
`bind_assoc` and `pure_bind`, which the handler evaluations of most families do not expect.
-/
namespace AsyncFix.Session

instance : LawfulMonad M := LawfulMonad.mk'
  (id_map := by
    intro α x; funext c
    show M.bind' x _ c = x c
    unfold M.bind'
    rcases h : x c with ⟨r, c1, e1⟩
    cases r <;> simp [Function.comp, M.pure'])
  (pure_bind := by
    intro α β a f; funext c
    show M.bind' (M.pure' a) f c = f a c
    simp [M.bind', M.pure'])
  (bind_assoc := by
    intro α β γ x f g; funext c
    show M.bind' (M.bind' x f) g c = M.bind' x (fun a => M.bind' (f a) g) c
    unfold M.bind'
    rcases h : x c with ⟨r, c1, e1⟩
    cases r with
    | error ex => simp
    | ok a =>
      simp only []
      rcases h2 : f a c1 with ⟨r2, c2, e2⟩
      cases r2 with
      | error ex => simp
      | ok b =>
        simp only []
        rcases h3 : g b c2 with ⟨r3, c3, e3⟩
        simp [List.append_assoc])

end AsyncFix.Session
