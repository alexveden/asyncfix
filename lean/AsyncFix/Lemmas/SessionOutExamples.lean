import AsyncFix.Lemmas.SessionOutStep

/-!
C05: concrete states and a concrete history used by the non-vacuity `example`s of Props/C05 and by
Findings/C05.
-/
namespace AsyncFix.Props.C05

open AsyncFix.Session AsyncFix.Generated AsyncFix.Generated.ConnEnum

def j0 : Journal := { outSeq := 41, inSeq := 6 }

def c0 : Conn := Conn.create "INIT" "ACPT" j0 30 roleInitiator

def c1 : Conn := (connected c0 .initiator).1

def env0 : Env := { now := 1700000000000, stamp := "20240102-00:00:00.000" }

def logon : Msg := Msg.mk' mLogon [(tEncryptMethod, "0"), (tHeartBtInt, "30")]

def order (t : String) : Msg := Msg.mk' "D" [(11, "c1"), (58, t)]

theorem c0_inv : OutInv c0 :=
  ⟨rfl, fun p hp => by simp [c0, Conn.create, j0] at hp, by simp [c0, Conn.create, j0, Rows.Sorted], by decide,
    fun h => absurd (show st_DISCONNECTED_BROKEN_CONN < st_DISCONNECTED_NOCONN_TODAY from h) (by decide)⟩

theorem c1_inv : OutInv c1 := step_inv (fun _ => true) c0 (.connected .initiator) c0_inv trivial

theorem logon_latin : frameLatin1 (buildFrame c1.sess env0.stamp logon c1.sess.nextOut) = true :=
  frameLatin1_buildFrame _ _ _ _ (by decide) (by decide) (by decide) (by decide) (by decide)

/-- a Logon with a non-single-byte field (witness of `encoding_refusal`) -/
def badLogon : Msg := Msg.mk' mLogon [(tEncryptMethod, "0"), (tHeartBtInt, "30"), (553, "€")]

def peer (mtype : String) (seq : Int) (body : List (Nat × String)) : Msg :=
  Msg.ofFields ([(8, "FIX.4.4"), (9, "0"), (35, mtype), (49, "ACPT"), (56, "INIT"), (34, toString seq),
    (52, "20240102-00:00:01.000")] ++ body ++ [(10, "000")])

def hist : List Event := [
  .connected .initiator,
  .appSend env0 logon,
  .recv env0 (peer "A" 7 [(98, "0"), (108, "30")]),
  .appSend env0 (order "one"),
  .appSend env0 (order "two"),
  .recv env0 (peer "2" 8 [(7, "42"), (16, "0")]),
  .recv env0 (peer "1" 9 [(112, "T")]),
  .tick env0,
  .appSend env0 (order "€") ]

theorem hist_ok : ∀ ev ∈ hist, ev.ok ∧ isReset ev = false := by decide

theorem hist_max : (run (fun _ => true) c0 hist).1.sess.nextOut ≤ sysMaxsize + 1 := by decide +kernel

theorem hist5_noResend : ∀ ev ∈ hist.take 5, isResendReq ev = false := by decide

end AsyncFix.Props.C05
