/-
Dates: `%Y%m%d` and `%Y%m` on layout-conform strings, calendar bridge between the SPEC's
`monthLength` / `leapYear` and the model's `daysInMonth` / `isLeap`, the resulting characterisation
of the date validator, and MonthYear with the week-code branch of `_validate_value_monthyear`.
-/
import AsyncFix.Lemmas.LexLayout
import AsyncFix.Model.LexSpec
import AsyncFix.Model.LexClass
namespace AsyncFix.Lemmas.LexDate
open AsyncFix.Py AsyncFix.Lemmas.LexTok AsyncFix.Lemmas.LexSeq AsyncFix.Lemmas.LexLayout
open AsyncFix.Model AsyncFix.Model.Lexical AsyncFix.Model.LexClass

theorem leap_eq (y : Nat) : LexSpec.leapYear y = isLeap y := by
  unfold LexSpec.leapYear isLeap
  rw [Bool.eq_iff_iff]
  simp
  omega

theorem monthLength_eq {m : Nat} (y : Nat) (h1 : 1 ≤ m) (h2 : m ≤ 12) :
    LexSpec.monthLength y m = daysInMonth y m := by
  have : m = 1 ∨ m = 2 ∨ m = 3 ∨ m = 4 ∨ m = 5 ∨ m = 6 ∨ m = 7 ∨ m = 8 ∨ m = 9 ∨ m = 10 ∨ m = 11 ∨ m = 12 := by
    omega
  rcases this with h | h | h | h | h | h | h | h | h | h | h | h <;> subst h <;>
    simp [LexSpec.monthLength, daysInMonth, leap_eq]

theorem spec_four (a b c d : Nat) : LexSpec.four a b c d = four a b c d := by
  simp [LexSpec.four, four]; omega

theorem daysInMonth_le (y m : Nat) : daysInMonth y m ≤ 31 := by
  unfold daysInMonth; split <;> split <;> omega

theorem daysInMonth_pos (y m : Nat) : 1 ≤ daysInMonth y m := by
  unfold daysInMonth; split <;> split <;> omega

theorem dtOk_ymd (y m d : Nat) : dtOk (assign fmtYmd [y, m, d] {}) = true ↔
    (1 ≤ y ∧ y ≤ 9999) ∧ (1 ≤ m ∧ m ≤ 12) ∧ 1 ≤ d ∧ d ≤ daysInMonth y m := by
  simp [dtOk_iff, fmtYmd, assign, DateTime.effYear, and_assoc]

theorem dtOk_ym (y m : Nat) : dtOk (assign fmtYm [y, m] {}) = true ↔ (1 ≤ y ∧ y ≤ 9999) ∧ 1 ≤ m ∧ m ≤ 12 := by
  have := daysInMonth_pos y m
  simp [dtOk_iff, fmtYm, assign, DateTime.effYear, and_assoc]
  omega

theorem spec_digit (c : Nat) : LexSpec.digit c = isAsciiDigit c := rfl
theorem spec_two (a b : Nat) : LexSpec.two a b = two a b := rfl

theorem effFmt_ymd (s : Str) : effFmt s fmtYmd = fmtYmd := by
  simp [effFmt, fmtYmd]

theorem effFmt_ym (s : Str) : effFmt s fmtYm = fmtYm := by
  simp [effFmt, fmtYm]

theorem isYearMonth_iff {s : Str} : LexSpec.isYearMonth s = true ↔
    ∃ y1 y2 y3 y4 m1 m2, s = [y1, y2, y3, y4, m1, m2] ∧
      isAsciiDigit y1 = true ∧ isAsciiDigit y2 = true ∧ isAsciiDigit y3 = true ∧ isAsciiDigit y4 = true ∧
      isAsciiDigit m1 = true ∧ isAsciiDigit m2 = true ∧ 1 ≤ two m1 m2 ∧ two m1 m2 ≤ 12 := by
  constructor
  · intro h
    unfold LexSpec.isYearMonth at h
    split at h
    · rename_i y1 y2 y3 y4 m1 m2
      simp only [Bool.and_eq_true, decide_eq_true_eq] at h
      simp only [spec_digit, spec_two] at h
      obtain ⟨⟨⟨⟨⟨⟨⟨a1, a2⟩, a3⟩, a4⟩, a5⟩, a6⟩, a7⟩, a8⟩ := h
      exact ⟨y1, y2, y3, y4, m1, m2, rfl, a1, a2, a3, a4, a5, a6, a7, a8⟩
    · cases h
  · rintro ⟨y1, y2, y3, y4, m1, m2, rfl, a1, a2, a3, a4, a5, a6, a7, a8⟩
    simp only [LexSpec.isYearMonth, Bool.and_eq_true, decide_eq_true_eq]
    simp only [spec_digit, spec_two]
    exact ⟨⟨⟨⟨⟨⟨⟨a1, a2⟩, a3⟩, a4⟩, a5⟩, a6⟩, a7⟩, a8⟩

theorem isDate_iff {s : Str} : LexSpec.isDate s = true ↔
    ∃ y1 y2 y3 y4 m1 m2 d1 d2, s = [y1, y2, y3, y4, m1, m2, d1, d2] ∧
      isAsciiDigit y1 = true ∧ isAsciiDigit y2 = true ∧ isAsciiDigit y3 = true ∧ isAsciiDigit y4 = true ∧
      isAsciiDigit m1 = true ∧ isAsciiDigit m2 = true ∧ isAsciiDigit d1 = true ∧ isAsciiDigit d2 = true ∧
      1 ≤ two m1 m2 ∧ two m1 m2 ≤ 12 ∧ 1 ≤ two d1 d2 ∧
      two d1 d2 ≤ daysInMonth (four y1 y2 y3 y4) (two m1 m2) := by
  constructor
  · intro h
    unfold LexSpec.isDate at h
    split at h
    · rename_i y1 y2 y3 y4 m1 m2 d1 d2
      simp only [Bool.and_eq_true, decide_eq_true_eq] at h
      simp only [spec_digit, spec_two, spec_four] at h
      obtain ⟨⟨⟨⟨hym, hd1⟩, hd2⟩, hlo⟩, hhi⟩ := h
      obtain ⟨_, _, _, _, _, _, he, h1, h2, h3, h4, h5, h6, h7, h8⟩ := isYearMonth_iff.1 hym
      simp only [List.cons.injEq, and_true] at he
      obtain ⟨rfl, rfl, rfl, rfl, rfl, rfl⟩ := he
      rw [monthLength_eq _ h7 h8] at hhi
      exact ⟨y1, y2, y3, y4, m1, m2, d1, d2, rfl, h1, h2, h3, h4, h5, h6, hd1, hd2, h7, h8, hlo, hhi⟩
    · cases h
  · rintro ⟨y1, y2, y3, y4, m1, m2, d1, d2, rfl, h1, h2, h3, h4, h5, h6, h7, h8, h9, h10, h11, h12⟩
    simp only [LexSpec.isDate, Bool.and_eq_true, decide_eq_true_eq]
    simp only [spec_digit, spec_two, spec_four]
    rw [monthLength_eq _ h9 h10]
    exact ⟨⟨⟨⟨isYearMonth_iff.2 ⟨_, _, _, _, _, _, rfl, h1, h2, h3, h4, h5, h6, h9, h10⟩, h7⟩, h8⟩, h11⟩, h12⟩

theorem year0000_false_iff {y1 y2 y3 y4 : Nat} {r : Str} (h1 : isAsciiDigit y1 = true)
    (h2 : isAsciiDigit y2 = true) (h3 : isAsciiDigit y3 = true) (h4 : isAsciiDigit y4 = true) :
    year0000 (y1 :: y2 :: y3 :: y4 :: r) = false ↔ 1 ≤ four y1 y2 y3 y4 := by
  have e : year0000 (y1 :: y2 :: y3 :: y4 :: r) = true ↔ (y1 = 48 ∧ y2 = 48 ∧ y3 = 48 ∧ y4 = 48) := by
    simp [year0000]
  rw [← Bool.not_eq_true, e, ← four_eq_zero h1 h2 h3 h4]
  omega

theorem ymd_reads (s : Str) : validateDatetime s fmtYmd = .pass ↔
    ∃ vals, Reads fmtYmd s vals ∧ dtOk (assign fmtYmd vals {}) = true := by
  have := validateDatetime_reads s fmtYmd (by rw [effFmt_ymd]; rfl)
  rwa [effFmt_ymd] at this

theorem date_pass_iff (s : Str) :
    validateDatetime s fmtYmd = .pass ↔ LexSpec.isDate s = true ∧ year0000 s = false := by
  rw [ymd_reads, isDate_iff]
  constructor
  · rintro ⟨_, ⟨y1, y2, y3, y4, _, _, rfl, rfl, h1, h2, h3, h4, m1, m2, _, _, rfl, rfl, h5, h6, ha, hb,
      d1, d2, _, _, rfl, rfl, h7, h8, hc, -, rfl, rfl⟩, hok⟩
    obtain ⟨⟨hy, -⟩, -, -, hd⟩ := (dtOk_ymd _ _ _).1 hok
    exact ⟨⟨_, _, _, _, _, _, _, _, rfl, h1, h2, h3, h4, h5, h6, h7, h8, ha, hb, hc, hd⟩,
      (year0000_false_iff h1 h2 h3 h4).2 hy⟩
  · rintro ⟨⟨y1, y2, y3, y4, m1, m2, d1, d2, rfl, h1, h2, h3, h4, h5, h6, h7, h8, ha, hb, hc, hd⟩, hy⟩
    have := daysInMonth_le (four y1 y2 y3 y4) (two m1 m2)
    exact ⟨_, ⟨y1, y2, y3, y4, _, _, rfl, rfl, h1, h2, h3, h4, m1, m2, _, _, rfl, rfl, h5, h6, ha, hb,
      d1, d2, _, _, rfl, rfl, h7, h8, hc, (by show two d1 d2 ≤ 31; omega), rfl, rfl⟩,
      (dtOk_ymd _ _ _).2 ⟨⟨(year0000_false_iff h1 h2 h3 h4).1 hy, four_le h1 h2 h3 h4⟩, ⟨ha, hb⟩, hc, hd⟩⟩

theorem ym_pass_iff (s : Str) :
    validateDatetime s fmtYm = .pass ↔ LexSpec.isYearMonth s = true ∧ year0000 s = false := by
  rw [validateDatetime_reads s fmtYm (by rw [effFmt_ym]; rfl), effFmt_ym, isYearMonth_iff]
  constructor
  · rintro ⟨_, ⟨y1, y2, y3, y4, _, _, rfl, rfl, h1, h2, h3, h4, m1, m2, _, _, rfl, rfl, h5, h6, ha, hb, rfl, rfl⟩, hok⟩
    exact ⟨⟨_, _, _, _, _, _, rfl, h1, h2, h3, h4, h5, h6, ha, hb⟩,
      (year0000_false_iff h1 h2 h3 h4).2 ((dtOk_ym _ _).1 hok).1.1⟩
  · rintro ⟨⟨y1, y2, y3, y4, m1, m2, rfl, h1, h2, h3, h4, h5, h6, ha, hb⟩, hy⟩
    exact ⟨_, ⟨y1, y2, y3, y4, _, _, rfl, rfl, h1, h2, h3, h4, m1, m2, _, _, rfl, rfl, h5, h6, ha, hb, rfl, rfl⟩,
      (dtOk_ym _ _).2 ⟨⟨(year0000_false_iff h1 h2 h3 h4).1 hy, four_le h1 h2 h3 h4⟩, ha, hb⟩⟩

theorem isYearMonth_facts {s : Str} (h : LexSpec.isYearMonth s = true) :
    s.length = 6 ∧ s.contains 119 = false := by
  obtain ⟨y1, y2, y3, y4, m1, m2, rfl, h1, h2, h3, h4, h5, h6, _⟩ := isYearMonth_iff.1 h
  exact ⟨rfl, not_contains_of_all_digit (by simp [h1, h2, h3, h4, h5, h6]) (by decide)⟩

theorem isDate_facts {s : Str} (h : LexSpec.isDate s = true) :
    s.length = 8 ∧ s.contains 119 = false := by
  obtain ⟨y1, y2, y3, y4, m1, m2, d1, d2, rfl, h1, h2, h3, h4, h5, h6, h7, h8, _⟩ := isDate_iff.1 h
  exact ⟨rfl, not_contains_of_all_digit (by simp [h1, h2, h3, h4, h5, h6, h7, h8]) (by decide)⟩

theorem weekMatch_eq (w : Str) : LexSpec.isWeekCode w = weekCodes.contains w := by
  unfold LexSpec.isWeekCode
  rcases w with _ | ⟨a, _ | ⟨b, _ | ⟨c, t⟩⟩⟩
  · rfl
  · simp [weekCodes]
  · by_cases ha : a = 119
    · subst ha
      rw [Bool.eq_iff_iff]
      simp [weekCodes]
      omega
    · split
      · rename_i n heq
        simp at heq
        exact absurd heq.1 ha
      · simp [weekCodes, ha]
  · simp [weekCodes]

theorem weekCodes_facts {w : Str} (h : weekCodes.contains w = true) : w.length = 2 ∧ w.head? = some 119 := by
  simp [weekCodes] at h
  rcases h with rfl | rfl | rfl | rfl | rfl <;> exact ⟨rfl, rfl⟩

theorem not_isYearMonth_of_w {s : Str} (hw : s.contains 119 = true) : LexSpec.isYearMonth s = false := by
  cases h : LexSpec.isYearMonth s
  · rfl
  · have := (isYearMonth_facts h).2
    rw [hw] at this; cases this

theorem not_isDate_of_w {s : Str} (hw : s.contains 119 = true) : LexSpec.isDate s = false := by
  cases h : LexSpec.isDate s
  · rfl
  · have := (isDate_facts h).2
    rw [hw] at this; cases this

theorem monthYear_pass_iff (s : Str) :
    validateMonthYear s = .pass ↔ LexSpec.isMonthYear s = true ∧ year0000 s = false := by
  unfold validateMonthYear LexSpec.isMonthYear
  rw [weekMatch_eq]
  by_cases hw : s.contains 119 = true
  · rw [if_pos hw, not_isYearMonth_of_w hw, not_isDate_of_w hw]
    simp only [Bool.false_or, Bool.and_eq_true]
    by_cases hwk : weekCodes.contains (s.drop (s.length - 2)) = true
    · have hk := (weekCodes_facts hwk).1
      simp only [List.length_drop] at hk
      by_cases hv : (s.take (s.length - 2)).length = 6
      · have hlen : s.length = 8 := by
          simp only [List.length_take] at hv; omega
        have e2 : s.length - 2 = 6 := by omega
        rw [e2] at hwk hv ⊢
        simp only [hwk, Bool.not_true, Bool.false_eq_true, ↓reduceIte, hv, ne_eq, not_true_eq_false]
        rw [ym_pass_iff]
        have : year0000 (s.take 6) = year0000 s := by
          simp [year0000, List.take_take]
        rw [this]
        simp
      · simp only [hwk, Bool.not_true, Bool.false_eq_true, ↓reduceIte, ne_eq, hv, not_false_eq_true,
          reduceCtorEq, false_iff]
        rintro ⟨⟨h1, h2⟩, -⟩
        have := (weekCodes_facts h2).1
        simp only [List.length_drop] at this
        have e2 : s.length - 2 = 6 := by omega
        rw [e2] at hv
        simp only [List.length_take] at hv
        omega
    · simp only [hwk, Bool.not_false, ↓reduceIte, reduceCtorEq, false_iff]
      rintro ⟨⟨h1, h2⟩, -⟩
      have := (weekCodes_facts h2).1
      simp only [List.length_drop] at this
      have e2 : s.length - 2 = 6 := by omega
      rw [e2] at hwk
      exact hwk h2
  · rw [if_neg hw]
    have h3 : weekCodes.contains (s.drop 6) = false := by
      cases h : weekCodes.contains (s.drop 6)
      · rfl
      · exfalso
        apply hw
        have := (weekCodes_facts h).2
        have hm : (119 : Nat) ∈ s.drop 6 := by
          cases hd : s.drop 6 with
          | nil => rw [hd] at this; cases this
          | cons a r => rw [hd] at this; simp at this; subst this; simp
        simpa using List.mem_of_mem_drop hm
    rw [h3]
    simp only [Bool.and_false, Bool.or_false]
    by_cases hl : s.length = 6
    · rw [if_pos hl, ym_pass_iff]
      have : LexSpec.isDate s = false := by
        cases h : LexSpec.isDate s
        · rfl
        · have := (isDate_facts h).1; omega
      rw [this]; simp
    · rw [if_neg hl, date_pass_iff]
      have : LexSpec.isYearMonth s = false := by
        cases h : LexSpec.isYearMonth s
        · rfl
        · have := (isYearMonth_facts h).1; omega
      rw [this]; simp

end AsyncFix.Lemmas.LexDate
