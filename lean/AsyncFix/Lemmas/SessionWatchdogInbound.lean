import AsyncFix.Lemmas.SessionWatchdogRecv

/-!
C12, inbound, the dispatch: what `_process_message` does per message type, for every value of the validity
flag, and the summary `dispatch_tolerable` of all frames the liveness statements admit.  An in-sequence frame
is then finalised – the equations of `recv` for the wrong-id Heartbeat and the TestRequest, the summary
`recv_benign_on` –; a frame numbered too high is not (`SessionWatchdogGap`).
-/
namespace AsyncFix.Session.Watchdog

open AsyncFix.Generated AsyncFix.Generated.ConnEnum

theorem heartbeat_routine {m : Msg} (hm : m.mtype = mHeartbeat) : Routine m := by
  simp [Routine, hm, mHeartbeat, mLogon, mSequenceReset, mLogout, mResendRequest]

theorem heartbeat_not_reset {m : Msg} (hm : m.mtype = mHeartbeat) : (m.mtype == mSequenceReset) = false := by
  rw [hm]; decide

theorem testrequest_routine {m : Msg} (hm : m.mtype = mTestRequest) : Routine m := by
  simp [Routine, hm, mTestRequest, mLogon, mSequenceReset, mLogout, mResendRequest]

/-- the Heartbeat `_process_testrequest` answers with: the request's TestReqID, `0` when it has none -/
def echoMsg (m : Msg) : Msg := Msg.mk' mHeartbeat [(tTestReqID, (m.get? tTestReqID).getD "0")]

theorem echo_only (env : Env) (h : Int) (c : Conn) (m : Msg) (ho : On h c) :
    OutboundOnly c (sendMsg env (echoMsg m) c).conn ∧ NoDisc (sendMsg env (echoMsg m) c).eff ∧
    Writes (·.mtype = mHeartbeat) (sendMsg env (echoMsg m) c).eff := by
  obtain ⟨k, nd, w⟩ := sendMsg_on_quiet env c (echoMsg m) ho.state ho.sock (heartbeatMsg_plain _) rfl
  exact ⟨k, nd, w.mono fun f hf => by rw [hf]; rfl⟩

/-- an inbound ResendRequest for numbers never sent: BeginSeqNo and EndSeqNo numeric, BeginSeqNo below 1 or at /
beyond `next_num_out` -/
def IgnoredResend (c : Conn) (m : Msg) : Prop :=
  m.mtype = mResendRequest ∧ ∃ b e : Int, (m.get? tBeginSeqNo).bind pyInt = some b ∧
    (m.get? tEndSeqNo).bind pyInt = some e ∧ (b < 1 ∨ c.sess.nextOut ≤ b)

theorem resend_headable {m : Msg} (hm : m.mtype = mResendRequest) : Headable m := by
  rw [Headable, hm]; decide

/-- `_process_resend` for an ignored request: RESENDREQ_HANDLING and straight back to ACTIVE (two
`on_state_change` calls) – unless a resend is awaited, then nothing at all; nothing is written. -/
theorem dispatch_resend_ignored (env : Env) (sr : Msg → Bool) (c : Conn) (m : Msg) (valid : Bool) (n : Int)
    (hi : IgnoredResend c m) :
    processDispatch env sr m valid n c =
      if c.state = st_RESENDREQ_AWAITING then ⟨.ok (), c, []⟩
      else ⟨.ok (), { c with state := st_ACTIVE, wasActive := true },
            [.onState st_RESENDREQ_HANDLING, .onState st_ACTIVE]⟩ := by
  obtain ⟨hm, b, e, hb, he, hr⟩ := hi
  obtain ⟨vb, hvb, hpb⟩ := bind_pyInt hb
  obtain ⟨ve, hve, hpe⟩ := bind_pyInt he
  rw [processDispatch_resend env sr hm, processResend_ignored env sr hm hvb hpb hve hpe hr]

/-- watchdog fields as `disconnect` resets them before it tries to send the Logout -/
def cleared (c : Conn) : Conn := { c with testReqId := none, lastTime := 0, maxResend := 0 }

/-- `disconnect(DISCONNECTED_BROKEN_CONN, logout_message=text)` on an ACTIVE connection with transport, the
Logout sendable: it is written first, then socket closed, state, `on_disconnect` -/
theorem disconnect_logout_sent (env : Env) (c : Conn) (text : String) (j : Journal) (ha : c.state = st_ACTIVE)
    (hs : c.sock = true) (hl : frameLatin1 (frameOf env (cleared c) (logoutMsg text)) = true)
    (hj : c.journal.persist .outbound c.sess.nextOut (frameOf env (cleared c) (logoutMsg text)) = some j) :
    disconnect env st_DISCONNECTED_BROKEN_CONN (some text) c =
      ⟨.ok (), dropped (sent c j), .write (frameOf env (cleared c) (logoutMsg text)) :: dropEff⟩ := by
  have hsend := sendMsg_on_frame env (cleared c) (logoutMsg text) (active_ge8 ha) hs (logoutMsg_plain text) rfl
  have e1 : (cleared c).journal = c.journal := rfl
  have e2 : (cleared c).sess = c.sess := rfl
  rw [e1, e2, hl, hj] at hsend
  rw [disconnect_logout env (by rw [ha]; decide) (Nat.le_refl _) hsend]
  simp [discTail, sent, bump, cleared, hs, dropped, dropEff, caught, st_DISCONNECTED_BROKEN_CONN, st_ACTIVE]

/-- a Heartbeat carrying a TestReqID while a TestRequest is outstanding, right id or not -/
def echoes (c : Conn) (m : Msg) : Bool :=
  m.mtype == mHeartbeat && c.testReqId.isSome && (m.get? tTestReqID).isSome

theorem echoes_true {c : Conn} {m : Msg} {tid : Int} {v : String} (hm : m.mtype = mHeartbeat)
    (ht : c.testReqId = some tid) (hv : m.get? tTestReqID = some v) : echoes c m = true := by
  simp [echoes, hm, ht, hv]

theorem echoes_false {c : Conn} {m : Msg}
    (h : m.mtype ≠ mHeartbeat ∨ c.testReqId = none ∨ m.get? tTestReqID = none) : echoes c m = false := by
  rcases h with h | h | h <;> simp [echoes, h]

/-- What the swallowed dispatch of a tolerable frame `m` on `c` leaves behind (`c3`, effects `e3`): still
logged on, in the same state (ACTIVE after an ignored ResendRequest), `lastTime` and what makes a frame
in-sequence untouched; the outstanding id cleared exactly by an echo; nothing torn down, and the only frame
possibly written is the Heartbeat answering a TestRequest (`quiet`, `writes`). -/
structure Dispatched (h : Int) (c : Conn) (m : Msg) (c3 : Conn) (e3 : List Effect) : Prop where
  on : On h c3
  sameState : Routine m → c3.state = c.state
  state : c3.state = c.state ∨ c3.state = st_ACTIVE
  lastTime : c3.lastTime = c.lastTime
  inSeq : InSeq c m → InSeq c3 m
  testReqId : c3.testReqId = (if echoes c m then none else c.testReqId)
  noDisc : NoDisc e3
  quiet : m.mtype ≠ mTestRequest → Watchdog.writes e3 = []
  writes : Writes (·.mtype = mHeartbeat) e3

/-- The dispatch of a frame that is of a routine type or an ignored ResendRequest and – if it is a Heartbeat
with a TestReqID while a TestRequest is outstanding – echoes the right id, accepted or not (`valid`). -/
theorem dispatch_tolerable (env : Env) (sr : Msg → Bool) (h : Int) (c : Conn) (m : Msg) (valid : Bool) (n : Int)
    (ho : On h c) (hk : Routine m ∨ IgnoredResend c m)
    (hid : m.mtype = mHeartbeat → ∀ tid v, c.testReqId = some tid → m.get? tTestReqID = some v →
      (pyInt v).getD 0 = tid) :
    ∃ c3 e3, swallow () (processDispatch env sr m valid n) c = ⟨.ok (), c3, e3⟩ ∧ Dispatched h c m c3 e3 := by
  -- nothing but the id moves, nothing written
  have same : ∀ (t : Option Int) (e3 : List Effect),
      processDispatch env sr m valid n c = ⟨.ok (), { c with testReqId := t }, e3⟩ →
      t = (if echoes c m then none else c.testReqId) → NoDisc e3 → writes e3 = [] →
      ∃ c3 e3, swallow () (processDispatch env sr m valid n) c = ⟨.ok (), c3, e3⟩ ∧ Dispatched h c m c3 e3 :=
    fun t e3 hd ht hn hw => ⟨_, e3, swallow_ok hd, ⟨ho.state, ho.sock, ho.hb, ho.watermark⟩, fun _ => rfl,
      Or.inl rfl, rfl, fun hi => hi.congr rfl rfl rfl, ht, hn, fun _ => hw, Writes.of_nil hw⟩
  by_cases hi : IgnoredResend c m
  · have hech : echoes c m = false := echoes_false (.inl (by rw [hi.1]; decide))
    have hd := dispatch_resend_ignored env sr c m valid n hi
    by_cases hst : c.state = st_RESENDREQ_AWAITING
    · rw [if_pos hst] at hd
      exact same c.testReqId [] hd (by rw [hech]; rfl) NoDisc.nil rfl
    · rw [if_neg hst] at hd
      exact ⟨_, _, swallow_ok hd, ⟨by show 8 ≤ st_ACTIVE; decide, ho.sock, ho.hb, active_watermark rfl⟩,
        fun hr => absurd hr.2.2.2 (by rw [hi.1]; decide), Or.inr rfl, rfl, fun hs => hs.congr rfl rfl rfl,
        by rw [hech]; rfl, NoDisc.cons rfl (NoDisc.cons rfl NoDisc.nil), fun _ => rfl, Writes.of_nil rfl⟩
  have hrt : Routine m := hk.resolve_right hi
  by_cases hm : m.mtype = mHeartbeat
  · have hdh := dispatch_heartbeat env sr c m n hm valid
    cases ht : c.testReqId with
    | none =>
      rw [ht] at hdh
      exact same c.testReqId [] hdh (by rw [echoes_false (.inr (.inl ht))]; rfl) NoDisc.nil rfl
    | some tid =>
      cases hv : m.get? tTestReqID with
      | none =>
        rw [ht, hv] at hdh
        exact same c.testReqId [] hdh (by rw [echoes_false (.inr (.inr hv))]; rfl) NoDisc.nil rfl
      | some v =>
        rw [ht, hv] at hdh
        simp only [(hid hm tid v ht hv).symm, if_true] at hdh
        exact same none [] hdh (by rw [echoes_true hm ht hv]; rfl) NoDisc.nil rfl
  · have hech : echoes c m = false := echoes_false (.inl hm)
    by_cases hq : m.mtype = mTestRequest
    · obtain ⟨k, nd, w⟩ := echo_only env h c m ho
      have hd : swallow () (processDispatch env sr m valid n) c = ⟨.ok (), (sendMsg env (echoMsg m) c).conn,
          (sendMsg env (echoMsg m) c).eff ++ caught (sendMsg env (echoMsg m) c).res⟩ :=
        swallow_unit (dispatch_testrequest env sr c m n hq valid)
      exact ⟨_, _, hd, ho.only k, fun _ => k.state, Or.inl k.state, k.lastTime,
        fun hs => hs.congr k.nextIn k.sender k.target, by rw [hech]; exact k.testReqId,
        nd.append (caught_noDisc _), fun hne => absurd hq hne,
        w.append (Writes.of_nil (caught_writes _))⟩
    · have hd := processDispatch_app (valid := valid) (n := n) (c := c) env sr (by simpa using hrt.2.2.2)
        (by simpa using hrt.2.1) (by simpa using hrt.1) hq hm
      exact same c.testReqId _ hd (by rw [hech]; rfl) (by split; exact NoDisc.cons rfl NoDisc.nil; exact NoDisc.nil)
        (by split <;> rfl)

def wrongIdText : String := "Invalid TestRequest(TestReqID) received"

/-- Heartbeat with a different (or non-numeric, counted as 0) TestReqID while one is outstanding, Logout
sendable: Logout with the reason text written, socket closed, DISCONNECTED_BROKEN_CONN, `on_disconnect`
– and then `_finalize_message` still runs on the disconnected connection. -/
theorem recv_heartbeat_wrong (sr : Msg → Bool) (env : Env) (c : Conn) (m : Msg) (tid : Int) (v : String)
    (j : Journal) (ha : c.state = st_ACTIVE) (hs : c.sock = true) (h : InSeq c m) (hm : m.mtype = mHeartbeat)
    (ht : c.testReqId = some tid) (hv : m.get? tTestReqID = some v) (he : (pyInt v).getD 0 ≠ tid)
    (hl : frameLatin1 (frameOf env (cleared c) (logoutMsg wrongIdText)) = true)
    (hj : c.journal.persist .outbound c.sess.nextOut (frameOf env (cleared c) (logoutMsg wrongIdText)) = some j) :
    recv sr env c m =
      ((finalized env (dropped (sent c j)) m).1,
       (.write (frameOf env (cleared c) (logoutMsg wrongIdText)) :: dropEff)
         ++ (finalized env (dropped (sent c j)) m).2) := by
  have hd : processDispatch env sr m true c.sess.nextIn c =
      ⟨.ok (), dropped (sent c j), .write (frameOf env (cleared c) (logoutMsg wrongIdText)) :: dropEff⟩ := by
    rw [dispatch_heartbeat env sr c m _ hm, ht, hv]
    simp only [show ¬ tid = (pyInt v).getD 0 from fun e => he e.symm, if_false]
    exact disconnect_logout_sent env c wrongIdText j ha hs hl hj
  exact recv_via sr env c _ m _ (active_ge8 ha) h (heartbeat_routine hm).headable (swallow_ok hd)
    (h.congr rfl rfl rfl)
    (fun hq => absurd (show st_DISCONNECTED_BROKEN_CONN = st_RESENDREQ_AWAITING from hq) (by decide))

/-- inbound TestRequest: the Heartbeat carrying the request's TestReqID (`0` when absent) goes through
`send_msg`; when that raises (frame not latin-1 / journal row exists) `_process_message` swallows it;
`_finalize_message` runs in every case. -/
theorem recv_testrequest (sr : Msg → Bool) (env : Env) (h : Int) (c : Conn) (m : Msg) (ho : On h c)
    (hi : InSeq c m) (hm : m.mtype = mTestRequest) :
    recv sr env c m =
      ((finalized env (sendMsg env (echoMsg m) c).conn m).1,
       ((sendMsg env (echoMsg m) c).eff ++ caught (sendMsg env (echoMsg m) c).res) ++
         (finalized env (sendMsg env (echoMsg m) c).conn m).2) := by
  obtain ⟨k, _, _⟩ := echo_only env h c m ho
  exact recv_via sr env c _ m _ ho.state hi (testrequest_routine hm).headable
    (swallow_unit (dispatch_testrequest env sr c m _ hm))
    (hi.congr k.nextIn k.sender k.target) (ho.only k).watermark

/-- valid inbound traffic in the sense of C12: passes the integrity check, carries the expected number,
is no Logon / SequenceReset / Logout, is either no ResendRequest at all or one that is ignored (for
numbers never sent), and – if it is a Heartbeat with a TestReqID while a TestRequest is outstanding –
echoes the right id. -/
structure Benign (c : Conn) (m : Msg) : Prop where
  inseq : InSeq c m
  kind : Routine m ∨ IgnoredResend c m
  rightId : m.mtype = mHeartbeat → ∀ tid v, c.testReqId = some tid → m.get? tTestReqID = some v →
    (pyInt v).getD 0 = tid

/-- a benign frame on a connection logged on in the wide sense (ACTIVE, RESENDREQ_AWAITING,
RESENDREQ_HANDLING, RECV_SEQNUM_TOO_HIGH, …): still logged on (RESENDREQ_AWAITING may become ACTIVE),
`lastTime = now`, the outstanding id is cleared exactly by an echo, nothing is torn down, and the only
frame possibly written is the Heartbeat answering an inbound TestRequest. -/
theorem recv_benign_on (sr : Msg → Bool) (env : Env) (h : Int) (c : Conn) (m : Msg) (ho : On h c)
    (hb : Benign c m) :
    On h (recv sr env c m).1 ∧ (recv sr env c m).1.lastTime = env.now ∧
    (recv sr env c m).1.testReqId = (if echoes c m then none else c.testReqId) ∧
    NoDisc (recv sr env c m).2 ∧ (∀ f ∈ writes (recv sr env c m).2, f.mtype = mHeartbeat) ∧
    ((recv sr env c m).1.state = c.state ∨ (recv sr env c m).1.state = st_ACTIVE) ∧
    (m.mtype ≠ mTestRequest → writes (recv sr env c m).2 = []) := by
  obtain ⟨c3, e3, hd, d⟩ := dispatch_tolerable env sr h c m true c.sess.nextIn ho hb.kind hb.rightId
  rw [recv_via sr env c c3 m e3 ho.state hb.inseq (hb.kind.elim Routine.headable fun hi => resend_headable hi.1) hd (d.inSeq hb.inseq) d.on.watermark]
  obtain ⟨g1, g2, g3, g4, g5, g6⟩ := finalized_on env h c3 m d.on
  refine ⟨g1, g2, g3.trans d.testReqId, d.noDisc.append g4,
    d.writes.append (Writes.of_nil g5), ?_,
    fun hne => by show writes (e3 ++ _) = []; rw [writes_append, d.quiet hne, g5]; rfl⟩
  rcases g6 with g | g
  · exact d.state.imp g.trans g.trans
  · exact Or.inr g

/-- the same on ACTIVE: stays ACTIVE -/
theorem recv_benign (sr : Msg → Bool) (env : Env) (h : Int) (c : Conn) (m : Msg) (hu : Up h c)
    (hb : Benign c m) :
    Up h (recv sr env c m).1 ∧ (recv sr env c m).1.lastTime = env.now ∧
    (recv sr env c m).1.testReqId = (if echoes c m then none else c.testReqId) ∧
    NoDisc (recv sr env c m).2 ∧ (∀ f ∈ writes (recv sr env c m).2, f.mtype = mHeartbeat) ∧
    (m.mtype ≠ mTestRequest → writes (recv sr env c m).2 = []) := by
  obtain ⟨o1, l1, t1, n1, w1, s1, q1⟩ := recv_benign_on sr env h c m hu.on hb
  exact ⟨⟨s1.elim (fun s => s.trans hu.active) id, o1.sock, o1.hb⟩, l1, t1, n1, w1, q1⟩

end AsyncFix.Session.Watchdog
