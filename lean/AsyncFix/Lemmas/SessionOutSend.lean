import AsyncFix.Lemmas.SessionOutHoare

/-!
C05: `send_msg` for a new message (`isNew`): the Hoare triple over `sendMsg_eq` of `SessionHandlers`, and
one send as an equation in every outcome (`appSend_new` over the refusal predicate `sendRefused`; the four statements of
Props/C05 about one send read it).
-/
namespace AsyncFix.Session

open AsyncFix.Generated AsyncFix.Generated.ConnEnum

variable {sr : Msg → Bool} {U X : Prop}

theorem sendCore_new_hold (env : Env) (m : Msg) (c : Conn) (hI : OutInv c) (hn : isNew m = true)
    (hge : st_DISCONNECTED_BROKEN_CONN < c.state) :
    Hold sr U X c (sendCore env m) (fun _ c' => c'.state = c.state) := by
  unfold Hold
  rw [sendCore_new_below env ((isNew_iff m).mp hn).1 ((isNew_iff m).mp hn).2 hI.allLt]
  have hsock : c.sock = true := hI.sock hge
  split
  · exact ⟨Good.refl hI, fun a ha => by cases ha⟩
  · split
    · exact ⟨Good.refl hI, fun a ha => by cases ha⟩
    · rename_i hl
      rw [if_neg (by simp [hsock])]
      refine ⟨Good.newSend hI (fun _ => hsock) rfl rfl rfl rfl rfl
        (buildFrame_rowOk _ _ _ _ (by simpa using hl)) ?_, fun _ _ => rfl⟩
      simp [newWrites, buildFrame_isNew, hn]

theorem afterGate_outEq (c : Conn) : OutEq c (afterGate c) := by
  unfold afterGate; split
  · exact ⟨⟨rfl, rfl, rfl⟩, rfl, rfl⟩
  · exact OutEq.refl c

theorem not_gateRefuses_ge {c : Conn} {m : Msg} (h : ¬ gateRefuses c m = true) :
    st_NETWORK_CONN_ESTABLISHED ≤ c.state := by
  simp only [gateRefuses, Bool.or_eq_true, decide_eq_true_eq, not_or] at h
  omega

theorem OutInv.afterGate {c : Conn} (hI : OutInv c) : OutInv (afterGate c) := by
  apply hI.of_outEq (afterGate_outEq c)
  intro h
  rw [afterGate_sock]
  rw [afterGate_state] at h
  split at h
  · rename_i h6; exact hI.sock (by rw [h6]; decide)
  · exact hI.sock h

theorem sendMsg_hold (env : Env) (m : Msg) (c : Conn) (hI : OutInv c) (hn : isNew m = true) :
    Hold sr U X c (sendMsg env m) (fun _ c' => c'.state = (afterGate c).state) := by
  unfold Hold
  rw [sendMsg_eq]
  split
  · exact ⟨Good.refl hI, fun a ha => by cases ha⟩
  · rename_i hg
    have hge := not_gateRefuses_ge hg
    have hI' := hI.afterGate
    have halive : st_DISCONNECTED_BROKEN_CONN < (afterGate c).state :=
      afterGate_alive c (Nat.lt_of_lt_of_le (by decide) hge)
    have hc := sendCore_new_hold (sr := sr) (U := U) (X := X) env m (afterGate c) hI' hn halive
    have g1 : Good sr U X c (afterGate c) (gateEff c) :=
      Good.of_outEq hI' (afterGate_outEq c) (by unfold gateEff; split <;> rfl)
    exact ⟨g1.trans hc.1, fun a ha => hc.2 a ha⟩

theorem stateSet_hold (s : Nat) (c : Conn) (hI : OutInv c)
    (hs : st_DISCONNECTED_BROKEN_CONN < s → c.sock = true) :
    Hold sr U X c (stateSet s) (fun _ c' => c'.state = s ∧ c'.sock = c.sock) := by
  unfold stateSet
  apply Hold.bind (Q := fun _ c' => c'.state = s ∧ c'.sock = c.sock)
  · apply Hold.modify
    · exact hI.of_outEq ⟨⟨rfl, rfl, rfl⟩, rfl, rfl⟩ hs
    · exact ⟨⟨rfl, rfl, rfl⟩, rfl, rfl⟩
    · exact ⟨rfl, rfl⟩
  · intro _ c1 hI1 h1
    exact Hold.emit rfl hI1 h1

end AsyncFix.Session

/-! One `send_msg` of a new message, every outcome; in the namespace of the C05 statements, which are stated with
`sendRefused`. -/
namespace AsyncFix.Props.C05

open AsyncFix.Session AsyncFix.Generated AsyncFix.Generated.ConnEnum

/-- every way `send_msg` refuses because of the connection state (FIXConnectionError) -/
def sendRefused (c : Conn) (m : Msg) : Bool :=
  gateRefuses c m || (m.mtype == mTestRequest && c.testReqId.isNone)

theorem afterGate_of_testreq {c : Conn} {m : Msg} (hg : gateRefuses c m = false)
    (ht : (m.mtype == mTestRequest) = true) : afterGate c = c ∧ gateEff c = [] := by
  have h6 : (c.state == st_NETWORK_CONN_ESTABLISHED) = false := by
    cases h : c.state == st_NETWORK_CONN_ESTABLISHED with
    | false => rfl
    | true =>
      have hm : m.mtype = mTestRequest := by simpa using ht
      simp [gateRefuses, h, hm, mTestRequest, mLogon, mLogout] at hg
  simp [afterGate, gateEff, h6]

theorem appSend_new (env : Env) (c : Conn) (m : Msg) (hnew : isNew m = true) :
    appSend env c m =
      if sendRefused c m = true then (c, [.raised .connection])
      else if frameLatin1 (buildFrame c.sess env.stamp m c.sess.nextOut) = false then
        (afterGate c, gateEff c ++ [.raised .encoding])
      else match c.journal.persist .outbound c.sess.nextOut (buildFrame c.sess env.stamp m c.sess.nextOut) with
        | none => (bump (afterGate c), gateEff c ++ [.raised .duplicateSeqNo])
        | some j =>
          if c.sock = false then ({ bump (afterGate c) with journal := j }, gateEff c ++ [.raised .attribute])
          else ({ bump (afterGate c) with journal := j },
            gateEff c ++ [.write (buildFrame c.sess env.stamp m c.sess.nextOut)]) := by
  show (sendMsg env m).run c = _
  unfold M.run sendRefused
  rw [sendMsg_eq]
  cases hg : gateRefuses c m with
  | true => rfl
  | false =>
    rw [sendCore_fresh env ((isNew_iff m).mp hnew).1 ((isNew_iff m).mp hnew).2, afterGate_testReqId, afterGate_sess, afterGate_journal, afterGate_sock]
    cases ht : (m.mtype == mTestRequest && c.testReqId.isNone) with
    | true =>
      obtain ⟨e1, e2⟩ := afterGate_of_testreq hg (Bool.and_eq_true _ _ |>.mp ht).1
      simp [e1, e2]
    | false =>
      simp only [Bool.false_or, Bool.false_eq_true, if_false]
      cases frameLatin1 (buildFrame c.sess env.stamp m c.sess.nextOut) with
      | false => simp
      | true =>
        simp only [Bool.not_true, Bool.false_eq_true, if_false]
        cases c.journal.persist .outbound c.sess.nextOut (buildFrame c.sess env.stamp m c.sess.nextOut) with
        | none => simp
        | some j => cases c.sock <;> simp

theorem appSend_accepted (env : Env) (c : Conn) (m : Msg) (hI : OutInv c) (hnew : isNew m = true)
    (hacc : sendRefused c m = false)
    (hlat : frameLatin1 (buildFrame c.sess env.stamp m c.sess.nextOut) = true) :
    appSend env c m = (sentFresh (afterGate c) (buildFrame c.sess env.stamp m c.sess.nextOut),
      gateEff c ++ [.write (buildFrame c.sess env.stamp m c.sess.nextOut)]) := by
  have hge := not_gateRefuses_ge (c := c) (m := m) (by simp [(Bool.or_eq_false_iff.mp hacc).1])
  have hsock : c.sock = true :=
    (afterGate_sock c).symm.trans (hI.afterGate.sock (afterGate_alive c (Nat.lt_of_lt_of_le (by decide) hge)))
  rw [appSend_new env c m hnew, hacc, hlat, persist_out_of_insert _ _ _ _ (Rows.insert_append _ _ _ hI.allLt), hsock]
  simp [sentFresh, bump, afterGate_sess, afterGate_journal]

end AsyncFix.Props.C05
