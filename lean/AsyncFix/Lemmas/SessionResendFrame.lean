import AsyncFix.Lemmas.SessionResendTerms
import AsyncFix.Lemmas.SessionHandlers

/-!
The two messages `_process_resend` sends and what `send_msg` does with them: the copy of a journal row
(`prepareReplay`, as the total function `replayMsg` on rows that have their header), that the frames `Codec.encode`
makes of the copy and of a GapFill are what the specification asks for, and ONE `send_msg` call in "resend mode"
(SequenceReset or PossDupFlag=Y message: `Codec.encode` keeps the message's own MsgSeqNum, the counter is
not touched, the frame is journaled under that number and written).
-/
namespace AsyncFix.Session.C06
open Msg

def delHeader (r : Msg) : Msg :=
  ((((((r.delR tMsgType).delR tBeginString).delR tBodyLength).delR tSendingTime).delR
    tSenderCompID).delR tTargetCompID).delR tCheckSum

/-- as the fold the `delAll` lemmas of SessionData speak of -/
theorem delHeader_eq (r : Msg) : delHeader r = headerTags.foldl Msg.delR r := rfl

def withOut (c : Conn) (out : Rows) (os : Int) : Conn :=
  { c with journal := { c.journal with out := out, outSeq := os } }

@[simp] theorem withOut_state (c : Conn) (o : Rows) (os : Int) : (withOut c o os).state = c.state := rfl
@[simp] theorem withOut_sess (c : Conn) (o : Rows) (os : Int) : (withOut c o os).sess = c.sess := rfl
@[simp] theorem withOut_sock (c : Conn) (o : Rows) (os : Int) : (withOut c o os).sock = c.sock := rfl
@[simp] theorem withOut_role (c : Conn) (o : Rows) (os : Int) : (withOut c o os).role = c.role := rfl
@[simp] theorem withOut_testReqId (c : Conn) (o : Rows) (os : Int) :
    (withOut c o os).testReqId = c.testReqId := rfl
@[simp] theorem withOut_out (c : Conn) (o : Rows) (os : Int) : (withOut c o os).journal.out = o := rfl
@[simp] theorem withOut_outSeq (c : Conn) (o : Rows) (os : Int) :
    (withOut c o os).journal.outSeq = os := rfl
@[simp] theorem withOut_inb (c : Conn) (o : Rows) (os : Int) :
    (withOut c o os).journal.inb = c.journal.inb := rfl
@[simp] theorem withOut_inSeq (c : Conn) (o : Rows) (os : Int) :
    (withOut c o os).journal.inSeq = c.journal.inSeq := rfl
@[simp] theorem withOut_withOut (c : Conn) (o o' : Rows) (os os' : Int) :
    withOut (withOut c o os) o' os' = withOut c o' os' := rfl

end AsyncFix.Session.C06

namespace AsyncFix.Session
open Msg AsyncFix.Generated AsyncFix.Generated.ConnEnum

def replayMsg (row : Msg) : Msg :=
  let r1 := row.setR tPossDupFlag "Y"
  C06.delHeader (if r1.has tOrigSendingTime then r1
            else r1.setR tOrigSendingTime ((r1.get? tSendingTime).getD ""))

theorem get?_delHeader (r : Msg) (t : Nat) :
    (C06.delHeader r).get? t = if t ∈ headerTags then none else r.get? t := by
  rw [C06.delHeader_eq]; exact get?_delAll headerTags r t

/-- `del` raises KeyError on a missing field, so the row must have its whole header -/
theorem prepareReplay_ok {row : Msg} (hhdr : ∀ t ∈ headerTags, (row.get? t).isSome = true) :
    prepareReplay row = .ok (replayMsg row) := by
  rw [prepareReplay_eq, set_replace, Except.ok_bind]
  simp only [replayMsg]
  by_cases h122 : (row.setR tPossDupFlag "Y").has tOrigSendingTime = true
  · rw [if_pos h122, if_pos h122, C06.delHeader_eq]
    exact delAll_eq headerTags _ (by decide) fun t ht => isSome_get?_setR _ _ _ (hhdr t ht)
  · obtain ⟨st, hst⟩ := Option.isSome_iff_exists.mp
      (isSome_get?_setR row tPossDupFlag "Y" (hhdr tSendingTime (by decide)))
    rw [if_neg h122, if_neg h122, get_of_get? hst, Except.ok_bind,
      set_new _ _ _ (by simpa using h122), hst, C06.delHeader_eq]
    exact delAll_eq headerTags _ (by decide) fun t ht =>
      isSome_get?_setR _ _ _ (isSome_get?_setR _ _ _ (hhdr t ht))

theorem all_delHeader (f : Nat × String → Bool) (r : Msg) (h : r.tags.all f = true) :
    (C06.delHeader r).tags.all f = true := by
  rw [C06.delHeader_eq, List.all_eq_true] at *
  exact fun p hp => h p (mem_delAll hp)

namespace C06
-- (`rfl` works but is slow to check: the unifier first tries to identify the two messages)
@[simp] theorem mtype_delHeader (r : Msg) : (delHeader r).mtype = r.mtype := by
  rw [delHeader_eq]; exact mtype_delAll headerTags r
end C06

theorem mtype_replayMsg (row : Msg) : (replayMsg row).mtype = row.mtype := by
  unfold replayMsg
  simp only [C06.mtype_delHeader]
  split <;> rfl

theorem seq_replayMsg (row : Msg) : (replayMsg row).get? tMsgSeqNum = row.get? tMsgSeqNum := by
  unfold replayMsg
  simp only
  rw [get?_delHeader, if_neg (by decide)]
  split
  · rw [get?_setR, if_neg (by decide)]
  · rw [get?_setR, if_neg (by decide), get?_setR, if_neg (by decide)]

theorem possDup_replayMsg (row : Msg) : (replayMsg row).get? tPossDupFlag = some "Y" := by
  unfold replayMsg
  simp only
  rw [get?_delHeader, if_neg (by decide)]
  split
  · rw [get?_setR, if_pos rfl]
  · rw [get?_setR, if_neg (by decide), get?_setR, if_pos rfl]

theorem filter_replayMsg (q : Nat × String → Bool) (row : Msg)
    (h : ∀ t ∈ tPossDupFlag :: tOrigSendingTime :: headerTags, ∀ w, q (t, w) = false) :
    (replayMsg row).tags.filter q = row.tags.filter q := by
  unfold replayMsg
  simp only
  rw [C06.delHeader_eq,
    filter_delAll _ headerTags _ fun t ht => h t (List.mem_cons_of_mem _ (List.mem_cons_of_mem _ ht))]
  have h43 := h tPossDupFlag List.mem_cons_self
  have h122 := h tOrigSendingTime (List.mem_cons_of_mem _ List.mem_cons_self)
  split
  · exact filter_setR _ _ _ _ h43
  · rw [filter_setR _ _ _ _ h122]
    exact filter_setR _ _ _ _ h43

theorem latin_replayMsg {row : Msg} (hl : row.tags.all (fun p => isLatin1 p.2) = true) :
    (replayMsg row).tags.all (fun p => isLatin1 p.2) = true := by
  have h1 : (row.setR tPossDupFlag "Y").tags.all (fun p => isLatin1 p.2) = true :=
    all_setR _ _ _ _ hl (by decide)
  unfold replayMsg
  simp only
  apply all_delHeader
  split
  · exact h1
  · apply all_setR _ _ _ _ h1
    cases hst : (row.setR tPossDupFlag "Y").get? tSendingTime with
    | none => decide
    | some st => exact all_of_lookup (fun p => isLatin1 p.2) _ tSendingTime st h1 hst

theorem sendMsg_own (env : Env) {m : Msg} {c : Conn} {k : Int} {v : String} {J : Rows}
    (h6 : st_NETWORK_CONN_ESTABLISHED < c.state) (h7 : c.state ≠ st_LOGON_INITIAL_SENT)
    (hsock : c.sock = true)
    (hkeep : m.mtype = mSequenceReset ∨ (m.get? tPossDupFlag).getD "N" = "Y")
    (h1 : m.mtype ≠ mTestRequest) (h34 : m.get? tMsgSeqNum = some v) (hv : pyInt v = some k)
    (hlat : frameLatin1 (buildFrame c.sess env.stamp m k) = true)
    (hins : Rows.insert k (buildFrame c.sess env.stamp m k) c.journal.out = some J) :
    sendMsg env m c = ⟨.ok (), C06.withOut c J k, [.write (buildFrame c.sess env.stamp m k)]⟩ := by
  rw [sendMsg_pass env h6 fun h => h7 h.2.1]
  exact sendCore_journaled env (encodeSeq_own hkeep h34 hv c) h1 hlat hins hsock

/-- what stays fixed while the loop of `_process_resend` runs: past the logon phase, transport present,
CompIDs and clock text single-byte -/
structure LoopCtx (env : Env) (c : Conn) : Prop where
  h6 : st_NETWORK_CONN_ESTABLISHED < c.state
  h7 : c.state ≠ st_LOGON_INITIAL_SENT
  sock : c.sock = true
  lsender : isLatin1 c.sess.sender = true
  ltarget : isLatin1 c.sess.target = true
  lstamp : isLatin1 env.stamp = true

theorem LoopCtx.withOut {env : Env} {c : Conn} (h : LoopCtx env c) (o : Rows) (os : Int) :
    LoopCtx env (C06.withOut c o os) :=
  ⟨h.h6, h.h7, h.sock, h.lsender, h.ltarget, h.lstamp⟩

/-- the states in which `_process_resend` runs its loop -/
theorem LoopCtx.of_resend {env : Env} {c : Conn}
    (hst : c.state = st_RESENDREQ_HANDLING ∨ c.state = st_RESENDREQ_AWAITING) (hsock : c.sock = true)
    (l1 : isLatin1 c.sess.sender = true) (l2 : isLatin1 c.sess.target = true)
    (l3 : isLatin1 env.stamp = true) : LoopCtx env c :=
  ⟨by rcases hst with h | h <;> rw [h] <;> decide, by rcases hst with h | h <;> rw [h] <;> decide,
    hsock, l1, l2, l3⟩

end AsyncFix.Session

namespace AsyncFix.Session.C06
open Msg AsyncFix.Generated AsyncFix.Generated.ConnEnum

theorem RowOK.header {n : Int} {row : Msg} (h : RowOK n row) :
    ∀ t ∈ headerTags, (row.get? t).isSome = true := by
  intro t ht
  simp only [headerTags, List.mem_cons, List.mem_nil_iff, or_false] at ht
  rcases ht with rfl | rfl | rfl | rfl | rfl | rfl | rfl
  · rw [h.tag35]; rfl
  · exact h.has8
  · exact h.has9
  · exact h.has52
  · exact h.has49
  · exact h.has56
  · exact h.has10

theorem orig_replayMsg {n : Int} {row : Msg} (h : RowOK n row) :
    ∃ t, origTime row = some t ∧ (replayMsg row).get? tOrigSendingTime = some t := by
  unfold replayMsg origTime
  simp only
  rw [get?_delHeader, if_neg (by decide)]
  have e122 : (row.setR tPossDupFlag "Y").get? tOrigSendingTime = row.get? tOrigSendingTime := by
    rw [get?_setR, if_neg (by decide)]
  have e52 : (row.setR tPossDupFlag "Y").get? tSendingTime = row.get? tSendingTime := by
    rw [get?_setR, if_neg (by decide)]
  rw [has_eq, e122, e52]
  cases h122 : row.get? tOrigSendingTime with
  | some t =>
    refine ⟨t, rfl, ?_⟩
    simp only [Option.isSome_some, if_true]
    rw [e122, h122]
  | none =>
    have := h.has52
    rw [has_eq, Option.isSome_iff_exists] at this
    obtain ⟨st, hst⟩ := this
    refine ⟨st, hst, ?_⟩
    simp only [Option.isSome_none, Bool.false_eq_true, if_false]
    rw [get?_setR, if_pos rfl, hst]; rfl

theorem body_replayMsg (row : Msg) :
    (replayMsg row).tags.filter (fun p => !envelopeTags.contains p.1) = appBody row :=
  filter_replayMsg _ row fun t ht _ =>
    (by decide : ∀ t ∈ tPossDupFlag :: tOrigSendingTime :: headerTags, (!envelopeTags.contains t) = false) t ht

theorem appBody_buildFrame (s : Session) (st : String) (m : Msg) (k : Int) :
    appBody (buildFrame s st m k) = m.tags.filter (fun p => !envelopeTags.contains p.1) := by
  obtain ⟨bl, ck, e⟩ := buildFrame_tags s st m k
  unfold appBody
  -- the seven fields in front and CheckSum are envelope fields; what `ownTags` drops is envelope too
  rw [e]
  show List.filter _ (ownTags m ++ [(tCheckSum, pad3 ck)]) = _
  rw [List.filter_append, show List.filter _ [(tCheckSum, pad3 ck)] = [] from rfl, List.append_nil]
  apply filter_filter_of_imp
  intro p hp
  simp only [envelopeTags, List.contains_cons, List.contains_nil, Bool.or_false, Bool.not_eq_true',
    Bool.or_eq_false_iff, beq_eq_false_iff_ne] at hp
  obtain ⟨_, _, _, b4, b5, b6, b7, _⟩ := hp
  simp [b4, b5, b6, b7]

theorem rowOK_buildFrame (s : Session) (st : String) (m : Msg) (k : Int)
    (hs : isLatin1 s.sender = true) (ht : isLatin1 s.target = true) (hst : isLatin1 st = true)
    (hm : isLatin1 m.mtype = true) (htags : m.tags.all (fun p => isLatin1 p.2) = true) :
    RowOK k (buildFrame s st m k) where
  seq := ⟨pyStr k, buildFrame_get_seq s st m k, pyInt_pyStr k⟩
  tag35 := buildFrame_get_mtype s st m k
  has8 := has_of_get? (buildFrame_get_begin s st m k)
  has9 := buildFrame_has_bodyLength s st m k
  has52 := has_of_get? (buildFrame_get_stamp s st m k)
  has49 := has_of_get? (buildFrame_get_sender s st m k)
  has56 := has_of_get? (buildFrame_get_target s st m k)
  has10 := buildFrame_has_checkSum s st m k
  latin := frameLatin1_buildFrame s st m k hs ht hst hm htags

theorem isGapFill_buildFrame (s : Session) (st : String) (a z : Int) :
    IsGapFill s a z (buildFrame s st (gapFillMsg a z) a) where
  mtype := rfl
  tag35 := buildFrame_get_mtype ..
  seq := buildFrame_get_seq ..
  newSeq := by rw [buildFrame_get?_other _ _ _ _ (by decide)]; rfl
  gapFill := by rw [buildFrame_get?_other _ _ _ _ (by decide)]; rfl
  body := by rw [appBody_buildFrame]; rfl
  begin_ := buildFrame_get_begin ..
  sender := buildFrame_get_sender ..
  target := buildFrame_get_target ..

theorem isRetransmission_buildFrame (s : Session) (st : String) {n : Int} {row : Msg}
    (h : RowOK n row) : IsRetransmission s n row (buildFrame s st (replayMsg row) n) where
  mtype := (buildFrame_mtype ..).trans (mtype_replayMsg row)
  tag35 := (buildFrame_get_mtype ..).trans (congrArg some (mtype_replayMsg row))
  seq := buildFrame_get_seq ..
  possDup := (buildFrame_get_possdup ..).trans (possDup_replayMsg row)
  orig := by rw [buildFrame_get?_other _ _ _ _ (by decide)]; exact orig_replayMsg h
  body := by rw [appBody_buildFrame]; exact body_replayMsg row
  begin_ := buildFrame_get_begin ..
  sender := buildFrame_get_sender ..
  target := buildFrame_get_target ..

section
variable {s : Session} {stamp : String} (l1 : isLatin1 s.sender = true) (l2 : isLatin1 s.target = true)
  (l3 : isLatin1 stamp = true)
include l1 l2 l3

theorem rowOK_gapFrame (a z : Int) : RowOK a (buildFrame s stamp (gapFillMsg a z) a) :=
  rowOK_buildFrame _ _ _ _ l1 l2 l3 (by show isLatin1 mSequenceReset = true; decide)
    (by simp [gapFillMsg, Msg.mk', isLatin1_pyStr]; decide)

theorem rowOK_replayFrame {n : Int} {row : Msg} (hr : RowOK n row) :
    RowOK n (buildFrame s stamp (replayMsg row) n) := by
  have hm : isLatin1 row.mtype = true :=
    all_of_lookup (fun p => isLatin1 p.2) _ tMsgType _ hr.latin hr.tag35
  exact rowOK_buildFrame _ _ _ _ l1 l2 l3 (by rw [mtype_replayMsg]; exact hm) (latin_replayMsg hr.latin)

end

end AsyncFix.Session.C06
