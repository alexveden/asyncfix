import AsyncFix.Lemmas.SessionOutResendLoop

/-!
C05, resend servicing: what `_process_resend` leaves behind on a connection satisfying the invariant
(`ResendOut`), read off its closed form (`C06.resendCore_run`, `C06.replyRows`), and the step relation `Good`
across it for EVERY ResendRequest (`processResend_hold`; rows above EndSeqNo are put back identically since
fix da179c4).
-/
namespace AsyncFix.Session

open AsyncFix.Generated AsyncFix.Generated.ConnEnum

/-- what the servicing leaves behind (`c` before, `c'` after, request `[b, e]`) -/
structure ResendOut (env : Env) (sr : Msg → Bool) (c c' : Conn) (b e : Int) (es : List Effect) : Prop where
  nextOut : c'.sess.nextOut = c.sess.nextOut
  sender : c'.sess.sender = c.sess.sender
  target : c'.sess.target = c.sess.target
  outSeq : c'.journal.outSeq = c.sess.nextOut - 1
  sock : c'.sock = c.sock
  live : st_DISCONNECTED_BROKEN_CONN < c'.state
  noNew : newWrites es = []
  sorted : Rows.Sorted c'.journal.out
  rows : ∀ p ∈ c'.journal.out, RowOk p.2 p.1 ∧ p.1 < c.sess.nextOut
  below : ∀ k g, k < b → ((k, g) ∈ c'.journal.out ↔ (k, g) ∈ c.journal.out)
  above : ∀ k g', b ≤ k → (k, g') ∈ c'.journal.out →
    (k ≤ e ∧ (g'.mtype = mSequenceReset ∨ ∃ g rp, (k, g) ∈ c.journal.out ∧ Replayable sr g ∧
      prepareReplay g = .ok rp ∧ g' = buildFrame c.sess env.stamp rp k)) ∨
    (e < k ∧ (k, g') ∈ c.journal.out)
  copies : ∀ p ∈ c.journal.out, b ≤ p.1 → p.1 ≤ e → p.1 ≤ sysMaxsize → Replayable sr p.2 →
    ∃ rp, prepareReplay p.2 = .ok rp ∧ (p.1, buildFrame c.sess env.stamp rp p.1) ∈ c'.journal.out
  kept : ∀ p ∈ c.journal.out, b ≤ p.1 → e < p.1 → p.1 ≤ sysMaxsize → p ∈ c'.journal.out

theorem resendOut_served (env : Env) (sr : Msg → Bool) (c : Conn) (b e0 : Int) (hI : OutInv c)
    (hx : LoopCtx env c) :
    ResendOut env sr c (C06.served c b (C06.replyRows env sr c b e0) (C06.tailRows c b e0)) b (C06.effEnd e0)
      ((C06.replyRows env sr c b e0).map (fun p => Effect.write p.2) ++
        (if c.state = st_RESENDREQ_AWAITING then [] else [.onState st_ACTIVE])) := by
  obtain ⟨-, rK⟩ := C06.replyRows_keys env sr c b e0 hI.sorted hI.allLt
  have hmem := fun p (hp : p ∈ C06.replyRows env sr c b e0) =>
    sent_row (sr := sr) hx (fun q hq => (hI.rows q (C06.mem_lowRows.mp hq).1).1) (C06.mem_replyRows hp)
  have hout : (C06.served c b (C06.replyRows env sr c b e0) (C06.tailRows c b e0)).journal.out =
      c.journal.out.below b ++ C06.replyRows env sr c b e0 ++ C06.tailRows c b e0 := rfl
  have hmemO : ∀ p, p ∈ c.journal.out.below b ++ C06.replyRows env sr c b e0 ++ C06.tailRows c b e0 ↔
      (p ∈ c.journal.out ∧ p.1 < b) ∨ p ∈ C06.replyRows env sr c b e0 ∨ p ∈ C06.tailRows c b e0 := by
    intro p; simp only [List.mem_append, Rows.mem_below, or_assoc]
  refine ⟨rfl, rfl, rfl, rfl, rfl, ?_, ?_, ?_, ?_, ?_, ?_, ?_, ?_⟩
  · show st_DISCONNECTED_BROKEN_CONN < (if c.state = st_RESENDREQ_AWAITING then _ else _)
    split <;> decide
  · rw [newWrites_append, newWrites_map_write fun p hp => (hmem p hp).2.1]
    split <;> rfl
  · exact (C06.sorted_served env sr c b e0 hI.sorted hI.allLt).1
  · intro p hp
    rw [hout] at hp
    rcases (hmemO p).mp hp with h | h | h
    · exact hI.rows p h.1
    · exact ⟨(hmem p h).1, (C06.sorted_served env sr c b e0 hI.sorted hI.allLt).2 p (by rw [hmemO]; exact Or.inr (Or.inl h))⟩
    · exact hI.rows p (C06.mem_tailRows.mp h).1
  · intro k g hk
    rw [hout, hmemO]
    constructor
    · rintro (h | h | h)
      · exact h.1
      · have := (rK _ h).1; simp only at this; omega
      · have := (C06.mem_tailRows.mp h).2.1; simp only at this; omega
    · exact fun h => Or.inl ⟨h, hk⟩
  · intro k g' hk hm
    rw [hout] at hm
    rcases (hmemO _).mp hm with h | h | h
    · have := h.2; simp only at this; omega
    · left
      refine ⟨by have := (rK _ h).2; simp only at this; omega, ?_⟩
      rcases (hmem _ h).2.2 with h4 | ⟨g, rp, h1, h2, h3, h4⟩
      · exact Or.inl h4
      · exact Or.inr ⟨g, rp, (C06.mem_lowRows.mp h1).1, h2, h3, h4⟩
    · right; exact ⟨(C06.mem_tailRows.mp h).2.2.2, (C06.mem_tailRows.mp h).1⟩
  · intro p hp hbp hpe hmx hrep
    refine ⟨_, prepareReplay_ok (hI.rows p hp).1.toC06.header, ?_⟩
    rw [hout]
    exact (hmemO _).mpr (Or.inr (Or.inl (List.mem_append_left _
      (copy_mem_sentRows hrep b (C06.mem_lowRows.mpr ⟨hp, hbp, hmx, hpe⟩)))))
  · intro p hp hbp hpe hmx
    rw [hout]
    exact (hmemO p).mpr (Or.inr (Or.inr (C06.mem_tailRows.mpr ⟨hp, hbp, hmx, hpe⟩)))

variable {sr : Msg → Bool} {U X : Prop}

theorem Copy.mtype {snd tgt : String} {f g : Msg} (h : Copy snd tgt f g) : g.mtype = f.mtype := by
  induction h with
  | refl => rfl
  | resent stamp rp n _ hrp ih => rw [buildFrame_mtype, prepareReplay_mtype hrp, ih]

theorem not_replayable_of_seqReset {sr : Msg → Bool} {g : Msg} (h : g.mtype = mSequenceReset) :
    ¬ Replayable sr g := by
  unfold Replayable
  have : ConnEnum.noReplay.contains mSequenceReset = true := by decide
  rw [h, this]
  simp

theorem declined_of_not_replayable {sr : Msg → Bool} {snd tgt : String} {f g : Msg}
    (hc : Copy snd tgt f g) (h : ¬ Replayable sr g) : Declined sr snd tgt f := by
  unfold Replayable at h
  cases hn : ConnEnum.noReplay.contains g.mtype with
  | true => left; rw [← hc.mtype]; exact hn
  | false =>
    right
    refine ⟨g, hc, ?_⟩
    cases hs : sr g with
    | false => rfl
    | true => exact absurd (by rw [hn, hs]; rfl) h

theorem Rows.find_congr {k : Int} {A B : Rows} (hA : Rows.Sorted A) (hB : Rows.Sorted B)
    (h : ∀ g, (k, g) ∈ A ↔ (k, g) ∈ B) : Rows.find k A = Rows.find k B :=
  Option.ext fun g => by rw [Rows.find_eq_some_iff hA, Rows.find_eq_some_iff hB]; exact h g

theorem slot_after_resend (env : Env) {c c' : Conn} {b e : Int} {es : List Effect} (hI : OutInv c)
    (R : ResendOut env sr c c' b e es) (hall : ∀ p ∈ c.journal.out, p.1 ≤ sysMaxsize)
    (k : Int) (f : Msg) (hs : Slot sr c k f) : Slot sr c' k f := by
  unfold Slot at hs ⊢
  rw [R.sender, R.target]
  by_cases hk : k < b
  · rw [Rows.find_congr R.sorted hI.sorted (fun g => R.below k g hk)]; exact hs
  · have hkb : b ≤ k := by omega
    cases hfc : Rows.find k c.journal.out with
    | none =>
      rw [hfc] at hs
      cases hf' : Rows.find k c'.journal.out with
      | none => exact hs
      | some g' =>
        rcases R.above k g' hkb (Rows.find_mem hf') with ⟨_, h4 | ⟨g2, rp, hm, _⟩⟩ | ⟨_, hm⟩
        · exact Or.inr ⟨h4, hs⟩
        · have := Rows.find_of_mem hI.sorted hm; rw [hfc] at this; cases this
        · have := Rows.find_of_mem hI.sorted hm; rw [hfc] at this; cases this
    | some g =>
      rw [hfc] at hs
      have hmem := Rows.find_mem hfc
      have hmx : k ≤ sysMaxsize := hall _ hmem
      by_cases hke : k ≤ e
      · by_cases hrep : Replayable sr g
        · have hcopy : Copy c.sess.sender c.sess.target f g := by
            rcases hs with h | ⟨h4, _⟩
            · exact h
            · exact absurd hrep (not_replayable_of_seqReset h4)
          obtain ⟨rp, hrp, hfind⟩ := R.copies (k, g) hmem hkb hke hmx hrep
          rw [Rows.find_of_mem R.sorted hfind]
          left
          rw [buildFrame_sess c.sess { sender := c.sess.sender, target := c.sess.target } _ _ _ rfl rfl]
          exact Copy.resent env.stamp rp k hcopy hrp
        · have hdecl : Declined sr c.sess.sender c.sess.target f := by
            rcases hs with h | ⟨_, h⟩
            · exact declined_of_not_replayable h hrep
            · exact h
          cases hf' : Rows.find k c'.journal.out with
          | none => exact hdecl
          | some g' =>
            rcases R.above k g' hkb (Rows.find_mem hf') with ⟨_, h4 | ⟨g2, rp, hm, hr2, _, _⟩⟩ | ⟨h, _⟩
            · exact Or.inr ⟨h4, hdecl⟩
            · have := Rows.find_of_mem hI.sorted hm; rw [hfc] at this; cases this
              exact absurd hr2 hrep
            · omega
      · rw [Rows.find_of_mem R.sorted (R.kept (k, g) hmem hkb (by omega) hmx)]
        exact hs

theorem resendCore_hold (env : Env) (c : Conn) (b e0 : Int) (hI : OutInv c) (hx : LoopCtx env c)
    (hb : 1 ≤ b) (hbc : b < c.sess.nextOut) (hX : ¬ X) :
    Hold sr U X c (C06.resendCore env sr b e0) (fun _ _ => True) := by
  have R := resendOut_served env sr c b e0 hI hx
  have hlive : st_DISCONNECTED_BROKEN_CONN < c.state :=
    Nat.lt_trans (by decide : st_DISCONNECTED_BROKEN_CONN < st_NETWORK_CONN_ESTABLISHED) hx.h6
  unfold Hold
  rw [C06.resendCore_run env sr c b e0 hx hI.sorted hI.allLt (fun p hp => (hI.rows p hp).1.toC06) hb hbc]
  refine ⟨Good.of_noNew ⟨by rw [R.outSeq, R.nextOut]; omega, fun p hp => by rw [R.nextOut]; exact R.rows p hp,
      R.sorted, by rw [R.sender, R.target]; exact hI.latin, fun _ => by rw [R.sock]; exact hI.sock hlive⟩
    ⟨R.sender, R.target⟩ R.nextOut R.noNew (fun _ hB k f _ hs => ?_) (fun h => absurd h hX), fun _ _ => trivial⟩
  refine slot_after_resend env hI R (fun p hp => ?_) k f hs
  have := (hI.rows p hp).2
  rw [R.nextOut] at hB
  omega

/-- `_process_resend` after the state excursion began (`SessionParts.resendBody`): a range outside the journal is
ignored, anything else is `C06.resendCore` past its range check -/
theorem resendBody_hold (env : Env) (m : Msg) (c : Conn) (hI : OutInv c) (hl : Live c)
    (hstamp : isLatin1 env.stamp = true) (hX : ¬ X) :
    Hold sr U X c (resendBody env sr m) (fun _ _ => True) := by
  unfold resendBody
  hstep; hstep; hstep
  have hstate : (c.state == st_RESENDREQ_HANDLING || c.state == st_RESENDREQ_AWAITING) = true := ‹_›
  hstep; hstep; hstep; hstep
  rename_i b _ _ _ e0 _
  by_cases hr : b < 1 ∨ c.sess.nextOut ≤ b
  · unfold resendServe
    rw [if_pos (by simpa using hr)]
    hstep
    · exact (stateSet_hold _ c hI (fun _ => hI.sock hl)).true_of
    · hstep
  · exact Hold.congr (y := C06.resendCore env sr b e0) rfl
      (resendCore_hold env c b e0 hI
        (LoopCtx.of_resend (by simpa using hstate) (hI.sock hl) hI.latin.1 hI.latin.2 hstamp)
        (by omega) (by omega) hX)

theorem processResend_hold (env : Env) (m : Msg) (c : Conn) (hI : OutInv c)
    (hl : Live c) (hstamp : isLatin1 env.stamp = true) (hX : ¬ X) :
    Hold sr U X c (processResend env sr m) (fun _ _ => True) := by
  rw [Session.processResend_eq]
  hstep; hstep
  · refine Hold.bind (stateSet_hold _ c hI (fun _ => hI.sock hl)) ?_
    intro _ c1 hI1 h1
    exact resendBody_hold env m c1 hI1 (by unfold Live; rw [h1.1]; decide) hstamp hX
  · exact resendBody_hold env m c hI hl hstamp hX

end AsyncFix.Session
