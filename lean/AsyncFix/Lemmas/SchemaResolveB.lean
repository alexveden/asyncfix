/-
C15, order-independence of component declarations. `Ref ds E` (E is built entry by entry from `ds` by undeferred
expansions and is complete) does not see the order of `ds`, is the least fixed point of expansion, and holds of what
`resolve` returns; conversely declarations with such an `E` resolve: no sweep fails an assertion or gets stuck.
-/
import AsyncFix.Lemmas.SchemaResolveA
namespace AsyncFix.Model.SchemaResolve

def envNames (env : Env) : List String := env.map (·.1)
def declNames (p : List CDecl) : List String := p.map (·.1)

theorem envNames_snoc (env : Env) (n : String) (ms : List RMem) :
    envNames (env ++ [(n, ms)]) = envNames env ++ [n] := by
  simp [envNames]

theorem Env.get_eq (env : Env) (n : String) :
    env.get n = (env.find? fun p => p.1 = n).map (·.2) := by
  induction env with
  | nil => rfl
  | cons p rest ih =>
    obtain ⟨a, b⟩ := p
    rw [Env.get, ih]
    by_cases h : a = n <;> simp [h]

theorem Env.get_none_iff {env : Env} {n : String} : env.get n = none ↔ n ∉ envNames env := by
  simp only [Env.get_eq, Option.map_eq_none_iff, List.find?_eq_none, decide_eq_true_eq, envNames,
    List.mem_map, not_exists, not_and]

theorem Env.get_isSome_iff {env : Env} {n : String} : (env.get n).isSome = true ↔ n ∈ envNames env := by
  rw [← Decidable.not_iff_not, ← Env.get_none_iff]; simp

theorem Env.get_snoc_some {env : Env} {n0 n : String} {ms0 x : List RMem} :
    Env.get (env ++ [(n0, ms0)]) n = some x ↔
      env.get n = some x ∨ (env.get n = none ∧ n0 = n ∧ ms0 = x) := by
  rw [Env.get_eq, Env.get_eq, List.find?_append]
  cases env.find? fun p => p.1 = n with
  | some y => simp
  | none => by_cases h : n0 = n <;> simp [h]

theorem decl_unique {ds : List CDecl} (hnd : (declNames ds).Nodup) {n : String} {b1 b2 : List Decl}
    (h1 : (n, b1) ∈ ds) (h2 : (n, b2) ∈ ds) : b1 = b2 := by
  induction ds with
  | nil => cases h1
  | cons d rest ih =>
    simp only [declNames, List.map_cons, List.nodup_cons] at hnd
    rcases List.mem_cons.mp h1 with e1 | h1 <;> rcases List.mem_cons.mp h2 with e2 | h2
    · rw [← e1] at e2; exact (Prod.mk.inj e2).2.symm
    · exact absurd (List.mem_map.mpr ⟨(n, b2), h2, by rw [← e1]⟩) hnd.1
    · exact absurd (List.mem_map.mpr ⟨(n, b1), h1, by rw [← e2]⟩) hnd.1
    · exact ih hnd.2 h1 h2

/-- environments the sweep loop can produce from declarations `ds`: every entry is the
    undeferred expansion of its declaration in the environment before it -/
inductive Built (ds : List CDecl) : Env → Prop
  | nil : Built ds []
  | snoc {env : Env} {n : String} {body : List Decl} {ms : List RMem} :
      Built ds env → (n, body) ∈ ds → env.get n = none →
      expandBody env body [] false = .done ms false → Built ds (env ++ [(n, ms)])

variable {ds : List CDecl}

theorem Built.mono {ds' : List CDecl} (hsub : ∀ d, d ∈ ds → d ∈ ds') {env : Env} (h : Built ds env) :
    Built ds' env := by
  induction h with
  | nil => exact .nil
  | snoc _ hm hn he ih => exact .snoc ih (hsub _ hm) hn he

theorem Built.names_sub {env : Env} (h : Built ds env) : ∀ n, n ∈ envNames env → n ∈ declNames ds := by
  induction h with
  | nil => intro n hn; cases hn
  | snoc _ hm _ _ ih =>
    intro k hk
    rw [envNames_snoc, List.mem_append, List.mem_singleton] at hk
    rcases hk with hk | hk
    · exact ih k hk
    · exact hk ▸ List.mem_map.mpr ⟨_, hm, rfl⟩

theorem Built.nodup {env : Env} (h : Built ds env) : (envNames env).Nodup := by
  induction h with
  | nil => simp [envNames]
  | snoc _ _ hn _ ih =>
    rw [envNames_snoc, List.nodup_append]
    refine ⟨ih, by simp, ?_⟩
    intro a ha b hb
    simp only [List.mem_singleton] at hb
    subst hb
    intro e; subst e
    exact Env.get_none_iff.mp hn ha

/-- every entry of a built environment is the undeferred expansion of its declaration in the
    environment itself: expansions are monotone, and the environment only grew since the entry
    was made -/
theorem Built.expand_of_get {E : Env} (h : Built ds E) {n : String} {ms : List RMem}
    (hg : E.get n = some ms) :
    ∃ body, (n, body) ∈ ds ∧ expandBody E body [] false = .done ms false := by
  induction h with
  | nil => simp [Env.get] at hg
  | @snoc env n0 body0 ms0 hb hm hn he ih =>
    have hle : ∀ c x, env.get c = some x → Env.get (env ++ [(n0, ms0)]) c = some x :=
      fun c x hc => Env.get_snoc_some.mpr (.inl hc)
    rcases Env.get_snoc_some.mp hg with hg | ⟨_, rfl, rfl⟩
    · obtain ⟨body, hm', he'⟩ := ih hg
      exact ⟨body, hm', expand_mono hle he'⟩
    · exact ⟨body0, hm, expand_mono hle he⟩

/-- reference run: `E` is built from `ds`, contains every declared name, names are distinct -/
structure Ref (ds : List CDecl) (E : Env) : Prop where
  built : Built ds E
  complete : ∀ n, n ∈ declNames ds → n ∈ envNames E
  nodup : (declNames ds).Nodup

/-- `E` is a fixed point: every declaration expands completely in `E`, to its entry -/
theorem Ref.full {E : Env} (R : Ref ds E) {n : String} {body : List Decl} (hm : (n, body) ∈ ds) :
    ∃ ms, E.get n = some ms ∧ expandBody E body [] false = .done ms false := by
  obtain ⟨ms, hg⟩ := Option.isSome_iff_exists.mp
    (Env.get_isSome_iff.mpr (R.complete n (List.mem_map.mpr ⟨_, hm, rfl⟩)))
  obtain ⟨body', hm', he⟩ := R.built.expand_of_get hg
  cases decl_unique R.nodup hm hm'
  exact ⟨ms, hg, he⟩

/-- … and the least one: every environment built from `ds`, in whatever order and however
    far, is a part of `E` -/
theorem Ref.sub {E : Env} (R : Ref ds E) {env : Env} (hb : Built ds env) :
    ∀ c x, env.get c = some x → E.get c = some x := by
  induction hb with
  | nil => intro c x hc; simp [Env.get] at hc
  | snoc _ hm _ he ih =>
    intro c x hc
    rcases Env.get_snoc_some.mp hc with hc | ⟨_, rfl, rfl⟩
    · exact ih c x hc
    · obtain ⟨ms', hg, hfull⟩ := R.full hm
      rw [expand_mono ih he] at hfull
      cases hfull; exact hg

theorem Ref.get_unique {E E' : Env} (R : Ref ds E) (R' : Ref ds E') : ∀ n, E'.get n = E.get n := by
  intro n
  cases h : E'.get n with
  | some x => exact (R.sub R'.built n x h).symm
  | none =>
    refine (Env.get_none_iff.mpr fun hm => ?_).symm
    exact Env.get_none_iff.mp h (R'.complete n (R.built.names_sub n hm))

theorem Ref.perm {E : Env} (R : Ref ds E) {ds' : List CDecl} (hp : ds'.Perm ds) : Ref ds' E :=
  have hn : (declNames ds').Perm (declNames ds) := hp.map _
  ⟨R.built.mono fun _ hd => hp.symm.subset hd, fun n hm => R.complete n (hn.mem_iff.mp hm),
    hn.nodup_iff.mpr R.nodup⟩

/-- the last part is what `sweep_progress` refutes: a sweep that resolves nothing found every pending
    declaration deferred -/
theorem sweep_spec {env : Env} {p : List CDecl} {e : Env} {r : List CDecl}
    (h : sweep env p = some (e, r)) (hb : Built ds env) (hp : ∀ d, d ∈ p → d ∈ ds) :
    Built ds e ∧ (∀ d, d ∈ r → d ∈ p) ∧
      (envNames e ++ declNames r).Perm (envNames env ++ declNames p) ∧ r.length ≤ p.length ∧
      (r.length = p.length → ∀ d, d ∈ p → ∃ ms, expandBody env d.2 [] false = .done ms true) := by
  fun_induction sweep env p generalizing e r with
  | case1 env => cases h; exact ⟨hb, fun _ hd => hd, .refl _, Nat.le_refl _, fun _ _ hd => nomatch hd⟩
  | case2 => cases h
  | case3 => cases h
  | case4 env n body rest hn ms he ih =>
    have hn' : env.get n = none := by simpa using hn
    obtain ⟨h1, h2, h3, h4, -⟩ := ih h (Built.snoc hb (hp _ (List.mem_cons_self ..)) hn' he)
      (fun d hd => hp d (List.mem_cons_of_mem _ hd))
    refine ⟨h1, fun d hd => List.mem_cons_of_mem _ (h2 d hd), h3.trans ?_, Nat.le_succ_of_le h4,
      fun e => absurd (e ▸ h4) (Nat.not_succ_le_self _)⟩
    simp [envNames, declNames]
  | case5 => cases h
  | case6 env n body rest hn ms he e' p' hs ih =>
    cases h
    obtain ⟨h1, h2, h3, h4, h5⟩ := ih hs hb (fun d hd => hp d (List.mem_cons_of_mem _ hd))
    simp only [List.length_cons]
    refine ⟨h1, ?_, ?_, by omega, fun e d hd => ?_⟩
    · intro d hd
      rcases List.mem_cons.mp hd with rfl | hd
      · exact List.mem_cons_self ..
      · exact List.mem_cons_of_mem _ (h2 d hd)
    · simp only [declNames, List.map_cons] at h3 ⊢
      exact (List.perm_middle.trans (List.Perm.cons _ h3)).trans List.perm_middle.symm
    · rcases List.mem_cons.mp hd with rfl | hd
      · exact ⟨ms, he⟩
      · exact h5 (by omega) d hd

/-- the state of the `while all_components:` loop: between them, what is resolved and what is pending carry the
    declared names exactly as often as `ds` does (so this says nothing yet about duplicates in `ds`) -/
structure LoopInv (ds : List CDecl) (env : Env) (p : List CDecl) : Prop where
  built : Built ds env
  sub : ∀ d, d ∈ p → d ∈ ds
  names : (envNames env ++ declNames p).Perm (declNames ds)

theorem LoopInv.init : LoopInv ds [] ds := ⟨.nil, fun _ h => h, .refl _⟩

theorem LoopInv.sweep {env e : Env} {p r : List CDecl} (I : LoopInv ds env p)
    (hs : sweep env p = some (e, r)) : LoopInv ds e r :=
  let ⟨h1, h2, h3, _⟩ := sweep_spec hs I.built I.sub
  ⟨h1, fun d hd => I.sub d (h2 d hd), h3.trans I.names⟩

theorem LoopInv.ref {E : Env} (I : LoopInv ds E []) : Ref ds E :=
  have hp : (envNames E).Perm (declNames ds) := by simpa [declNames] using I.names
  ⟨I.built, fun n hn => hp.mem_iff.mpr hn, hp.nodup_iff.mp I.built.nodup⟩

theorem loop_inv {env : Env} {p : List CDecl} {E : Env} (h : resolveLoop env p = .ok E)
    (I : LoopInv ds env p) : LoopInv ds E [] := by
  fun_induction resolveLoop env p generalizing E with
  | case1 env p he => cases List.isEmpty_iff.mp he; cases h; exact I
  | case2 => cases h
  | case3 env p hne e r hs hlt ih => exact ih h (I.sweep hs)
  | case4 => cases h

theorem resolve_ref {E : Env} (h : resolve ds = .ok E) : Ref ds E := (loop_inv h .init).ref

/-- no sweep fails an assertion: names do not clash because resolved and pending names are distinct, and a body
    expands because a partial attempt cannot fail where the complete one in `E` passes -/
theorem sweep_total {E : Env} (R : Ref ds E) {env : Env} {p : List CDecl} (hb : Built ds env)
    (hp : ∀ d, d ∈ p → d ∈ ds) (nd : (envNames env ++ declNames p).Nodup) :
    ∃ e r, sweep env p = some (e, r) := by
  fun_induction sweep env p with
  | case1 env => exact ⟨_, _, rfl⟩
  | case2 env n body rest hn =>
    exact absurd rfl ((List.nodup_append.mp nd).2.2 n (Env.get_isSome_iff.mp hn) n (List.mem_cons_self ..))
  | case3 env n body rest hn he =>
    exfalso
    obtain ⟨ms, _, hfull⟩ := R.full (hp _ (List.mem_cons_self ..))
    obtain ⟨msP, dP, hP, _⟩ := expand_partial (R.sub hb) (expand_nodefer E hfull) hfull
      [] false (Sub.refl [])
    rw [he] at hP; cases hP
  | case4 env n body rest hn ms he ih =>
    refine ih (.snoc hb (hp _ (List.mem_cons_self ..)) (by simpa using hn) he)
      (fun d hd => hp d (List.mem_cons_of_mem _ hd)) ?_
    simpa [envNames_snoc, declNames] using nd
  | case5 env n body rest hn ms he hs ih =>
    obtain ⟨e, r, h⟩ := ih hb (fun d hd => hp d (List.mem_cons_of_mem _ hd))
      (nd.sublist (List.Sublist.append (.refl _) (List.sublist_cons_self ..)))
    rw [hs] at h; cases h
  | case6 env n body rest hn ms he e p hs ih => exact ⟨_, _, rfl⟩

theorem Built.first {E : Env} (h : Built ds E) (P : String → Prop) :
    (∃ n, n ∈ envNames E ∧ P n) →
    ∃ pre n body ms, Built ds pre ∧ (n, body) ∈ ds ∧ P n ∧
      expandBody pre body [] false = .done ms false ∧ ∀ k, k ∈ envNames pre → ¬ P k := by
  induction h with
  | nil => rintro ⟨n, hn, _⟩; cases hn
  | @snoc env n0 body0 ms0 hb hm hn he ih =>
    rintro ⟨n, hn', hP⟩
    by_cases hex : ∃ k, k ∈ envNames env ∧ P k
    · exact ih hex
    · rw [envNames_snoc, List.mem_append, List.mem_singleton] at hn'
      rcases hn' with hn' | hn'
      · exact absurd ⟨n, hn', hP⟩ hex
      · subst hn'
        exact ⟨env, n, body0, ms0, hb, hm, hP, he, fun k hk hPk => hex ⟨k, hk, hPk⟩⟩

/-- the pending declaration that `E` resolved first refers only to components that are not
    pending, hence resolved already: it is not deferred, so the sweep is not stuck -/
theorem sweep_progress {E : Env} (R : Ref ds E) {env : Env} {p : List CDecl} (I : LoopInv ds env p)
    (hne : p ≠ []) {e : Env} {r : List CDecl} (hs : sweep env p = some (e, r)) : r.length < p.length := by
  obtain ⟨-, -, -, hle, hst⟩ := sweep_spec hs I.built I.sub
  refine Nat.lt_of_le_of_ne hle fun heq => ?_
  obtain ⟨d0, hd0⟩ := List.exists_mem_of_ne_nil p hne
  obtain ⟨pre, n, body, ms, hpre, hm, hP, hexp, hmin⟩ :=
    R.built.first (· ∈ declNames p)
      ⟨d0.1, R.complete _ (List.mem_map.mpr ⟨d0, I.sub d0 hd0, rfl⟩), List.mem_map.mpr ⟨d0, hd0, rfl⟩⟩
  obtain ⟨⟨dn, dbody⟩, hd, rfl⟩ := List.mem_map.mp hP
  cases decl_unique R.nodup (I.sub _ hd) hm
  obtain ⟨ms', hdef⟩ := hst heq _ hd
  have hrefs : ∀ c, c ∈ refs body → (env.get c).isSome = true := by
    intro c hc
    have hcpre : c ∈ envNames pre := Env.get_isSome_iff.mp (expand_nodefer pre hexp c hc)
    exact Env.get_isSome_iff.mpr ((List.mem_append.mp
      (I.names.mem_iff.mpr (hpre.names_sub c hcpre))).resolve_right (hmin c hcpre))
  cases expand_allrefs env hrefs hdef

theorem loop_total {E : Env} (R : Ref ds E) {env : Env} {p : List CDecl} (I : LoopInv ds env p) :
    ∃ E', resolveLoop env p = .ok E' := by
  fun_induction resolveLoop env p with
  | case1 env p he => exact ⟨_, rfl⟩
  | case2 env p hne hs =>
    obtain ⟨e, r, h⟩ := sweep_total R I.built I.sub (I.names.nodup_iff.mpr R.nodup)
    rw [hs] at h; cases h
  | case3 env p hne e r hs hlt ih => exact ih (I.sweep hs)
  | case4 env p hne e r hs hlt => exact absurd (sweep_progress R I (by simpa using hne) hs) hlt

theorem Ref.resolves {E : Env} (R : Ref ds E) : ∃ E', resolve ds = .ok E' := loop_total R .init

end AsyncFix.Model.SchemaResolve
