import AsyncFix.Lemmas.JournalRefine

/-!
C06, journal shared by several sessions.

The session model (`Model/SessionTypes.lean`) keeps the journal of ONE session: `Rows` per direction and
the two stored counters.  That the SQLite journaler restricted to one session behaves like this store,
and that a call made with one session's handle cannot touch another session, is the Journal family's
business (property C13, multi-session model `Model/Journal.lean`, specification `JSpec`).  This file
makes the frame statement that C06 relies on explicit: every journal call `_process_resend` makes
(`recover_messages`, `set_seq_num`, `persist_msg` directly and through `send_msg`) is made with the
connection's own session object, and any sequence of such calls leaves the rows and the stored counters
of every OTHER session, and the CompID ↦ session table, exactly as they were.
-/
namespace AsyncFix.Session.C06
open AsyncFix.Model.Journal

/-- a journal call made with the session object whose key is `k` -/
def OnSession (k : Int) : Op → Prop
  | .persist _ h _ => h.key = k
  | .setSeqNum h _ _ => h.key = k
  | .recover h _ _ _ => h.key = k
  | .recoverMsg h _ _ => h.key = k
  | _ => False

/-- what another session owns in the abstract journal -/
def SameElsewhere (k : Int) (S T : JSpec) : Prop :=
  (∀ k' d n, k' ≠ k → T.store k' d n = S.store k' d n) ∧
  (∀ id : Nat, (id : Int) ≠ k → T.counters id = S.counters id) ∧
  T.ident = S.ident

theorem SameElsewhere.refl (k : Int) (S : JSpec) : SameElsewhere k S S :=
  ⟨fun _ _ _ _ => rfl, fun _ _ => rfl, rfl⟩

theorem SameElsewhere.trans {k : Int} {S T U : JSpec} (h1 : SameElsewhere k S T)
    (h2 : SameElsewhere k T U) : SameElsewhere k S U :=
  ⟨fun k' d n hk => (h2.1 k' d n hk).trans (h1.1 k' d n hk),
   fun id hid => (h2.2.1 id hid).trans (h1.2.1 id hid), h2.2.2.trans h1.2.2⟩

theorem setNext_elsewhere (S : JSpec) (k o i : Int) : SameElsewhere k S (S.setNext k o i) := by
  refine ⟨?_, ?_, rfl⟩
  · intro k' d n hk
    simp [JSpec.setNext, hk]
  · intro id hid
    simp [JSpec.setNext, hid]

theorem applyOp_elsewhere (S : JSpec) (op : Op) (k : Int) (h : OnSession k op) :
    SameElsewhere k S (S.applyOp op) := by
  rcases S.applyOp_cases op with he | ⟨_, _, rfl, -⟩ | ⟨_, h', _, _, rfl, -, he⟩ | ⟨h', _, _, rfl, he⟩
  · rw [he]; exact .refl k S
  · exact absurd h (by simp [OnSession])
  · rw [he]
    have hk : h'.key = k := h
    exact ⟨fun k' _ _ hk' => if_neg fun hc => hk' (hc.1.trans hk), fun id hid => if_neg fun hc => hid (hc.trans hk),
      rfl⟩
  · rw [he, show h'.key = k from h]; exact setNext_elsewhere S k _ _

theorem applyOps_elsewhere (S : JSpec) (ops : List Op) (k : Int) (h : ∀ op ∈ ops, OnSession k op) :
    SameElsewhere k S (S.applyOps ops) := by
  induction ops generalizing S with
  | nil => exact SameElsewhere.refl k S
  | cons op rest ih =>
    have h1 := applyOp_elsewhere S op k (h op (by simp))
    have h2 := ih (S.applyOp op) (fun o ho => h o (by simp [ho]))
    simpa [JSpec.applyOps] using h1.trans h2

/-- **Frame of the journaler w.r.t. other sessions.**  After any history that produced the journal `j`
(`JInv`), any sequence of calls made with session `k`'s object leaves every other session's rows (both
directions, every number), stored counters and identity exactly as they were. -/
theorem other_sessions_untouched (j : Journal) (hinv : JInv j) (ops : List Op) (k : Int)
    (h : ∀ op ∈ ops, OnSession k op) : SameElsewhere k (abs j) (abs (applyOps j ops)) := by
  rw [applyOps_refines hinv ops]
  exact applyOps_elsewhere (abs j) ops k h

end AsyncFix.Session.C06
