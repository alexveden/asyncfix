/-
`==` with another container after fix 7c684d5 (`list(self.tags.items()) == list(other.tags.items())`, group
containers compare their item lists) decides equality of content; `__eq__(dict)`: what one round of its loop does,
exactly when the loop returns True and why it raises, the tag-set test as a statement about sets.
-/
import AsyncFix.Lemmas.ContainerDict
namespace AsyncFix.Model.Container
open AsyncFix.Py

theorem Cls.beq_iff (a b : Cls) : a.beq b = true ↔ a = b := by
  cases a <;> cases b <;> simp [Cls.beq]

mutual
theorem Val.beq_iff (v₁ : Val) : ∀ v₂ : Val, v₁.beq v₂ = true ↔ v₁ = v₂ := by
  intro v₂
  match v₁, v₂ with
  | .str s₁, .str s₂ => simp [Val.beq]
  | .cls k₁, .cls k₂ => simp [Val.beq, Cls.beq_iff]
  | .group g₁, .group g₂ => simp [Val.beq, beqItems_iff g₁ g₂]
  | .str _, .cls _ => simp [Val.beq]
  | .str _, .group _ => simp [Val.beq]
  | .cls _, .str _ => simp [Val.beq]
  | .cls _, .group _ => simp [Val.beq]
  | .group _, .str _ => simp [Val.beq]
  | .group _, .cls _ => simp [Val.beq]
theorem beqItems_iff (g₁ : List (List (Str × Val))) : ∀ g₂ : List (List (Str × Val)),
    beqItems g₁ g₂ = true ↔ g₁ = g₂ := by
  intro g₂
  match g₁, g₂ with
  | [], [] => simp [beqItems]
  | [], _ :: _ => simp [beqItems]
  | _ :: _, [] => simp [beqItems]
  | a :: as, b :: bs => simp [beqItems, beqFields_iff a b, beqItems_iff as bs]
theorem beqFields_iff (c₁ : List (Str × Val)) : ∀ c₂ : List (Str × Val),
    beqFields c₁ c₂ = true ↔ c₁ = c₂ := by
  intro c₂
  match c₁, c₂ with
  | [], [] => simp [beqFields]
  | [], _ :: _ => simp [beqFields]
  | _ :: _, [] => simp [beqFields]
  | (t₁, v₁) :: r₁, (t₂, v₂) :: r₂ =>
    simp [beqFields, Val.beq_iff v₁ v₂, beqFields_iff r₁ r₂, and_assoc]
end

theorem sameSet_iff (a b : List Str) : sameSet a b = true ↔ ∀ x, x ∈ a ↔ x ∈ b := by
  simp only [sameSet, Bool.and_eq_true, List.all_eq_true, List.contains_iff_mem]
  constructor
  · intro h x; exact ⟨h.1 x, h.2 x⟩
  · intro h; exact ⟨fun x hx => (h x).1 hx, fun x hx => (h x).2 hx⟩

theorem eqDictLoop_cons (c : Cont) (t v : PyObj) (rest : List (PyObj × PyObj)) :
    eqDictLoop c ((t, v) :: rest) =
      if t.pyStr ∈ ignoreStrs then eqDictLoop c rest
      else match lookup t.pyStr c with
      | none => .error .tagNotFound
      | some (.group _) => .error .fixMessageError
      | some (.cls .tagNotFound) => .error .tagNotFound
      | some (.cls .repeating) => .error .repeating
      | some (.cls _) => .ok false
      | some (.str s) => if s = v.pyStr then eqDictLoop c rest else .ok false := by
  by_cases hi : t.pyStr ∈ ignoreStrs
  · simp [eqDictLoop, hi]
  · cases h : lookup t.pyStr c with
    | none => simp [eqDictLoop, hi, isGroup, getItem, get, getCls, h]
    | some x =>
      cases x with
      | group gs => simp [eqDictLoop, hi, isGroup, h]
      | str s => by_cases e : s = v.pyStr <;> simp [eqDictLoop, hi, isGroup, getItem, get, h, e]
      | cls k => cases k <;> simp [eqDictLoop, hi, isGroup, getItem, get, getCls, h]

theorem eqDictLoop_true_iff (c : Cont) (d : List (PyObj × PyObj)) :
    eqDictLoop c d = .ok true ↔
      ∀ p ∈ d, p.1.pyStr ∉ ignoreStrs → lookup p.1.pyStr c = some (.str p.2.pyStr) := by
  induction d with
  | nil => simp [eqDictLoop]
  | cons p rest ih =>
    obtain ⟨t, v⟩ := p
    rw [eqDictLoop_cons, List.forall_mem_cons, ← ih]
    split
    · next hi => exact ⟨fun h => ⟨fun hn => absurd hi hn, h⟩, fun h => h.2⟩
    · next hi =>
      by_cases hl : lookup t.pyStr c = some (.str v.pyStr)
      · simp [hl]
      · -- in every other state of the tag the round raises or answers False
        refine ⟨fun h => absurd h ?_, fun h => absurd (h.1 hi) hl⟩
        split
        case h_6 s hs => rw [if_neg fun e => hl (by rw [hs, e])]; nofun
        all_goals nofun

theorem eqDictLoop_error (c : Cont) (d : List (PyObj × PyObj)) (k : Kind) (h : eqDictLoop c d = .error k) :
    ∃ p ∈ d, p.1.pyStr ∉ ignoreStrs ∧
      ((k = .fixMessageError ∧ ∃ gs, lookup p.1.pyStr c = some (.group gs)) ∨
      (k = .tagNotFound ∧ (lookup p.1.pyStr c = none ∨ lookup p.1.pyStr c = some (.cls .tagNotFound))) ∨
      (k = .repeating ∧ lookup p.1.pyStr c = some (.cls .repeating))) := by
  induction d with
  | nil => cases h
  | cons p rest ih =>
    obtain ⟨t, v⟩ := p
    simp only [List.mem_cons, exists_eq_or_imp]
    rw [eqDictLoop_cons] at h
    split at h
    · exact Or.inr (ih h)
    · next hi =>
      split at h
      · next hl => cases h; exact Or.inl ⟨hi, Or.inr (Or.inl ⟨rfl, Or.inl hl⟩)⟩
      · next gs hl => cases h; exact Or.inl ⟨hi, Or.inl ⟨rfl, gs, hl⟩⟩
      · next hl => cases h; exact Or.inl ⟨hi, Or.inr (Or.inl ⟨rfl, Or.inr hl⟩)⟩
      · next hl => cases h; exact Or.inl ⟨hi, Or.inr (Or.inr ⟨rfl, hl⟩)⟩
      · cases h
      · split at h
        · exact Or.inr (ih h)
        · cases h

/-- the tag sets compared by `__eq__(dict)`: all tags except the ignored framing tags -/
def SameTags (c : Cont) (d : List (PyObj × PyObj)) : Prop :=
  ∀ k, k ∉ ignoreStrs → (k ∈ keys c ↔ ∃ p ∈ d, p.1.pyStr = k)

/-- the tag-set test of `__eq__(dict)`, as computed.  The model's `eqDict` has it inline, as two `let`s; this name
and `eqDict_unfold`, which puts it in, exist so that `sameTags_iff` has something to speak of. -/
def tagSetsAgree (c : Cont) (d : List (PyObj × PyObj)) : Bool :=
  sameSet ((d.map (·.1.pyStr)).filter (!ignoreStrs.contains ·)) ((keys c).filter (!ignoreStrs.contains ·))

theorem sameTags_iff (c : Cont) (d : List (PyObj × PyObj)) : tagSetsAgree c d = true ↔ SameTags c d := by
  unfold tagSetsAgree
  rw [sameSet_iff]
  simp only [List.mem_filter, List.mem_map, Bool.not_eq_true', List.contains_eq_mem, decide_eq_false_iff_not,
    SameTags]
  constructor
  · intro h k hk
    have := h k
    constructor
    · intro hc
      obtain ⟨⟨p, hp, e⟩, _⟩ := this.2 ⟨hc, hk⟩
      exact ⟨p, hp, e⟩
    · rintro ⟨p, hp, e⟩
      exact (this.1 ⟨⟨p, hp, e⟩, hk⟩).1
  · intro h k
    constructor
    · rintro ⟨⟨p, hp, e⟩, hk⟩
      exact ⟨(h k hk).2 ⟨p, hp, e⟩, hk⟩
    · rintro ⟨hc, hk⟩
      obtain ⟨p, hp, e⟩ := (h k hk).1 hc
      exact ⟨⟨p, hp, e⟩, hk⟩

theorem eqDict_unfold (c : Cont) (d : List (PyObj × PyObj)) :
    eqDict c d = if tagSetsAgree c d = true then eqDictLoop c d else .ok false := by
  simp only [eqDict, tagSetsAgree]
  split <;> simp_all

def SameContentIgnoringFraming (c : Cont) (d : List (PyObj × PyObj)) : Prop :=
  SameTags c d ∧ ∀ p ∈ d, p.1.pyStr ∉ ignoreStrs → lookup p.1.pyStr c = some (.str p.2.pyStr)

def Plain (c : Cont) : Prop := ∀ k v, lookup k c = some v → ∃ s, v = .str s

end AsyncFix.Model.Container
