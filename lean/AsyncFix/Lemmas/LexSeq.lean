/-
The `_strptime` matcher on ASCII digits.  A numeric directive (%m %d %H %M %S) standing on two digits
has at most two readings: both digits (each regex alternative reads an interval of two-digit values;
adjacent intervals add up to lo..hi) or the first digit alone.  `matchSeq` sequences the readings;
`headFull` = "the match `re.match` returns, if it consumed the whole string"; readings that cannot
reach the end of the string (`Stuck`) do not change it.
-/
import AsyncFix.Lemmas.LexTok
import AsyncFix.Py.PyStrptime
namespace AsyncFix.Lemmas.LexSeq
open AsyncFix.Py AsyncFix.Lemmas.LexTok

theorem alt2_fixedThen {a b x l h : Nat} (ha : isAsciiDigit a = true) (hb : isAsciiDigit b = true) (r : Str)
    (hx : 48 ≤ x) (hl : 48 ≤ l) (hlh : l ≤ h) (hh : h ≤ 57) :
    alt2 (fixedThen x l h) (a :: b :: r) =
      if two x l ≤ two a b ∧ two a b ≤ two x h then [(two a b, r)] else [] := by
  have := digit_iff.1 ha; have := digit_iff.1 hb
  have e : (a = x ∧ inRange l h b = true) ↔ (two x l ≤ two a b ∧ two a b ≤ two x h) := by
    simp only [two, inRange, Bool.and_eq_true, decide_eq_true_eq]; omega
  by_cases c : two x l ≤ two a b ∧ two a b ≤ two x h <;> simp [alt2, fixedThen, e, c] <;> rfl

theorem alt2_rangeThenDigit {a b l h : Nat} (ha : isAsciiDigit a = true) (hb : isAsciiDigit b = true) (r : Str)
    (hl : 48 ≤ l) (hlh : l ≤ h) (hh : h ≤ 57) :
    alt2 (rangeThenDigit l h) (a :: b :: r) =
      if two l 48 ≤ two a b ∧ two a b ≤ two h 57 then [(two a b, r)] else [] := by
  have := digit_iff.1 ha; have := digit_iff.1 hb
  have e : inRange l h a = true ↔ (two l 48 ≤ two a b ∧ two a b ≤ two h 57) := by
    simp only [two, inRange, Bool.and_eq_true, decide_eq_true_eq]; omega
  by_cases c : two l 48 ≤ two a b ∧ two a b ≤ two h 57 <;>
    simp [alt2, rangeThenDigit, e, pyDecimal_digit hb, c] <;> rfl

/-- alternatives for adjacent intervals of values act as one alternative for the union -/
theorem seg_append {α : Type} (x : α) {l m m' h v : Nat} (hm : m' = m + 1) (h1 : m' ≤ h) (h2 : l ≤ m) :
    ((if m' ≤ v ∧ v ≤ h then [x] else []) ++ (if l ≤ v ∧ v ≤ m then [x] else []) : List α) =
      if l ≤ v ∧ v ≤ h then [x] else [] := by
  by_cases c1 : m' ≤ v ∧ v ≤ h <;> by_cases c2 : l ≤ v ∧ v ≤ m <;>
    by_cases c3 : l ≤ v ∧ v ≤ h <;> simp [c1, c2, c3] <;> omega

theorem alt1_digit {a : Nat} (ha : isAsciiDigit a = true) (r : Str) :
    alt1 pyDecimal? (a :: r) = [(a - 48, r)] := by
  simp [alt1, pyDecimal_digit ha]

theorem alt1_nonzero {a : Nat} (ha : isAsciiDigit a = true) (r : Str) :
    alt1 (oneInRange 49 57) (a :: r) = if (a != 48) = true then [(a - 48, r)] else [] := by
  have := digit_iff.1 ha
  by_cases c : a = 48
  · subst c; rfl
  · have : inRange 49 57 a = true := by simp [inRange]; omega
    simp [alt1, oneInRange, this, c]

theorem alt2_space {a b : Nat} (ha : isAsciiDigit a = true) (r : Str) : alt2 spaceThen (a :: b :: r) = [] := by
  have := digit_iff.1 ha
  have : a ≠ 32 := by omega
  simp [alt2, spaceThen, this]

/-- the directives that are one- or two-digit numbers -/
def isNum : Dir → Bool
  | .m | .d | .H | .M | .S => true
  | _ => false

/-- smallest / largest two-digit value the regex of the directive admits -/
def lo : Dir → Nat
  | .m | .d => 1
  | _ => 0
def hi : Dir → Nat
  | .m => 12 | .d => 31 | .H => 23 | .M => 59 | .S => 61
  | _ => 0
/-- does the one-character alternative accept the digit `a`?  (`[1-9]` for %m %d, `\d` for %H %M %S) -/
def one : Dir → Nat → Bool
  | .m, a | .d, a => a != 48
  | _, _ => true

def inRng (D : Dir) (a b : Nat) : Bool := decide (lo D ≤ two a b) && decide (two a b ≤ hi D)

theorem inRng_iff {D : Dir} {a b : Nat} : inRng D a b = true ↔ lo D ≤ two a b ∧ two a b ≤ hi D := by
  simp [inRng]

/-- a numeric directive on two ASCII digits: the two-digit alternatives together read exactly
lo..hi (their side conditions are comparisons of numerals), then comes the one-digit alternative -/
theorem alts_num {D : Dir} (hD : isNum D = true) {a b : Nat} (r : Str)
    (ha : isAsciiDigit a = true) (hb : isAsciiDigit b = true) :
    Dir.alts D (a :: b :: r) =
      (if inRng D a b then [(two a b, r)] else []) ++ (if one D a then [(a - 48, b :: r)] else []) := by
  cases D <;> simp only [isNum, Bool.false_eq_true] at hD <;>
    simp (disch := decide) only [Dir.alts, alt2_fixedThen ha hb, alt2_rangeThenDigit ha hb, alt1_digit ha,
      alt1_nonzero ha, alt2_space ha, inRng_iff, lo, hi, one, List.append_nil, if_true, seg_append] <;> rfl

theorem alts_Y {a b c d : Nat} (r : Str) (ha : isAsciiDigit a = true) (hb : isAsciiDigit b = true)
    (hc : isAsciiDigit c = true) (hd : isAsciiDigit d = true) :
    Dir.alts .Y (a :: b :: c :: d :: r) = [(four a b c d, r)] := by
  simp [Dir.alts, pyDecimal_digit ha, pyDecimal_digit hb, pyDecimal_digit hc, pyDecimal_digit hd, four]

abbrev Succ := List (List Nat × Str)

/-- prepend a group value to every match -/
def ext (v : Nat) (L : Succ) : Succ := L.map fun ws => (v :: ws.1, ws.2)

/-- group values of the first match, provided it consumed everything -/
def headFull (L : Succ) : Option (List Nat) :=
  match L.head? with
  | some (vs, []) => some vs
  | _ => none

@[simp] theorem headFull_nil : headFull [] = none := rfl
@[simp] theorem headFull_cons_nil (vs : List Nat) (L : Succ) : headFull ((vs, []) :: L) = some vs := rfl
@[simp] theorem headFull_cons_cons (vs : List Nat) (c : Nat) (r : Str) (L : Succ) :
    headFull ((vs, c :: r) :: L) = none := rfl
@[simp] theorem ext_nil (v : Nat) : ext v [] = [] := rfl
@[simp] theorem ext_cons (v : Nat) (x : List Nat × Str) (L : Succ) :
    ext v (x :: L) = (v :: x.1, x.2) :: ext v L := rfl
@[simp] theorem ext_append (v : Nat) (A B : Succ) : ext v (A ++ B) = ext v A ++ ext v B := by
  simp [ext]

theorem headFull_ext (v : Nat) (L : Succ) : headFull (ext v L) = (headFull L).map (v :: ·) := by
  cases L with
  | nil => rfl
  | cons x L =>
    obtain ⟨vs, r⟩ := x
    cases r <;> rfl

theorem headFull_ite (c : Prop) [Decidable c] (L : Succ) :
    headFull (if c then L else []) = if c then headFull L else none := by
  split <;> rfl

theorem matchSeq_cons (D : Dir) (ds : List Dir) (s : Str) :
    matchSeq (D :: ds) s = (D.alts s).flatMap fun vr => ext vr.1 (matchSeq ds vr.2) := rfl

@[simp] theorem matchSeq_nil (s : Str) : matchSeq [] s = [([], s)] := rfl

theorem matchSeq_lit_eq (c : Nat) (ds : List Dir) (r : Str) :
    matchSeq (.lit c :: ds) (c :: r) = ext 0 (matchSeq ds r) := by
  simp [matchSeq_cons, Dir.alts]

theorem matchSeq_lit_ne {a c : Nat} (h : a ≠ c) (ds : List Dir) (r : Str) :
    matchSeq (.lit c :: ds) (a :: r) = [] := by
  simp [matchSeq_cons, Dir.alts, h]

theorem matchSeq_lit_nil (c : Nat) (ds : List Dir) : matchSeq (.lit c :: ds) [] = [] := by
  simp [matchSeq_cons, Dir.alts]

theorem matchSeq_num {D : Dir} (hD : isNum D = true) {a b : Nat} (ds : List Dir) (r : Str)
    (ha : isAsciiDigit a = true) (hb : isAsciiDigit b = true) :
    matchSeq (D :: ds) (a :: b :: r) =
      (if inRng D a b then ext (two a b) (matchSeq ds r) else []) ++
      (if one D a then ext (a - 48) (matchSeq ds (b :: r)) else []) := by
  rw [matchSeq_cons, alts_num hD r ha hb]
  by_cases h1 : inRng D a b = true <;> by_cases h2 : one D a = true <;> simp [h1, h2]

/-! `headFull` of a format is computed from left to right (`headFull_Y`, `headFull_lit`, `headFull_num`):
a numeric directive contributes its two-digit reading, because the one-digit reading leaves one
character more than the rest of the format can still consume (`Stuck`). -/

/-- no match in `L` consumed the whole string -/
def Stuck (L : Succ) : Prop := ∀ x ∈ L, x.2 ≠ []

theorem headFull_append_stuck (A : Succ) {B : Succ} (hB : Stuck B) : headFull (A ++ B) = headFull A := by
  cases A with
  | cons x A => rfl
  | nil =>
    cases B with
    | nil => rfl
    | cons x B =>
      obtain ⟨vs, r⟩ := x
      cases r with
      | nil => exact absurd rfl (hB _ (List.mem_cons_self ..))
      | cons c r => rfl

theorem stuck_ext (v : Nat) {c : Prop} [Decidable c] {L : Succ} (h : Stuck L) :
    Stuck (if c then ext v L else []) := by
  split
  · intro x hx
    obtain ⟨y, hy, rfl⟩ := List.mem_map.1 hx
    exact h y hy
  · intro x hx; cases hx

theorem stuck_nil (c : Nat) (r : Str) : Stuck (matchSeq [] (c :: r)) := by
  intro x hx
  rw [List.mem_singleton.1 hx]
  exact List.cons_ne_nil _ _

theorem stuck_lit {a c : Nat} (h : a ≠ c) (ds : List Dir) (r : Str) : Stuck (matchSeq (.lit c :: ds) (a :: r)) := by
  rw [matchSeq_lit_ne h]
  intro x hx; cases hx

theorem stuck_num {D : Dir} (hD : isNum D = true) {a b : Nat} {ds : List Dir} {r : Str}
    (ha : isAsciiDigit a = true) (hb : isAsciiDigit b = true)
    (h2 : Stuck (matchSeq ds r)) (h1 : Stuck (matchSeq ds (b :: r))) : Stuck (matchSeq (D :: ds) (a :: b :: r)) := by
  rw [matchSeq_num hD _ _ ha hb]
  intro x hx
  rcases List.mem_append.1 hx with h | h
  · exact stuck_ext _ h2 x h
  · exact stuck_ext _ h1 x h

theorem headFull_Y {a b c d : Nat} (ds : List Dir) (r : Str) (h1 : isAsciiDigit a = true)
    (h2 : isAsciiDigit b = true) (h3 : isAsciiDigit c = true) (h4 : isAsciiDigit d = true) :
    headFull (matchSeq (.Y :: ds) (a :: b :: c :: d :: r)) =
      (headFull (matchSeq ds r)).map (four a b c d :: ·) := by
  rw [matchSeq_cons, alts_Y r h1 h2 h3 h4, List.flatMap_singleton, headFull_ext]

theorem headFull_lit (c : Nat) (ds : List Dir) (r : Str) :
    headFull (matchSeq (.lit c :: ds) (c :: r)) = (headFull (matchSeq ds r)).map (0 :: ·) := by
  rw [matchSeq_lit_eq, headFull_ext]

theorem headFull_num {D : Dir} (hD : isNum D = true) {a b : Nat} {ds : List Dir} {r : Str}
    (ha : isAsciiDigit a = true) (hb : isAsciiDigit b = true) (h1 : Stuck (matchSeq ds (b :: r))) :
    headFull (matchSeq (D :: ds) (a :: b :: r)) =
      if inRng D a b then (headFull (matchSeq ds r)).map (two a b :: ·) else none := by
  rw [matchSeq_num hD _ _ ha hb, headFull_append_stuck _ (stuck_ext _ h1), headFull_ite, headFull_ext]

end AsyncFix.Lemmas.LexSeq
