import AsyncFix.Lemmas.SessionHandlers
import AsyncFix.Lemmas.SessionResendRel

/-!
Session family: footprints – what a handler can do, said once.

A *kind* (`Kind`, 25 of them) is a sort of primitive step of the model: `_state_set(s)` for one of the six connected
states, an assignment to one group of fields (role, a counter, one side of the journal, the watchdog fields), one sort
of effect, the tail of `disconnect` as a block.  `Kind.sem k c c' e` says what such a step does, with all that is known
of it (a `write` carries a latin-1 `buildFrame`; `drop` starts connected and ends disconnected).
A *footprint* `A : Kind → Bool` is a set of kinds and `Fp A c c' e` says that `c`, `e`, `c'` arise by a sequence of steps
of these kinds.  Each handler `h` has one lemma `h_fp : M.Rel (Fp fpH) h`, proved by one walk over its body (callees enter
through their own lemma and `Fp.sub`); `hist_fp` says the same of every history.

A trace invariant is then obtained without walking anything: a compositional relation `R`, a table `K : Kind → Bool`
of the kinds it admits, and one admission lemma `∀ k, K k = true → ∀ c c' e, k.sem c c' e → R c c' e` (a case per kind).
`Fp.to adm (h_fp …) rfl` gives `M.Rel R h` for every handler whose footprint lies in `K` – the inclusion is a
conjunction over the kinds, evaluated – and `Fp.adm adm rfl (hist_fp …)` gives `R` of every history; `Gen.le`, under
both, is the only induction over traces.

Tables: `fpSend` (`sendGate`, `encodeSeq`, `sendCore`, `sendMsg`, `processTestRequest`, `persistOutboundRow`, `resendLoop`),
`fpTest` (`sendTestReq`), `fpGaps` (`checkSeqnumGaps`), `fpSetSeq` / `fpSetIn` / `fpSetOut` (`setSeqNum`; `processSeqreset`
has `fpSetIn`), `fpFinal` (`finalizeMessage`), `fpResend` (`processResend`), `fpDisc` (`disconnect`, `processHeartbeat`,
`tickBody`), `fpLogon`, `fpLogout`, `fpHead`, `fpDispatch`, `fpMessage`, `fpConn` (`connectedM`); `validateIntegrity` has the
empty one.  Relations with their admission tables: `RSame`, `RSil`, `RPlain`, `RAB` (SessionPlain), `Quiet` (SessionInWp),
`run_adm` for entry points, which admits `raised` (SessionStep).
A fact that depends on the start state or on the type of the message cannot be read off a footprint: it has to be walked
(`QS` in SessionQuietH, the awaiting relations of SessionInAwait).
-/
namespace AsyncFix.Session

open AsyncFix.Generated.ConnEnum

inductive Gen (P : Conn → Conn → List Effect → Prop) : Conn → Conn → List Effect → Prop
  | refl (c : Conn) : Gen P c c []
  | step {c c1 c2 : Conn} {e1 e2 : List Effect} : P c c1 e1 → Gen P c1 c2 e2 → Gen P c c2 (e1 ++ e2)

section
variable {P : Conn → Conn → List Effect → Prop}

theorem Gen.one {c c' : Conn} {e : List Effect} (h : P c c' e) : Gen P c c' e := by
  simpa using Gen.step h (Gen.refl c')

instance : Compositional (Gen P) where
  refl := .refl
  trans := by
    intro c c1 c2 e1 e2 h1 h2
    induction h1 with
    | refl => exact h2
    | step a _ ih => rw [List.append_assoc]; exact .step a (ih h2)

/-- the one induction over traces: a compositional relation that admits the atoms admits their closure -/
theorem Gen.le {R : Conn → Conn → List Effect → Prop} [Compositional R]
    (h : ∀ c c' e, P c c' e → R c c' e) {c c' : Conn} {e : List Effect} (g : Gen P c c' e) : R c c' e := by
  induction g with
  | refl c => exact Compositional.refl c
  | step a _ ih => exact Compositional.trans (h _ _ _ a) ih
end

/-- `f` is what `send_msg` hands to the transport: an encoder result that passed `.encode("latin-1")` -/
def Built (f : Msg) : Prop :=
  (∃ (s : Session) (stamp : String) (m : Msg) (seq : Int), f = buildFrame s stamp m seq) ∧
    frameLatin1 f = true

/-- the connected states `_state_set` is called with outside `disconnect` -/
inductive St | sent | recv | active | high | awaiting | handling

@[reducible] def St.num : St → Nat
  | .sent => st_LOGON_INITIAL_SENT
  | .recv => st_LOGON_INITIAL_RECV
  | .active => st_ACTIVE
  | .high => st_RECV_SEQNUM_TOO_HIGH
  | .awaiting => st_RESENDREQ_AWAITING
  | .handling => st_RESENDREQ_HANDLING

theorem St.up (s : St) : isDisc s.num = false := by cases s <;> rfl

inductive Kind
  | st (s : St)            -- `_state_set(s)`: assignment and `on_state_change`
  | roleI | roleA
  | out | inn              -- next outbound number; expected inbound number
  | jout | jin | setSeq    -- outbound rows and counter; inbound rows and counter; the SQL of `set_seq_num`
  | wd                     -- watchdog fields
  | write                  -- a latin-1 `buildFrame` goes to the transport
  | caught | logon | logout | deliver
  | close | onConn | up | fail   -- transport set-up (the state is assigned directly)
  | raised                 -- what `M.run` appends when the handler raises
  | drop                   -- the tail of `disconnect`: from a connected state into a disconnected one

def Kind.every (p : Kind → Bool) : Bool :=
  p (.st .sent) && p (.st .recv) && p (.st .active) && p (.st .high) && p (.st .awaiting) && p (.st .handling) &&
  p .roleI && p .roleA && p .out && p .inn && p .jout && p .jin && p .setSeq && p .wd && p .write && p .caught &&
  p .logon && p .logout && p .deliver && p .close && p .onConn && p .up && p .fail && p .raised && p .drop

theorem Kind.every_imp {p : Kind → Bool} (h : Kind.every p = true) (k : Kind) : p k = true := by
  simp only [Kind.every, Bool.and_eq_true] at h
  cases k with
  | st s => cases s <;> simp only [h]
  | _ => simp only [h]

/-- A silent kind says which fields may differ (`c' = { c with f := c'.f }`); what is known of an effect is said
here, so that a relation can use it. -/
def Kind.sem : Kind → Conn → Conn → List Effect → Prop
  | .st s, c, c', e => c' = setState c s.num ∧ e = [.onState s.num]
  | .roleI, c, c', e => e = [] ∧ c' = { c with role := roleInitiator }
  | .roleA, c, c', e => e = [] ∧ c' = { c with role := roleAcceptor }
  | .out, c, c', e => e = [] ∧ c' = { c with sess := { c.sess with nextOut := c'.sess.nextOut } }
  | .inn, c, c', e => e = [] ∧ c' = { c with sess := { c.sess with nextIn := c'.sess.nextIn } }
  | .jout, c, c', e => e = [] ∧
      c' = { c with journal := { c.journal with out := c'.journal.out, outSeq := c'.journal.outSeq } }
  | .jin, c, c', e => e = [] ∧
      c' = { c with journal := { c.journal with inb := c'.journal.inb, inSeq := c'.journal.inSeq } }
  | .setSeq, c, c', e => e = [] ∧ c' = { c with journal := c.journal.setSeq c.sess.nextOut c.sess.nextIn }
  | .wd, c, c', e => e = [] ∧
      c' = { c with testReqId := c'.testReqId, lastTime := c'.lastTime, maxResend := c'.maxResend }
  | .write, c, c', e => c' = c ∧ ∃ f, Built f ∧ e = [.write f]
  | .caught, c, c', e => c' = c ∧ ∃ ex, e = [.caught ex]
  | .logon, c, c', e => c' = c ∧ ∃ b, e = [.onLogon b]
  | .logout, c, c', e => c' = c ∧ ∃ m, e = [.onLogout m]
  | .deliver, c, c', e => c' = c ∧ ∃ m, e = [.deliver m]
  | .close, c, c', e => c' = c ∧ e = [.closeSocket]
  | .onConn, c, c', e => c' = c ∧ e = [.onConnect]
  | .up, c, c', e => e = [] ∧ c' = { c with sock := true, state := st_NETWORK_CONN_ESTABLISHED }
  | .fail, c, c', e => e = [] ∧ c' = { c with state := st_DISCONNECTED_BROKEN_CONN }
  | .raised, c, c', e => c' = c ∧ ∃ ex, e = [.raised ex]
  | .drop, c, c', e => isDisc c.state = false ∧
      ∃ d, isDisc d = true ∧ c' = (discTail c d).1 ∧ e = (discTail c d).2

/-- a footprint: the kinds of step a piece of code can take -/
abbrev Foot := Kind → Bool

def Foot.sub (A B : Foot) : Bool := Kind.every fun k => !A k || B k

theorem Foot.sub_le {A B : Foot} (h : A.sub B = true) {k : Kind} (hk : A k = true) : B k = true := by
  simpa [hk] using Kind.every_imp h k

/-- a step of one of the kinds in `A` -/
def Steps (A : Foot) (c c' : Conn) (e : List Effect) : Prop := ∃ k, A k = true ∧ k.sem c c' e

/-- what code with footprint `A` can do -/
abbrev Fp (A : Foot) := Gen (Steps A)

section
variable {α : Type} {A B : Foot}

theorem Fp.one (k : Kind) (hk : A k = true) {c c' : Conn} {e : List Effect} (h : k.sem c c' e) : Fp A c c' e :=
  Gen.one ⟨k, hk, h⟩

theorem Fp.modify (k : Kind) {f : Conn → Conn} (hk : A k = true) (h : ∀ c, k.sem c (f c) []) :
    M.Rel (Fp A) (M.modify f) := ⟨fun c => Fp.one k hk (h c)⟩

theorem Fp.emit (k : Kind) {x : Effect} (hk : A k = true) (h : ∀ c, k.sem c c [x]) :
    M.Rel (Fp A) (M.emit x) := ⟨fun c => Fp.one k hk (h c)⟩

theorem Fp.le {c c' : Conn} {e : List Effect} (hs : A.sub B = true) (g : Fp A c c' e) : Fp B c c' e :=
  Gen.le (fun _ _ _ ⟨k, hk, hsem⟩ => Fp.one k (Foot.sub_le hs hk) hsem) g

theorem Fp.adm {R : Conn → Conn → List Effect → Prop} [Compositional R] {K : Foot}
    (adm : ∀ k, K k = true → ∀ c c' e, k.sem c c' e → R c c' e) (hA : A.sub K = true)
    {c c' : Conn} {e : List Effect} (g : Fp A c c' e) : R c c' e :=
  Gen.le (fun _ _ _ ⟨k, hk, hsem⟩ => adm k (Foot.sub_le hA hk) _ _ _ hsem) g

/-- a callee inside a larger footprint -/
theorem Fp.sub {x : M α} (h : M.Rel (Fp A) x) (hs : A.sub B = true) : M.Rel (Fp B) x :=
  h.mono fun _ _ _ => Fp.le hs

theorem Fp.to {R : Conn → Conn → List Effect → Prop} [Compositional R] {K : Foot}
    (adm : ∀ k, K k = true → ∀ c c' e, k.sem c c' e → R c c' e) {x : M α} (h : M.Rel (Fp A) x)
    (hA : A.sub K = true) : M.Rel R x :=
  h.mono fun _ _ _ => Fp.adm adm hA

/-! the primitives as the model writes them -/

theorem stateSet_fp (s : St) (hk : A (.st s) = true) : M.Rel (Fp A) (stateSet s.num) :=
  ⟨fun _ => Fp.one (.st s) hk ⟨rfl, rfl⟩⟩

theorem Fp.roleI (hk : A .roleI = true) : M.Rel (Fp A) (M.modify fun c => { c with role := roleInitiator }) :=
  Fp.modify .roleI hk fun _ => ⟨rfl, rfl⟩

theorem Fp.roleA (hk : A .roleA = true) : M.Rel (Fp A) (M.modify fun c => { c with role := roleAcceptor }) :=
  Fp.modify .roleA hk fun _ => ⟨rfl, rfl⟩

theorem Fp.nextOut (n : Conn → Int) (hk : A .out = true) :
    M.Rel (Fp A) (M.modify fun c => { c with sess := { c.sess with nextOut := n c } }) :=
  Fp.modify .out hk fun _ => ⟨rfl, rfl⟩

theorem Fp.nextIn (n : Int) (hk : A .inn = true) :
    M.Rel (Fp A) (M.modify fun c => { c with sess := { c.sess with nextIn := n } }) :=
  Fp.modify .inn hk fun _ => ⟨rfl, rfl⟩

theorem Fp.setSeq (hk : A .setSeq = true) :
    M.Rel (Fp A) (M.modify fun c => { c with journal := c.journal.setSeq c.sess.nextOut c.sess.nextIn }) :=
  Fp.modify .setSeq hk fun _ => ⟨rfl, rfl⟩

theorem Fp.wd (t : Conn → Option Int) (l m : Conn → Int) (hk : A .wd = true) :
    M.Rel (Fp A) (M.modify fun c => { c with testReqId := t c, lastTime := l c, maxResend := m c }) :=
  Fp.modify .wd hk fun _ => ⟨rfl, rfl⟩

theorem Fp.caught (ex : Exc) (hk : A .caught = true) : M.Rel (Fp A) (M.emit (.caught ex)) :=
  Fp.emit .caught hk fun _ => ⟨rfl, ex, rfl⟩

theorem Fp.onLogon (b : Bool) (hk : A .logon = true) : M.Rel (Fp A) (M.emit (.onLogon b)) :=
  Fp.emit .logon hk fun _ => ⟨rfl, b, rfl⟩

theorem Fp.onLogout (m : Msg) (hk : A .logout = true) : M.Rel (Fp A) (M.emit (.onLogout m)) :=
  Fp.emit .logout hk fun _ => ⟨rfl, m, rfl⟩

theorem Fp.deliver (m : Msg) (hk : A .deliver = true) : M.Rel (Fp A) (M.emit (.deliver m)) :=
  Fp.emit .deliver hk fun _ => ⟨rfl, m, rfl⟩

theorem swallow_fp (d : α) {x : M α} (h : M.Rel (Fp A) x) (hk : A .caught = true) : M.Rel (Fp A) (swallow d x) := by
  unfold swallow
  rel_tac [h, Fp.caught _ hk]

end

def fpSend : Foot
  | .st .sent | .roleI | .out | .jout | .write => true
  | _ => false

def fpTest : Foot := fun k => fpSend k || match k with | .wd => true | _ => false

def fpGaps : Foot := fun k => fpTest k || match k with | .st .awaiting => true | _ => false

theorem sendGate_fp (m : Msg) : M.Rel (Fp fpSend) (sendGate m) := by
  unfold sendGate
  rel_tac [Fp.roleI, stateSet_fp .sent]

theorem encodeSeq_fp (m : Msg) : M.Rel (Fp fpSend) (encodeSeq m) := by
  unfold encodeSeq
  rel_tac [Fp.nextOut _]

/-- The journal step is taken from the connection read just before it (`get_bind`): a walk of the `modify`
alone could not say that only the outbound side of the journal changes. -/
theorem sendCore_fp (env : Env) (m : Msg) : M.Rel (Fp fpSend) (sendCore env m) := by
  unfold sendCore
  apply M.Rel.bind M.Rel.get; intro c
  apply M.Rel.ite (M.Rel.throw _)
  apply M.Rel.bind (encodeSeq_fp m); intro seq
  apply M.Rel.get_bind; intro c1
  dsimp only
  cases hl : frameLatin1 (buildFrame c1.sess env.stamp m seq) with
  | false => exact ((Fp.nextOut (A := fpSend) _ rfl).bind fun _ => M.Rel.throw _).out c1
  | true =>
    cases hj : c1.journal.persist .outbound seq (buildFrame c1.sess env.stamp m seq) with
    | none => exact Gen.refl c1
    | some j =>
      have h1 : Fp fpSend c1 { c1 with journal := j } [] := by
        obtain ⟨_, _, rfl⟩ := persist_out_inv hj
        exact Fp.one .jout rfl ⟨rfl, rfl⟩
      cases hs : c1.sock with
      | false => simpa [M.bind_apply, hs] using h1
      | true =>
        have := Compositional.trans h1 (Fp.one (A := fpSend) .write rfl ⟨rfl, _, ⟨⟨_, _, _, _, rfl⟩, hl⟩, rfl⟩)
        simpa [M.bind_apply, hs] using this

theorem sendMsg_fp (env : Env) (m : Msg) : M.Rel (Fp fpSend) (sendMsg env m) := by
  unfold sendMsg
  rel_tac [sendGate_fp _, sendCore_fp _ _]

theorem processTestRequest_fp (env : Env) (m : Msg) : M.Rel (Fp fpSend) (processTestRequest env m) := by
  unfold processTestRequest
  rel_tac [sendMsg_fp _ _]

theorem sendTestReq_fp (env : Env) : M.Rel (Fp fpTest) (sendTestReq env) := by
  unfold sendTestReq
  rel_tac [Fp.sub (sendMsg_fp _ _), Fp.wd _ _ _]

theorem checkSeqnumGaps_fp (env : Env) (n : Int) : M.Rel (Fp fpGaps) (checkSeqnumGaps env n) := by
  unfold checkSeqnumGaps
  rel_tac [Fp.sub (sendMsg_fp _ _), stateSet_fp .awaiting, Fp.wd _ _ _]

def fpSetIn : Foot
  | .inn | .setSeq => true
  | _ => false

def fpSetOut : Foot
  | .out | .setSeq => true
  | _ => false

def fpSetSeq : Foot := fun k => fpSetIn k || fpSetOut k

def fpFinal : Foot
  | .inn | .jin | .wd | .st .active => true
  | _ => false

def fpResend : Foot := fun k => fpSend k || fpSetOut k || match k with | .st .handling | .st .active => true | _ => false

theorem validateIntegrity_fp (m : Msg) : M.Rel (Fp fun _ => false) (validateIntegrity m) := by
  unfold validateIntegrity
  rel_tac []

theorem setSeqNum_fp (a b : Option Int) : M.Rel (Fp fpSetSeq) (setSeqNum a b) := by
  unfold setSeqNum
  rel_tac [Fp.nextOut _, Fp.nextIn _, Fp.setSeq]

theorem setSeqNum_in_fp (n : Int) : M.Rel (Fp fpSetIn) (setSeqNum none (some n)) := by
  unfold setSeqNum
  dsimp only
  rel_tac [Fp.nextIn _, Fp.setSeq]

theorem setSeqNum_out_fp (o : Option Int) : M.Rel (Fp fpSetOut) (setSeqNum o none) := by
  unfold setSeqNum
  cases o <;> dsimp only <;> rel_tac [Fp.nextOut _, Fp.setSeq]

theorem resetSeqNum_fp : M.Rel (Fp fpSetSeq) resetSeqNum := by
  unfold resetSeqNum
  rel_tac [setSeqNum_fp _ _]

theorem processSeqreset_fp (m : Msg) : M.Rel (Fp fpSetIn) (processSeqreset m) := by
  unfold processSeqreset
  rel_tac [setSeqNum_in_fp _]

theorem setNextNumIn_fp (m : Msg) : M.Rel (Fp fun | .inn => true | _ => false) (setNextNumIn m) := by
  unfold setNextNumIn
  rel_tac [Fp.nextIn _]

theorem persistInbound_fp (m : Msg) : M.Rel (Fp fun | .jin => true | _ => false) (persistInbound m) := by
  have tail : ∀ seq : Int, M.Rel (Fp fun | .jin => true | _ => false) (do
      let c ← M.get
      match c.journal.persist .inbound seq m with
      | none => M.throw .duplicateSeqNo
      | some j => M.modify fun c => { c with journal := j }) := fun seq => M.Rel.get_bind fun c => by
    cases hj : c.journal.persist .inbound seq m with
    | none => exact Gen.refl c
    | some j => obtain ⟨_, _, rfl⟩ := persist_in_inv hj; exact Fp.one .jin rfl ⟨rfl, rfl⟩
  unfold persistInbound
  extract_lets jp
  have hjp : ∀ seq, M.Rel (Fp _) (jp seq) := tail
  clear_value jp
  rel_tac [hjp]

theorem persistOutboundRow_fp (n : Int) (row : Msg) : M.Rel (Fp fpSend) (persistOutboundRow n row) := by
  unfold persistOutboundRow
  refine M.Rel.get_bind fun c => ?_
  cases hj : c.journal.persist .outbound n row with
  | none => exact Gen.refl c
  | some j => obtain ⟨_, _, rfl⟩ := persist_out_inv hj; exact Fp.one .jout rfl ⟨rfl, rfl⟩

theorem finalizeMessage_fp (env : Env) (m : Msg) : M.Rel (Fp fpFinal) (finalizeMessage env m) := by
  unfold finalizeMessage
  rel_tac [Fp.wd _ _ _, Fp.sub (setNextNumIn_fp _), Fp.sub (persistInbound_fp _), stateSet_fp .active]

theorem resendLoop_fp (env : Env) (sr : Msg → Bool) (endNo : Int) (rows : List Msg) (a b : Int) :
    M.Rel (Fp fpSend) (resendLoop env sr endNo rows a b) :=
  resendLoop_rel env sr endNo (fun _ _ => persistOutboundRow_fp _ _) (fun _ _ => sendMsg_fp _ _) rows
    (fun _ _ _ _ _ _ _ => sendMsg_fp _ _) a b

theorem resendBody_fp (env : Env) (sr : Msg → Bool) (m : Msg) : M.Rel (Fp fpResend) (resendBody env sr m) := by
  unfold resendBody resendServe resendReplay
  rel_tac [stateSet_fp .active, Fp.sub (setSeqNum_out_fp _), Fp.sub (sendMsg_fp _ _),
    Fp.sub (resendLoop_fp _ _ _ _ _ _)]

theorem processResend_fp (env : Env) (sr : Msg → Bool) (m : Msg) : M.Rel (Fp fpResend) (processResend env sr m) := by
  rw [processResend_eq]
  rel_tac [stateSet_fp .handling, resendBody_fp _ _ _]

def fpDisc : Foot := fun k => fpTest k || match k with | .caught | .drop => true | _ => false

def fpLogon : Foot := fun k => fpDisc k || match k with | .st .active | .st .high | .logon => true | _ => false

def fpLogout : Foot := fun k => fpDisc k || match k with | .logout => true | _ => false

def fpHead : Foot := fun k => fpLogon k || fpLogout k || fpSetIn k ||
  match k with | .st .recv | .roleA | .st .awaiting => true | _ => false

def fpDispatch : Foot := fun k => fpDisc k || fpResend k || match k with | .deliver => true | _ => false

def fpMessage : Foot := fun k => fpHead k || fpDispatch k || fpFinal k

def fpConn : Foot
  | .close | .onConn | .up | .fail => true
  | _ => false

/-- sending leaves a connected state connected -/
theorem send_up {c c' : Conn} {e : List Effect} (g : Fp fpSend c c' e) (h : isDisc c.state = false) :
    isDisc c'.state = false := by
  induction g with
  | refl => exact h
  | step a _ ih =>
    apply ih
    obtain ⟨k, hk, hs⟩ := a
    cases k with
    | st s => rw [hs.1]; exact s.up
    | roleI => rw [hs.2]; exact h
    | out => rw [hs.2]; exact h
    | jout => rw [hs.2]; exact h
    | write => rw [hs.1]; exact h
    | _ => cases hk

/-- what `disconnect` does before its tail -/
def fpPre : Foot := fun k => fpTest k || match k with | .caught => true | _ => false

/-- From a connected state: the watchdog fields are reset, the optional Logout is sent (its exception swallowed), and
the tail runs from what that left behind, which is still a connected state. -/
theorem disconnect_cases (env : Env) (d : Nat) (lo : Option String) (c : Conn)
    (h : isDisc c.state = false) (hd : isDisc d = true) :
    ∃ c1 e1, Fp fpPre c c1 e1 ∧ isDisc c1.state = false ∧
      disconnect env d lo c = ⟨.ok (), (discTail c1 d).1, e1 ++ (discTail c1 d).2⟩ := by
  have h0 : Fp fpPre c (discReset c) [] := Fp.one .wd rfl ⟨rfl, rfl⟩
  cases lo with
  | none => exact ⟨discReset c, [], h0, h, disconnect_none env (isDisc_lt h) (isDisc_le hd)⟩
  | some text =>
    have hs := (sendMsg_fp env (logoutMsg text)).out (discReset c)
    rcases hsend : sendMsg env (logoutMsg text) (discReset c) with ⟨r, c1, e1⟩
    rw [hsend] at hs
    have hp : Fp fpPre (discReset c) c1 e1 := Fp.le rfl hs
    have hc : Fp fpPre c1 c1 (caught r) := by
      cases r with
      | ok _ => exact .refl _
      | error ex => exact Fp.one .caught rfl ⟨rfl, ex, rfl⟩
    exact ⟨c1, e1 ++ caught r, Compositional.trans (Compositional.trans h0 hp) hc, send_up hs h,
      disconnect_logout env (isDisc_lt h) (isDisc_le hd) hsend⟩

/-- the tail is one step, the only one that enters a disconnected state -/
theorem disconnect_fp (env : Env) (d : Nat) (lo : Option String) : M.Rel (Fp fpDisc) (disconnect env d lo) := by
  constructor
  intro c
  cases h : isDisc c.state with
  | true => rw [disconnect_of_disc env d lo c (isDisc_le h)]; exact .refl c
  | false =>
    cases hd : isDisc d with
    | false =>
      rw [disconnect_bad_target env d lo c (isDisc_lt h) (by simpa [isDisc] using hd)]
      exact .refl c
    | true =>
      obtain ⟨c1, e1, hp, hup, heq⟩ := disconnect_cases env d lo c h hd
      rw [heq]
      exact Compositional.trans (Fp.le rfl hp) (Fp.one .drop rfl ⟨hup, d, hd, rfl, rfl⟩)

theorem processHeartbeat_fp (env : Env) (m : Msg) : M.Rel (Fp fpDisc) (processHeartbeat env m) := by
  unfold processHeartbeat
  rel_tac [Fp.wd _ _ _, disconnect_fp _ _ _]

theorem tickLate_fp (env : Env) : M.Rel (Fp fpDisc) (tickLate env) := by
  unfold tickLate tickLate2
  rel_tac [disconnect_fp _ _ _]

theorem tickBody_fp (env : Env) : M.Rel (Fp fpDisc) (tickBody env) := by
  rw [tickBody_eq]
  rel_tac [tickLate_fp _, Fp.wd _ _ _, Fp.sub (sendTestReq_fp _)]

theorem logonTail_fp (n : Int) : M.Rel (Fp fpLogon) (logonTail n) := by
  unfold logonTail
  rel_tac [Fp.onLogon _, stateSet_fp .active, stateSet_fp .high]

theorem processLogon_fp (env : Env) (m : Msg) : M.Rel (Fp fpLogon) (processLogon env m) := by
  rw [processLogon_eq]
  unfold logonAnswer
  rel_tac [logonTail_fp _, Fp.sub (disconnect_fp _ _ _), Fp.sub (sendMsg_fp _ _)]

theorem processLogout_fp (env : Env) (m : Msg) : M.Rel (Fp fpLogout) (processLogout env m) := by
  unfold processLogout
  rel_tac [Fp.onLogout _, Fp.sub (disconnect_fp _ _ _)]

theorem headTail_fp (env : Env) (m : Msg) : M.Rel (Fp fpHead) (headTail env m) := by
  unfold headTail
  rel_tac [Fp.sub (checkSeqnumGaps_fp _ _)]

theorem headMid_fp (env : Env) (m : Msg) : M.Rel (Fp fpHead) (headMid env m) := by
  unfold headMid headRest
  rel_tac [headTail_fp _ _, Fp.sub (disconnect_fp _ _ _), Fp.sub (processLogon_fp _ _), Fp.sub (processLogout_fp _ _),
    Fp.sub (processSeqreset_fp _), Fp.sub (checkSeqnumGaps_fp _ _)]

theorem processHead_fp (env : Env) (m : Msg) : M.Rel (Fp fpHead) (processHead env m) := by
  rw [processHead_eq]
  rel_tac [headMid_fp _ _, Fp.roleA, Fp.sub (disconnect_fp _ _ _), stateSet_fp .recv]

theorem processDispatch_fp (env : Env) (sr : Msg → Bool) (m : Msg) (v : Bool) (n : Int) :
    M.Rel (Fp fpDispatch) (processDispatch env sr m v n) := by
  unfold processDispatch
  rel_tac [Fp.deliver _, Fp.sub (processHeartbeat_fp _ _), Fp.sub (processResend_fp _ _ _),
    Fp.sub (processTestRequest_fp _ _)]

theorem processMessage_fp (env : Env) (sr : Msg → Bool) (m : Msg) : M.Rel (Fp fpMessage) (processMessage env sr m) := by
  unfold processMessage
  rel_tac [Fp.sub (disconnect_fp _ _ _), swallow_fp, Fp.sub (processHead_fp _ _), Fp.sub (processDispatch_fp _ _ _ _ _),
    Fp.sub (validateIntegrity_fp _), Fp.sub (finalizeMessage_fp _ _)]

theorem connectedM_fp (k : ConnKind) : M.Rel (Fp fpConn) (connectedM k) := by
  have h1 : M.Rel (Fp fpConn) (M.modify fun c => { c with sock := true, state := st_NETWORK_CONN_ESTABLISHED }) :=
    Fp.modify .up rfl fun _ => ⟨rfl, rfl⟩
  have h2 : M.Rel (Fp fpConn) (M.modify fun c => { c with state := st_DISCONNECTED_BROKEN_CONN }) :=
    Fp.modify .fail rfl fun _ => ⟨rfl, rfl⟩
  have h3 : M.Rel (Fp fpConn) (M.emit .closeSocket) := Fp.emit .close rfl fun _ => ⟨rfl, rfl⟩
  have h4 : M.Rel (Fp fpConn) (M.emit .onConnect) := Fp.emit .onConn rfl fun _ => ⟨rfl, rfl⟩
  cases k <;> unfold connectedM <;> rel_tac [h1, h2, h3, h4]

theorem run_fp {α : Type} {A : Foot} {x : M α} (h : M.Rel (Fp A) x) (c : Conn) :
    Fp (fun _ => true) c (x.run c).1 (x.run c).2 := by
  rw [M.run_eq]
  refine Compositional.trans (Gen.le (fun _ _ _ ⟨k, _, hsem⟩ => Fp.one k rfl hsem) (h.out c)) ?_
  cases (x c).res with
  | ok a => exact .refl _
  | error ex => exact Fp.one .raised rfl ⟨rfl, ex, rfl⟩

theorem step_fp (sr : Msg → Bool) (c : Conn) (ev : Event) :
    Fp (fun _ => true) c (step sr c ev).1 (step sr c ev).2 := by
  cases ev with
  | recv env m => exact run_fp (processMessage_fp env sr m) c
  | appSend env m => exact run_fp (sendMsg_fp env m) c
  | appTestReq env => exact run_fp (sendTestReq_fp env) c
  | appDisconnect env d l => exact run_fp (disconnect_fp env d l) c
  | tick env => exact run_fp (tickBody_fp env) c
  | eof env =>
    show Fp _ c (eof env c).1 (eof env c).2
    unfold eof
    split
    · exact run_fp (disconnect_fp env _ none) c
    · exact .refl c
  | connected k => exact run_fp (connectedM_fp k) c
  | resetSeq => exact run_fp resetSeqNum_fp c

/-- every history is a sequence of primitive steps -/
theorem hist_fp (sr : Msg → Bool) (c : Conn) (evs : List Event) :
    Fp (fun _ => true) c (run sr c evs).1 (run sr c evs).2 := by
  induction evs generalizing c with
  | nil => exact .refl c
  | cons ev rest ih => exact Compositional.trans (step_fp sr c ev) (ih _)

end AsyncFix.Session
