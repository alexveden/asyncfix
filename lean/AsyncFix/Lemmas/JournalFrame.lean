/-
C08 corollaries: what later calls can do to a stored message and to stored counters.
Both follow from the case distinction `JSpec.applyOp_cases` on what a call does to the abstract journal.
-/
import AsyncFix.Lemmas.JournalRefine
namespace AsyncFix.Model.Journal

/-- the call is a renumbering of session `key` whose new next number for `dir` is ≤ n -/
def Op.truncates (key : Int) (dir : Dir) (n : Int) : Op → Bool
  | .setSeqNum h out inn => h.key == key && decide (dir.pick (effOut h out) (effIn h inn) ≤ n)
  | _ => false

/-- the call writes counters of session `key` -/
def Op.touchesCounters (key : Int) : Op → Bool
  | .persist _ h _ => h.key == key
  | .setSeqNum h _ _ => h.key == key
  | _ => false

theorem spec_store_frame (S : JSpec) (op : Op) (key : Int) (dir : Dir) (n : Int) (m : Bytes)
    (hs : S.store key dir n = some m) :
    (S.applyOp op).store key dir n = some m ∨ op.truncates key dir n = true := by
  rcases S.applyOp_cases op with he | ⟨_, _, -, he⟩ | ⟨_, h, d, q, -, hnone, he⟩ | ⟨h, out, inn, rfl, he⟩ <;>
    rw [he]
  · exact .inl hs
  · exact .inl hs
  · -- the number stored now was free, so it is not the one asked about
    refine .inl ((if_neg ?_).trans hs)
    rintro ⟨rfl, rfl, rfl⟩
    rw [hnone] at hs; cases hs
  · by_cases hc : key = h.key ∧ dir.pick (effOut h out) (effIn h inn) ≤ n
    · exact .inr (by simp [Op.truncates, hc.1, hc.2])
    · exact .inl ((if_neg hc).trans hs)

theorem spec_counters_frame (S : JSpec) (op : Op) (id : Nat) (v : Int × Int)
    (hs : S.counters id = some v) (hfresh : S.counters S.nextId = none) :
    (S.applyOp op).counters id = some v ∨ op.touchesCounters id = true := by
  rcases S.applyOp_cases op with he | ⟨_, _, -, he⟩ | ⟨_, h, _, _, rfl, -, he⟩ | ⟨h, _, _, rfl, he⟩ <;>
    rw [he]
  · exact .inl hs
  · -- the new session gets an id that had no counters
    refine .inl ((if_neg ?_).trans hs)
    rintro rfl
    rw [hfresh] at hs; cases hs
  · by_cases hk : (id : Int) = h.key
    · exact .inr (by simp [Op.touchesCounters, hk])
    · exact .inl ((if_neg hk).trans hs)
  · by_cases hk : (id : Int) = h.key
    · exact .inr (by simp [Op.touchesCounters, hk])
    · exact .inl ((if_neg hk).trans hs)

/-- a fact about the abstract journal that every single call keeps unless it is of kind `bad`
survives every list of calls without such a call -/
theorem frame_ops {P : JSpec → Prop} {bad : Op → Bool}
    (hstep : ∀ j, JInv j → ∀ op, P (abs j) → P ((abs j).applyOp op) ∨ bad op = true)
    (j : Journal) (hinv : JInv j) (ops : List Op) (h : P (abs j)) :
    P (abs (applyOps j ops)) ∨ ∃ op ∈ ops, bad op = true := by
  induction ops generalizing j with
  | nil => exact .inl h
  | cons op rest ih =>
    rw [applyOps_cons]
    rcases hstep j hinv op h with h1 | h1
    · rw [← applyOp_refines hinv op] at h1
      rcases ih (applyOp j op).1 (applyOp_inv op hinv) h1 with h2 | ⟨o, ho, h2⟩
      · exact .inl h2
      · exact .inr ⟨o, List.mem_cons_of_mem _ ho, h2⟩
    · exact .inr ⟨op, List.mem_cons_self .., h1⟩

end AsyncFix.Model.Journal
