import AsyncFix.Lemmas.LinkStep

/-!
C07: the entry points other than `recv` agree with the abstract model: `send_msg` of an application message,
EOF, connection set-up.
-/
namespace AsyncFix.Link

open AsyncFix.Session AsyncFix.Generated AsyncFix.Generated.ConnEnum
open AsyncFix.Session.Msg AsyncFix.Session.Rows

theorem lookup_43_of_all {l : List (Nat × String)} (h : l.all appTagOk = true) {v : String}
    (hv : lookup tPossDupFlag l = some v) : v ≠ "Y" := by
  induction l with
  | nil => simp [lookup] at hv
  | cons p r ih =>
    obtain ⟨k, w⟩ := p
    simp only [List.all_cons, Bool.and_eq_true] at h
    by_cases hk : k = tPossDupFlag
    · subst hk
      simp only [lookup, if_true, Option.some.injEq] at hv
      subst hv
      have := h.1
      intro hw
      subst hw
      exact absurd this (by decide)
    · simp only [lookup, hk, if_false] at hv
      exact ih h.2 hv

theorem appMsg_facts {m : Msg} (h : isAppMsg m = true) :
    (m.mtype ≠ mHeartbeat ∧ m.mtype ≠ mTestRequest ∧ m.mtype ≠ mResendRequest ∧ m.mtype ≠ mSequenceReset ∧
      m.mtype ≠ mLogout ∧ m.mtype ≠ mLogon) ∧ m.get? tPossDupFlag ≠ some "Y" ∧
      ¬ (m.get? tPossDupFlag).getD "N" = "Y" := by
  simp only [isAppMsg, Bool.and_eq_true, Bool.not_eq_true'] at h
  have hne : m.get? tPossDupFlag ≠ some "Y" := fun hh => lookup_43_of_all h.2 hh rfl
  exact ⟨isAppRow_ne h.1, hne, fun hv => hne ((getD_N_eq_Y _).mp hv)⟩

theorem outMsg_app {m : Msg} (h : isAppMsg m = true) (hl : msgLatin1 m = true) : OutMsg m := by
  obtain ⟨⟨a0, a1, a2, a4, a5, aA⟩, _, _⟩ := appMsg_facts h
  simp only [msgLatin1, Bool.and_eq_true] at hl
  exact ⟨kindOK_app aA a2 a4 a5 ▸ ⟨a0, a1⟩, hl.1, hl.2⟩

theorem kind_app {m : Msg} (h : isAppMsg m = true) : (absFrame m).kind = .app (payloadOf m) false := by
  obtain ⟨⟨_, _, a2, a4, a5, aA⟩, hpd, _⟩ := appMsg_facts h
  rw [absFrame_app aA a2 a4 a5, show (m.get? tPossDupFlag == some "Y") = false by simpa using hpd]

/-- `send_msg(m)` for an application message -/
theorem appSend_sim {s : Side} {env : Env} {c : Conn} {m : Msg} (hc : ConnGood s c) (hm : isAppMsg m = true)
    (hl3 : isLatin1 env.stamp = true) :
    if ((absConn c).canSend && msgLatin1 m) = true then
      StepOK s { c := ((absConn c).push (.app (payloadOf m) false)).1,
                 wr := [((absConn c).push (.app (payloadOf m) false)).2] }
        (Session.appSend env c m).1 (Session.appSend env c m).2 ∧ hasRaised (Session.appSend env c m).2 = false
    else (Session.appSend env c m).1 = c ∧ writesOf (Session.appSend env c m).2 = [] ∧
      deliveriesOf (Session.appSend env c m).2 = [] ∧ hasRaised (Session.appSend env c m).2 = true := by
  obtain ⟨⟨a0, a1, a2, a4, a5, aA⟩, _, hpd⟩ := appMsg_facts hm
  have hlat : frameLatin1 (buildFrame c.sess env.stamp m c.sess.nextOut) = msgLatin1 m :=
    frameLatin1_build_app (connFacts hc).sndLatin (connFacts hc).tgtLatin hl3 hm
  have hgate : (absConn c).canSend = true →
      sendGate m c = ⟨.ok (), c, []⟩ ∧ c.sock = true := by
    intro hcs
    rcases hc.st with h | h | h | h | h | h | h
    · simp [AConn.canSend, absConn, absSt, h, st_DISCONNECTED_NOCONN_TODAY, st_DISCONNECTED_BROKEN_CONN] at hcs
    · simp [AConn.canSend, absConn, absSt, h, st_DISCONNECTED_WCONN_TODAY, st_DISCONNECTED_BROKEN_CONN] at hcs
    · simp [AConn.canSend, absConn, absSt, h, st_DISCONNECTED_BROKEN_CONN] at hcs
    · simp [AConn.canSend, absSt_conn h] at hcs
    · have hr : c.role ≠ roleInitiator := by
        simp [AConn.canSend, absSt_sent h, absConn_ini] at hcs; exact hcs
      exact ⟨sendGate_pass (m := m) (by rw [h]; decide) (fun hh => hr hh.1), sock_of_state hc (by rw [h]; decide)⟩
    · exact ⟨sendGate_pass (m := m) (by rw [h]; decide) (fun hh => by rw [h] at hh; exact absurd hh.2.1 (by decide)),
        sock_of_state hc (by rw [h]; decide)⟩
    · exact ⟨sendGate_pass (m := m) (by rw [h]; decide) (fun hh => by rw [h] at hh; exact absurd hh.2.1 (by decide)),
        sock_of_state hc (by rw [h]; decide)⟩
  have hrefuse : (absConn c).canSend = false → sendGate m c = ⟨.error .connection, c, []⟩ := by
    intro hcs
    rcases hc.st with h | h | h | h | h | h | h
    · exact sendGate_refuse (Or.inl (by rw [h]; decide))
    · exact sendGate_refuse (Or.inl (by rw [h]; decide))
    · exact sendGate_refuse (Or.inl (by rw [h]; decide))
    · exact sendGate_refuse (Or.inr (Or.inl ⟨h, aA, a5⟩))
    · have hr : c.role = roleInitiator := by
        simp [AConn.canSend, absSt_sent h, absConn_ini] at hcs; exact hcs
      exact sendGate_refuse (Or.inr (Or.inr ⟨h, hr, a5⟩))
    · simp [AConn.canSend, absSt_awaiting h] at hcs
    · simp [AConn.canSend, absSt_active h] at hcs
  by_cases hcs : (absConn c).canSend = true
  · obtain ⟨hg, hsock⟩ := hgate hcs
    by_cases hml : msgLatin1 m = true
    · rw [if_pos (by simp [hcs, hml])]
      have ho := outMsg_app hm hml
      obtain ⟨hcore, fg, hf1⟩ := sendCore_out (env := env) (connFacts hc) hsock hl3 ho ⟨a4, hpd⟩
      have hsend : sendMsg env m c = ⟨.ok (), sentFresh c (buildFrame c.sess env.stamp m c.sess.nextOut),
          [.write (buildFrame c.sess env.stamp m c.sess.nextOut)]⟩ := by
        rw [sendMsg, M.bind_ok hg, hcore]; rfl
      rw [Session.appSend, M.run_ok hsend]
      refine ⟨⟨by rw [absConn_sentFresh ho, kind_app hm], ?_, rfl, hf1.good hc.st hc.sock hc.w, ?_⟩, rfl⟩
      · simp [writesOf, absFrame_build, kind_app hm, AConn.push, absConn]
      · intro g hg'; simp [writesOf] at hg'; subst hg'; exact fg
    · have hml' : msgLatin1 m = false := by simpa using hml
      have hl : frameLatin1 (buildFrame c.sess env.stamp m c.sess.nextOut) = false := by rw [hlat, hml']
      rw [if_neg (by simp [hml'])]
      have hsend : sendMsg env m c = ⟨.error .encoding, c, []⟩ := by
        rw [sendMsg, M.bind_ok hg, sendCore_fresh env a4 hpd c]
        simp [a1, hl]
      simp [Session.appSend, M.run, hsend, writesOf, deliveriesOf, hasRaised]
  · have hcs' : (absConn c).canSend = false := by simpa using hcs
    rw [if_neg (by simp [hcs'])]
    have hsend : sendMsg env m c = ⟨.error .connection, c, []⟩ := M.bind_err (hrefuse hcs')
    simp [Session.appSend, M.run, hsend, writesOf, deliveriesOf, hasRaised]

theorem eof_sim {s : Side} {env : Env} {c : Conn} (hc : ConnGood s c) :
    StepOK s { c := (absConn c).eof } (Session.eof env c).1 (Session.eof env c).2 := by
  by_cases hs : c.sock = true
  · have h3 : st_DISCONNECTED_BROKEN_CONN < c.state := by simpa [hs] using hc.sock.symm
    have hne : (absConn c).st ≠ .disc := by rw [Ne, absSt_disc_iff hc, hs]; decide
    rw [show (absConn c).eof = (absConn c).drop by simp [AConn.eof, hne]]
    simp only [Session.eof, hs, if_true, M.run, disconnect_none env h3 (Nat.le_refl _)]
    exact stepOK_dropped hc (by decide) (Nat.le_refl _) (writesOf_discTail _ _) (deliveriesOf_discTail _ _)
  · have hs' : c.sock = false := by simpa using hs
    have hd : (absConn c).st = .disc := (absSt_disc_iff hc).mpr hs'
    rw [show (absConn c).eof = absConn c by simp [AConn.eof, hd]]
    simp only [Session.eof, hs', Bool.false_eq_true, if_false]
    exact stepOK_same hc rfl rfl

theorem connected_acceptor_sim {s : Side} {c : Conn} (hc : ConnGood s c) (hs : c.sock = false) :
    StepOK s { c := { absConn c with st := .conn } } (Session.connected c .acceptor).1
      (Session.connected c .acceptor).2 := by
  have hf := connFacts hc
  have hr : Session.connected c .acceptor =
      ({ c with sock := true, state := st_NETWORK_CONN_ESTABLISHED }, [.onConnect]) := by
    simp [Session.connected, connectedM, M.run, M.bind_apply, hs]
  rw [hr]
  exact ⟨rfl, rfl, rfl, ConnFacts.good (hf.congr rfl rfl hf.role) (by simp [restState]) rfl (fun h => nomatch h),
    by simp [writesOf]⟩

/-- a fresh transport at the initiator, and the Logon its application sends from `on_connect` -/
theorem connected_initiator_sim {s : Side} {env : Env} {c : Conn} (hc : ConnGood s c) (hs : c.sock = false)
    (hl3 : isLatin1 env.stamp = true) :
    let c1 := (Session.connected c .initiator).1
    let r := Session.appSend env c1 (logonMsg c1.hb)
    StepOK s { c := ({ absConn c with st := .sent, ini := true }.push .logon).1,
               wr := [({ absConn c with st := .sent, ini := true }.push .logon).2] }
      r.1 ((Session.connected c .initiator).2 ++ r.2) ∧ hasRaised r.2 = false := by
  have hf := connFacts hc
  have hc1 : (Session.connected c .initiator) =
      ({ c with sock := true, state := st_NETWORK_CONN_ESTABLISHED }, [.onConnect]) := by
    simp [Session.connected, connectedM, M.run, M.bind_apply, hs]
  simp only [hc1]
  have ho : OutMsg (logonMsg c.hb) := outMsg_logonReply (e := "0") (by decide) (isLatin1_pyStr c.hb)
  obtain ⟨hsend, hfg, hf1⟩ := sendMsg_out_conn (env := env) (m := logonMsg c.hb)
    (hf.congr (c' := { c with sock := true, state := st_NETWORK_CONN_ESTABLISHED }) rfl rfl hf.role) rfl hl3 ho
    (logonReplyMsg_plain _ _) rfl (Or.inl rfl)
  simp only [Session.appSend, M.run_ok hsend]
  refine ⟨⟨?_, ?_, rfl, hf1.good (by simp [sentFresh, setState, restState]) rfl (fun h => nomatch h), ?_⟩, rfl⟩
  · exact (absConn_sentFresh ho env.stamp _).trans (by rw [show (absFrame (logonMsg c.hb)).kind = .logon from rfl]; rfl)
  · simp [writesOf, absFrame_build, AConn.push, absConn]
    rfl
  · intro g hg'
    simp [writesOf] at hg'
    subst hg'; exact hfg

end AsyncFix.Link
