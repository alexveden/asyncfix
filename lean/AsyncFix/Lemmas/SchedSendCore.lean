import AsyncFix.Lemmas.SchedSpec

/-!
Sched family, the heart of C14: `sendCore` (`send_msg` after its state checks) for a new message
allocates the counter's value, journals the frame under it and writes it, all in one segment, and
keeps the outbound invariant; for a message whose text cannot be encoded it changes nothing.
-/
namespace AsyncFix.Sched

open AsyncFix.Session AsyncFix.Generated AsyncFix.Generated.ConnEnum

theorem buildFrame_mtype (s : Session) (stamp : String) (m : Msg) (seq : Int) :
    (buildFrame s stamp m seq).mtype = m.mtype := Session.buildFrame_mtype s stamp m seq

theorem buildFrame_seq (s : Session) (stamp : String) (m : Msg) (seq : Int) :
    seqOf (buildFrame s stamp m seq) = some seq := by
  simp [seqOf, buildFrame_get_seq, pyInt_pyStr]

variable {i : Bool}

/-- **`send_msg` after its state checks, for a new message, is one atomic step that keeps the outbound
invariant**: the number is the counter's value, the frame carries it, is journaled under it (never a
duplicate: all rows are below the counter) and is written – or, without a transport, is journaled and
lost. -/
theorem sendCore_spec (env : Env) {m : Msg} (hm : isNew m = true) : MSpec i (sendCore env m) := by
  constructor
  intro c hJ
  have hnew := (buildFrame_isNew c.sess env.stamp m c.sess.nextOut).trans hm
  have hseq := buildFrame_seq c.sess env.stamp m c.sess.nextOut
  rw [sendCore_new_below env ((isNew_iff m).mp hm).1 ((isNew_iff m).mp hm).2 hJ.below]
  split
  · exact seg_raise hJ rfl
  · split
    · -- not single-byte: the number is given back
      exact seg_raise hJ rfl
    · split
      · exact seg_sent hJ hnew hseq false
      · simpa [pend] using seg_sent (i := i) hJ hnew hseq true

/-- text that no session can put on the wire: a tag the encoder copies into the frame (every tag but 34, 52,
49, 56) holds a character outside latin-1.  `send_msg` refuses such a message with EncodingError. -/
def unencodable (m : Msg) : Bool :=
  m.tags.any fun p => !isLatin1 p.2 &&
    (p.1 ≠ tMsgSeqNum && p.1 ≠ tSendingTime && p.1 ≠ tSenderCompID && p.1 ≠ tTargetCompID)

theorem buildFrame_not_latin1 (s : Session) (stamp : String) {m : Msg} (seq : Int) (h : unencodable m = true) :
    frameLatin1 (buildFrame s stamp m seq) = false := by
  simp only [unencodable, List.any_eq_true, Bool.and_eq_true, Bool.not_eq_true'] at h
  obtain ⟨p, hp, hl, hk⟩ := h
  have : (ownTags m).all (fun p => isLatin1 p.2) = false :=
    List.all_eq_false.mpr ⟨p, List.mem_filter.mpr ⟨hp, by simpa [Bool.and_eq_true] using hk⟩, by simp [hl]⟩
  rw [frameLatin1_buildFrame_eq, this]
  simp

/-- number selection of `Codec.encode`, any message: either it raises (EncodingError / ValueError) and nothing
at all has changed, or it returns a number without an effect and with the journal untouched -/
theorem encodeSeq_cases (m : Msg) (c : Conn) :
    (∃ ex, benign ex = true ∧ encodeSeq m c = ⟨.error ex, c, []⟩) ∨
    ∃ n c', c'.journal = c.journal ∧ encodeSeq m c = ⟨.ok n, c', []⟩ := by
  by_cases hnew : m.mtype ≠ mSequenceReset ∧ (m.get? tPossDupFlag).getD "N" ≠ "Y"
  · exact .inr ⟨c.sess.nextOut, bump c, rfl, encodeSeq_fresh hnew.1 hnew.2 c⟩
  · -- the number the message carries itself is only read
    have hown : m.mtype = mSequenceReset ∨ (m.get? tPossDupFlag).getD "N" = "Y" := by
      by_cases h4 : m.mtype = mSequenceReset
      · exact .inl h4
      · exact .inr (Classical.not_not.mp fun h => hnew ⟨h4, h⟩)
    cases hv : m.get? tMsgSeqNum with
    | none =>
      refine .inl ⟨.encoding, rfl, ?_⟩
      unfold encodeSeq
      rcases hown with h | h <;> simp [h, Msg.has, hv]
    | some v =>
      cases hn : pyInt v with
      | some n => exact .inr ⟨n, c, rfl, encodeSeq_own hown hv hn c⟩
      | none =>
        refine .inl ⟨.value, rfl, ?_⟩
        unfold encodeSeq
        rcases hown with h | h <;>
          simp [h, has_of_get? hv, get_of_get? hv, M.bind_apply, M.int_apply, hn]

/-- a message whose text cannot be encoded – whether it would take a new number or carries its own – is
refused with everything on the outbound side as it was -/
theorem sendCore_spec_unencodable (env : Env) {m : Msg} (hm : unencodable m = true) : MSpec i (sendCore env m) := by
  constructor
  intro c hJ
  rcases encodeSeq_cases m c with ⟨ex, hb, h⟩ | ⟨n, c', hj, h⟩ <;> rw [sendCore_apply env m h] <;> split
  · exact seg_raise hJ rfl
  · exact seg_raise hJ hb
  · exact seg_raise hJ rfl
  · -- the frame is refused and the number given back
    dsimp only
    rw [if_pos (by rw [buildFrame_not_latin1 _ _ _ hm]; rfl)]
    exact Seg.of_same hJ ⟨rfl, by simp [hj], by simp [hj]⟩ rfl rfl rfl

theorem sendMsg_spec (env : Env) {m : Msg} (hm : isNew m = true) : MSpec i (sendMsg env m) := by
  unfold sendMsg
  exact MSpec.bind (sendGate_spec m) fun _ => sendCore_spec env hm

end AsyncFix.Sched
