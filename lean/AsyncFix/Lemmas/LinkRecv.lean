import AsyncFix.Lemmas.LinkServe

/-!
C07: `Session.recv` on a well-formed frame, as a step of the endpoint.  The refusals (`recv_tooLow`, `recv_drop`) and
the head handlers of Logon and SequenceReset are cases of their own; everything else is `recv_plain`: gap check,
dispatch, count, each matched with the abstract model once (`gap_sim`, `count_sim`) and composed by `StepOK.seq`.
-/
namespace AsyncFix.Link

open AsyncFix.Session AsyncFix.Generated AsyncFix.Generated.ConnEnum
open AsyncFix.Session.Msg AsyncFix.Session.Rows

variable {s : Side} {env : Env} {c : Conn} {f : Msg} {n : Int}

theorem isLatin1_tooLow (e n : Int) : isLatin1 (tooLowText e n) = true := by
  unfold tooLowText
  rw [isLatin1_append, isLatin1_append, isLatin1_append, isLatin1_pyStr, isLatin1_pyStr]
  decide +kernel

theorem inFrame_of_good (hc : ConnGood s c) (hf : FrameGood s.other.name s.name f) : ∃ n, InFrame c f n := by
  obtain ⟨n, hn⟩ := hf.seq
  exact ⟨n, ⟨hf.bs, by rw [hc.tgt]; exact hf.s49, by rw [hc.snd]; exact hf.s56, hn⟩⟩

/-- a frame numbered below the expectation (not a SequenceReset, not a tolerated duplicate): Logout with the
reason, disconnect.  On a fresh transport the Logout also turns the endpoint into an initiator. -/
theorem recv_tooLow (hc : ConnGood s c) (hs : c.sock = true) (hi : InFrame c f n) (hl3 : isLatin1 env.stamp = true)
    (h4 : f.mtype ≠ mSequenceReset) (hn : n < c.sess.nextIn)
    (hpd : ¬ (c.state = st_RESENDREQ_AWAITING ∧ f.get? tPossDupFlag = some "Y")) :
    StepOK s (absConn c).dropLogout (recv srAll env c f).1 (recv srAll env c f).2 := by
  have hf := connFacts hc
  have hv := validateIntegrity_tooLow hi hn h4 hpd
  have ht := isLatin1_tooLow c.sess.nextIn n
  let c0 : Conn := discReset c
  rcases state_of_sock hc hs with hst | hst
  · have hsend := (sendMsg_out_conn (c := c0) (hf.congr rfl rfl hf.role) hs hl3 (outMsg_logout ht)
      (logoutMsg_plain _) hst (Or.inr rfl)).1
    rw [recv_of_reason hv (disconnect_logout env (by rw [hst]; decide) (Nat.le_refl _) hsend)]
    simp only [AConn.dropLogout, absSt_conn hst, if_true]
    exact stepOK_logoutDropped (c0 := { setState c0 st_LOGON_INITIAL_SENT with role := roleInitiator })
      (hf.congr rfl rfl (Or.inl rfl)) rfl ht hl3
      (by simp [writesOf, caught, writesOf_discTail]; rfl)
      (by simp [deliveriesOf, caught, deliveriesOf_discTail])
  · have h6 : st_NETWORK_CONN_ESTABLISHED < c.state := by rcases hst with h | h | h <;> rw [h] <;> decide
    have hne : (absConn c).st ≠ .conn := by
      show absSt c.state ≠ .conn; rcases hst with h | h | h <;> rw [h] <;> decide
    have hsend := (sendMsg_out (c := c0) (hf.congr rfl rfl hf.role) hs hl3 (outMsg_logout ht)
      (logoutMsg_plain _) h6 (fun h => h.2.2 rfl)).1
    rw [recv_of_reason hv (disconnect_logout env (Nat.lt_trans (by decide) h6) (Nat.le_refl _) hsend)]
    simp only [AConn.dropLogout, hne, if_false]
    exact stepOK_logoutDropped (c0 := c0) (hf.congr rfl rfl hf.role) rfl ht hl3
      (by simp [writesOf, caught, writesOf_discTail])
      (by simp [deliveriesOf, caught, deliveriesOf_discTail])

/-- a frame that is not too low and that the phase does not admit (anything but Logon on a fresh transport,
anything but Logon / Logout before the Logon reply), or a Logout: dropped without Logout -/
theorem recv_drop (hc : ConnGood s c) (hi : InFrame c f n) (hv : NotLow c f n)
    (hcase : (c.state = st_NETWORK_CONN_ESTABLISHED ∧ f.mtype ≠ mLogon) ∨
      (c.state = st_LOGON_INITIAL_SENT ∧ f.mtype ≠ mLogon ∧ f.mtype ≠ mLogout) ∨
      (st_NETWORK_CONN_ESTABLISHED < c.state ∧ f.mtype = mLogout)) :
    StepOK s { c := (absConn c).drop } (recv srAll env c f).1 (recv srAll env c f).2 := by
  have hg := validateIntegrity_ok hi hv
  rcases hcase with ⟨hst, hA⟩ | ⟨hst, hA, h5⟩ | ⟨h6, h5⟩
  · rw [recv_of_head_none hg (processHead_conn_drop env hst hA)]
    exact stepOK_dropped hc (by decide) (Nat.le_refl _) (writesOf_discTail _ _) (deliveriesOf_discTail _ _)
  · rw [recv_of_head_none hg (processHead_sent_drop env hst hA h5)]
    exact stepOK_dropped hc (by decide) (Nat.le_refl _) (writesOf_discTail _ _) (deliveriesOf_discTail _ _)
  · have h3 : st_DISCONNECTED_BROKEN_CONN < c.state := Nat.lt_trans (by decide) h6
    rw [recv_of_head_none hg (processHead_logout h6 h5 (processLogout_apply env h5 h3) (by
      show (if c.wasActive then _ else _) ≤ _; split <;> decide))]
    exact stepOK_dropped hc (by split <;> decide) (by split <;> decide) (writesOf_discTail _ _)
      (deliveriesOf_discTail _ _)

/-- **a frame that only the dispatch looks at** (neither Logon, SequenceReset nor Logout), not below the expectation,
on a logged-on connection: gap check, then the dispatch `D`, then the count iff it is the expected one.  The kind of
frame enters through `D` alone: delivery for an application frame, `serve` for a ResendRequest. -/
theorem recv_plain (hc : ConnGood s c) (hi : InFrame c f n) (hl3 : isLatin1 env.stamp = true) (hst : Est c)
    (hn : c.sess.nextIn ≤ n) (hA : f.mtype ≠ mLogon) (h4 : f.mtype ≠ mSequenceReset) (h5 : f.mtype ≠ mLogout)
    {D : AConn → ARes}
    (hD : ∀ c1, ConnGood s c1 → Est c1 → c1.sess.nextIn = c.sess.nextIn →
      ∃ c2 e2, processDispatch env srAll f (decide (n ≤ c.sess.nextIn)) n c1 = ⟨.ok (), c2, e2⟩ ∧
        StepOK s (D (absConn c1)) c2 e2 ∧ Est c2 ∧ c2.sess.nextIn = c1.sess.nextIn) :
    StepOK s
      (((absConn c).gap n).seq
        (let d := D ((absConn c).gap n).c
         if n = c.sess.nextIn then d.seq { c := d.c.advance (c.sess.nextIn + 1) } else d))
      (recv srAll env c f).1 (recv srAll env c f).2 := by
  obtain ⟨c1, e1, hg, s1, st1, k1⟩ := gap_sim (env := env) hc hl3 hst n
  obtain ⟨c2, e2, hd, s2, st2, k2⟩ := hD c1 s1.good st1 k1
  have hv := validateIntegrity_ok hi (Or.inl hn)
  have hh := processHead_gap hst.past_sent hA h4 h5 hi.h34 hg
  rw [s1.conn] at s2
  by_cases he : n = c.sess.nextIn
  · have he2 : n = c2.sess.nextIn := he.trans (k2.trans k1).symm
    obtain ⟨c3, e3, hf, s3⟩ := count_sim (env := env) s2.good st2 hi.h34
      (setNextNumIn_plain h4 hi.h34 (pyInt_pyStr n) he2) (by have := hc.e1; omega) (Int.le_refl _)
      (he2 ▸ s2.good.inb)
    rw [decide_eq_true (Int.le_of_eq he)] at hh hd
    rw [recv_of_head_valid hv hh hd hf, if_pos he]
    rw [s2.conn] at s3
    exact s1.seq (s2.seq (by rw [← he]; exact s3))
  · rw [decide_eq_false (by omega)] at hh hd
    rw [recv_of_head_gap hv hh hd, if_neg he]
    exact s1.seq s2

/-- while awaiting a resend, a retransmitted duplicate below the expectation passes the gap check, but
`set_next_num_in` returns -1 and `_finalize_message` does not count it: ignored -/
theorem recv_app_dup (hA : f.mtype ≠ mLogon) (h2 : f.mtype ≠ mResendRequest) (h4 : f.mtype ≠ mSequenceReset)
    (h5 : f.mtype ≠ mLogout) (h0 : f.mtype ≠ mHeartbeat) (h1 : f.mtype ≠ mTestRequest)
    (hc : ConnGood s c) (hi : InFrame c f n) (hst : c.state = st_RESENDREQ_AWAITING)
    (hn : n < c.sess.nextIn) (hpd : f.get? tPossDupFlag = some "Y") :
    StepOK s { c := absConn c } (recv srAll env c f).1 (recv srAll env c f).2 := by
  have hne : ¬ (true = true ∧ n = c.sess.nextIn) := fun h => by omega
  have hfin := finalizeMessage_skip env (setNextNumIn_other h4 hi.h34 (pyInt_pyStr n) (Int.ne_of_lt hn)) (by decide)
  rw [recv_of_head_valid (validateIntegrity_ok hi (Or.inr (Or.inr ⟨hst, hpd⟩)))
    (processHead_gap (by rw [hst]; decide) hA h4 h5 hi.h34 (checkSeqnumGaps_le env (Int.le_of_lt hn)))
    (processDispatch_app env srAll h2 h4 hA h1 h0) hfin, if_neg hne]
  exact stepOK_same hc rfl rfl

section gapFill
variable {nw : Int}

/-- left alone by `_process_seqreset` (not numbered as expected, or not moving forward): the gap check and nothing
else -/
theorem recv_gapFill_skip (hc : ConnGood s c) (hi : InFrame c f n) (hg : GapFrame f nw)
    (hl3 : isLatin1 env.stamp = true) (hst : Est c) (h : ¬ (n = c.sess.nextIn ∧ n < nw)) :
    StepOK s ((absConn c).gap n) (recv srAll env c f).1 (recv srAll env c f).2 := by
  obtain ⟨c1, e1, hgap, s1, _, _⟩ := gap_sim (env := env) hc hl3 hst n
  rw [recv_of_head_none (validateIntegrity_ok hi (Or.inr (Or.inl hg.h4)))
    (processHead_seqreset_skip hst.past_sent hg.h4 (processSeqreset_skip hg.h4 hg.h123 hg.h36 (pyInt_pyStr nw) hi.h34
      (pyInt_pyStr n) (by omega)) hi.h34 (pyInt_pyStr n) hgap)]
  exact s1

/-- numbered as expected and moving forward: the expectation jumps to NewSeqNo -/
theorem recv_gapFill_honoured (hc : ConnGood s c) (hi : InFrame c f n) (hg : GapFrame f nw)
    (hst : Est c) (hn : n = c.sess.nextIn) (hw : n < nw) :
    StepOK s { c := (absConn c).advance nw } (recv srAll env c f).1 (recv srAll env c f).2 := by
  have hf := connFacts hc
  have h3 : st_DISCONNECTED_BROKEN_CONN < c.state := Nat.lt_trans (by decide) hst.past_sent
  have h1n : 0 < n := by have := hf.e1; omega
  have hlt : AllLt n c.journal.inb := hn ▸ hf.inb
  -- the two `set_seq_num` calls delete nothing: all rows are below the counters
  have hj : (c.journal.setSeq c.sess.nextOut n).setSeq c.sess.nextOut nw =
      { c.journal with outSeq := c.sess.nextOut - 1, inSeq := nw - 1 } := by
    simp [Journal.setSeq, below_of_allLt _ _ hf.outLt, below_of_allLt _ _ hlt,
      below_of_allLt _ _ (allLt_mono (Int.le_of_lt hw) hlt)]
  have hp := processSeqreset_honoured (c := c) hg.h4 hg.h123 hg.h36 (pyInt_pyStr nw) hi.h34 (pyInt_pyStr n) hn h1n hw
  rw [hj] at hp
  have hc1 : ConnGood s {
      c with
      sess := { c.sess with nextIn := nw }
      journal := { c.journal with outSeq := c.sess.nextOut - 1, inSeq := nw - 1 } } :=
    ConnFacts.good (.of hf.snd hf.tgt hf.role (by show 1 ≤ nw; omega) hf.o1 hf.rows
      (allLt_mono (show c.sess.nextIn ≤ nw by omega) hf.inb)) hc.st hc.sock hc.w
  obtain ⟨c3, e3, hfin, s3⟩ := count_sim (env := env) hc1 hst hi.h34
    (setNextNumIn_seqreset hg.h4 hg.h36 (pyInt_pyStr nw)) (by omega) (by omega) hlt
  rw [recv_of_head_valid (validateIntegrity_ok hi (Or.inr (Or.inl hg.h4)))
    (processHead_seqreset_ok hst.past_sent hg.h4 hp h3 hi.h34 (pyInt_pyStr n) (checkSeqnumGaps_le env (Int.le_of_lt hw)))
    (congrFun (processDispatch_quiet env srAll (Or.inl hg.h4)) _) hfin]
  exact ⟨s3.conn.trans (by rw [Int.sub_add_cancel]; rfl), s3.wr, s3.dl, s3.good, s3.frames⟩

end gapFill

structure LogonFrame (f : Msg) (ev hv : String) : Prop where
  hA : f.mtype = mLogon
  h98 : f.get? tEncryptMethod = some ev
  h108 : f.get? tHeartBtInt = some hv
  lev : isLatin1 ev = true
  lhv : isLatin1 hv = true

section logon
variable {ev hv : String}

/-- a Logon reaching an endpoint in the acceptor role after its first frame: the assertion of `_process_logon`
fails and is swallowed – nothing happens -/
theorem recv_logon_acceptor_ignored (hc : ConnGood s c) (hi : InFrame c f n) (hf : LogonFrame f ev hv)
    (hst : c.state = st_LOGON_INITIAL_SENT ∨ c.state = st_RESENDREQ_AWAITING ∨ c.state = st_ACTIVE)
    (hr : c.role = roleAcceptor) (hn : c.sess.nextIn ≤ n) :
    StepOK s { c := absConn c } (recv srAll env c f).1 (recv srAll env c f).2 := by
  have h6 : st_NETWORK_CONN_ESTABLISHED < c.state := by rcases hst with h | h | h <;> rw [h] <;> decide
  have h8 : c.state ≠ st_LOGON_INITIAL_RECV := by rcases hst with h | h | h <;> rw [h] <;> decide
  rw [recv_of_head_err (validateIntegrity_ok hi (Or.inl hn))
    (processHead_logon_err h6 hf.hA (processLogon_acceptor_wrong hf.hA hi.h34 (pyInt_pyStr n) hr h8))]
  exact stepOK_same hc rfl rfl

/-- **after `_process_logon`** has answered (frames `pre`, effects `e0`) and put the connection `X` into `logonState`:
the gap check from there, nothing in the dispatch, the count.  Numbered as expected the state is ACTIVE and the Logon
is counted; numbered above, the gap check asks from RECV_SEQNUM_TOO_HIGH, which is no state of rest (so this is
not an instance of `gap_sim`). -/
theorem recv_logon_tail {X : Conn} {e0 : List Effect} {a0 : AConn} {pre : List Msg}
    (hv : validateIntegrity f c = ⟨.ok .good, c, []⟩) (hA : f.mtype = mLogon)
    (h34 : f.get? tMsgSeqNum = some (pyStr n)) (hl3 : isLatin1 env.stamp = true)
    (hX : ConnFacts s X) (hs : X.sock = true) (hn : X.sess.nextIn ≤ n)
    (hhead : ∀ {valid : Bool} {c2 : Conn} {e2 : List Effect},
      checkSeqnumGaps env n (setState X (logonState X n)) = ⟨.ok valid, c2, e2⟩ →
      processHead env f c = ⟨.ok (some (valid, n)), c2, e0 ++ e2⟩)
    (habs : ∀ x, absConn (setState X x) = { a0 with st := absSt x })
    (hw : writesOf e0 = pre) (hd : deliveriesOf e0 = []) (hpre : ∀ g ∈ pre, FrameGood s.name s.other.name g) :
    StepOK s
      (if n = X.sess.nextIn then { c := { a0 with st := .active, e := X.sess.nextIn + 1 }, wr := pre.map absFrame }
       else { c := (a0.askResend n).1, wr := pre.map absFrame ++ [(a0.askResend n).2] })
      (recv srAll env c f).1 (recv srAll env c f).2 := by
  by_cases he : n = X.sess.nextIn
  · rw [if_pos he]
    have hc1 : ConnGood s (setState X st_ACTIVE) :=
      ConnFacts.good (hX.congr rfl rfl hX.role) (by simp [setState, restState]) (by show X.sock = _; rw [hs]; rfl)
        (fun h => nomatch h)
    obtain ⟨c3, e3, hfin, s3⟩ := count_sim (env := env) hc1 (Or.inl rfl) h34
      (setNextNumIn_plain (by rw [hA]; decide) h34 (pyInt_pyStr n) he) (by have := hX.e1; omega) (Int.le_refl _)
      (he ▸ hX.inb)
    rw [show logonState X n = st_ACTIVE from if_pos he] at hhead
    rw [recv_of_head_valid hv (hhead (checkSeqnumGaps_le env (Int.le_of_eq he))) (congrFun (processDispatch_quiet env srAll (Or.inr hA)) _)
      hfin]
    have hw3 : writesOf e3 = [] := List.map_eq_nil_iff.mp s3.wr
    refine ⟨s3.conn.trans ?_, by simp [writesOf_append, hw, hw3], by simp [deliveriesOf_append, hd, s3.dl],
      s3.good, by simpa [writesOf_append, hw, hw3] using hpre⟩
    rw [habs, he, show absSt st_ACTIVE = ASt.active from rfl]; simp [AConn.advance]
  · rw [if_neg he]
    have hgt : X.sess.nextIn < n := by omega
    have hf1 : ConnFacts s (setState X st_RECV_SEQNUM_TOO_HIGH) := hX.congr rfl rfl hX.role
    rw [show logonState X n = st_RECV_SEQNUM_TOO_HIGH from if_neg he] at hhead
    rw [recv_of_head_gap hv (hhead (checkSeqnumGaps_askConn hf1 hs hl3 (by show _ < st_RECV_SEQNUM_TOO_HIGH; decide)
      (by show st_RECV_SEQNUM_TOO_HIGH ≠ _; decide) hgt)) (congrFun (processDispatch_quiet env srAll (Or.inr hA)) _)]
    exact stepOK_askConn (a := a0) (pre := pre) hf1 hs hl3 hgt (by rw [habs]; rfl)
      (by simp [writesOf_append, writesOf, hw]) (by simp [deliveriesOf_append, deliveriesOf, hd]) hpre

/-- initiator role, after the first frame: ACTIVE when numbered as expected, else ResendRequest and awaiting -/
theorem recv_logon_ini (hc : ConnGood s c) (hi : InFrame c f n) (hf : LogonFrame f ev hv)
    (hl3 : isLatin1 env.stamp = true)
    (hst : c.state = st_LOGON_INITIAL_SENT ∨ c.state = st_RESENDREQ_AWAITING ∨ c.state = st_ACTIVE)
    (hr : c.role = roleInitiator) (hn : c.sess.nextIn ≤ n) :
    StepOK s
      (if n = c.sess.nextIn then { c := { absConn c with st := .active, e := c.sess.nextIn + 1 } }
       else { c := ((absConn c).askResend n).1, wr := [((absConn c).askResend n).2] })
      (recv srAll env c f).1 (recv srAll env c f).2 := by
  have h6 : st_NETWORK_CONN_ESTABLISHED < c.state := by rcases hst with h | h | h <;> rw [h] <;> decide
  exact recv_logon_tail (pre := []) (validateIntegrity_ok hi (Or.inl hn)) hf.hA hi.h34 hl3 (connFacts hc)
    (sock_of_state hc (Nat.lt_trans (by decide) h6)) hn
    (fun hg => processHead_logon h6 hf.hA (processLogon_initiator env hf.hA hi.h34 (pyInt_pyStr n) hr)
      (logonState_connected c n) hi.h34 (pyInt_pyStr n) hg)
    (fun _ => rfl) rfl rfl nofun

def replyFrame (env : Env) (c : Conn) (ev hv : String) : Msg :=
  buildFrame c.sess env.stamp (logonReplyMsg ev hv) c.sess.nextOut

/-- the connection after the first Logon on a fresh transport was answered: acceptor role, reply journaled -/
def repliedConn (env : Env) (c : Conn) (ev hv : String) : Conn :=
  sentFresh { setState c st_LOGON_INITIAL_RECV with role := roleAcceptor } (replyFrame env c ev hv)

theorem absConn_replied (c : Conn) (x : Nat) :
    absConn (setState (repliedConn env c ev hv) x) =
      { ({ absConn c with ini := false }.push .logon).1 with st := absSt x } := by
  have : ¬ roleAcceptor = roleInitiator := by decide
  have hr : ∀ k, absRow (k, logonReplyMsg ev hv) = (k, none) := fun k =>
    absRow_frame (kind_logonReply ev hv) ⟨by show mLogon ≠ _; decide, by show mLogon ≠ _; decide⟩
  simp [repliedConn, replyFrame, sentFresh, setState, absConn, AConn.push, absRow_build, hr, AKind.entry, this]

/-- what `_process_logon` does on a fresh transport -/
theorem processLogon_conn (hc : ConnGood s c) (hi : InFrame c f n) (hf : LogonFrame f ev hv)
    (hl3 : isLatin1 env.stamp = true) (hst : c.state = st_NETWORK_CONN_ESTABLISHED) (hn : c.sess.nextIn ≤ n) :
    processLogon env f { setState c st_LOGON_INITIAL_RECV with role := roleAcceptor } =
        ⟨.ok (), setState (repliedConn env c ev hv) (logonState c n),
          [.write (replyFrame env c ev hv), .onState (logonState c n), .onLogon (decide (n = c.sess.nextIn))]⟩ ∧
      ConnFacts s (repliedConn env c ev hv) ∧ FrameGood s.name s.other.name (replyFrame env c ev hv) := by
  have hfa := connFacts hc
  have hs := sock_of_state hc (by rw [hst]; decide)
  let c8 : Conn := { setState c st_LOGON_INITIAL_RECV with role := roleAcceptor }
  obtain ⟨hsend, hfg, hf1⟩ := sendMsg_out (env := env) (hfa.congr (c' := c8) rfl rfl (Or.inr rfl)) hs hl3
    (outMsg_logonReply hf.lev hf.lhv) (logonReplyMsg_plain _ _)
    (by show _ < st_LOGON_INITIAL_RECV; decide) (fun h => absurd h.2.1 (by show st_LOGON_INITIAL_RECV ≠ _; decide))
  exact ⟨processLogon_acceptor (c := c8) hf.hA hi.h34 (pyInt_pyStr n) rfl rfl hf.h98 hf.h108 hn hsend, hf1, hfg⟩

/-- the first Logon on a fresh transport: acceptor role, Logon reply; then ACTIVE when numbered as expected, else
ResendRequest and awaiting -/
theorem recv_logon_conn (hc : ConnGood s c) (hi : InFrame c f n) (hf : LogonFrame f ev hv)
    (hl3 : isLatin1 env.stamp = true) (hst : c.state = st_NETWORK_CONN_ESTABLISHED) (hn : c.sess.nextIn ≤ n) :
    StepOK s
      (if n = c.sess.nextIn then
        { c := { ({ absConn c with ini := false }.push .logon).1 with st := .active, e := c.sess.nextIn + 1 },
          wr := [replyFrame env c ev hv].map absFrame }
       else { c := ((({ absConn c with ini := false }.push .logon).1).askResend n).1,
              wr := [replyFrame env c ev hv].map absFrame ++
                [((({ absConn c with ini := false }.push .logon).1).askResend n).2] })
      (recv srAll env c f).1 (recv srAll env c f).2 := by
  obtain ⟨hl, hf1, hfg⟩ := processLogon_conn hc hi hf hl3 hst hn
  exact recv_logon_tail (X := repliedConn env c ev hv) (pre := [replyFrame env c ev hv])
    (e0 := .onState st_LOGON_INITIAL_RECV :: [.write (replyFrame env c ev hv), .onState (logonState c n),
      .onLogon (decide (n = c.sess.nextIn))])
    (validateIntegrity_ok hi (Or.inl hn)) hf.hA hi.h34 hl3 hf1
    ((show (repliedConn env c ev hv).sock = c.sock from rfl).trans (sock_of_state hc (by rw [hst]; decide))) hn
    (fun hg => processHead_logon_conn hst hf.hA hl (logonState_connected c n) hi.h34 (pyInt_pyStr n) hg)
    (absConn_replied c) rfl rfl (by simp [hfg])

end logon

end AsyncFix.Link
