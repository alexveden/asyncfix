import AsyncFix.Model.SchedRun
import AsyncFix.Lemmas.SessionLaws

/-!
**A resumption that is never interleaved is the sequential handler**: `R.runSeq` (resume every yield at once, ghosts
dropped) is a monad morphism `R → M`, and `runSeq (hR …) = h …` for every handler up to the task bodies
(`Task.body_seq`).  In front of that, the evaluation lemmas of the resumption monad.
-/
namespace AsyncFix.Sched

open AsyncFix.Session AsyncFix.Generated AsyncFix.Generated.ConnEnum

variable {α β : Type}

theorem R.bind_apply (x : R α) (f : α → R β) (c : Conn) : (x >>= f) c = (x c).bind f := rfl
theorem R.pure_apply (a : α) (c : Conn) : (pure a : R α) c = .done c [] [] (.ok a) := rfl

theorem R.liftM_apply (x : M α) (c : Conn) :
    R.liftM x c = .done (x c).conn (x c).eff [] (x c).res := by
  unfold R.liftM
  rcases x c with ⟨r, c1, e⟩
  rfl

theorem R.get_apply (c : Conn) : R.get c = .done c [] [] (.ok c) := rfl
theorem R.modify_apply (f : Conn → Conn) (c : Conn) : R.modify f c = .done (f c) [] [] (.ok ()) := rfl
theorem R.throw_apply (ex : Exc) (c : Conn) : (R.throw ex : R α) c = .done c [] [] (.error ex) := rfl
theorem R.yield_apply (pt : YieldPoint) (c : Conn) :
    R.yield pt c = .yield c [] [] pt fun c' => .done c' [] [] (.ok ()) := rfl

theorem R.ite_apply (p : Prop) [Decidable p] (x y : R α) (c : Conn) :
    (if p then x else y) c = if p then x c else y c := by
  split <;> rfl

theorem Res.bind_done_ok (c : Conn) (e : List Effect) (g : List Ghost) (a : α) (f : α → Conn → Res β) :
    (Res.done c e g (.ok a)).bind f = (f a c).prepend e g := rfl

theorem Res.bind_done_error (c : Conn) (e : List Effect) (g : List Ghost) (ex : Exc) (f : α → Conn → Res β) :
    (Res.done c e g (.error ex)).bind f = .done c e g (.error ex) := rfl

theorem Res.bind_yield (c : Conn) (e : List Effect) (g : List Ghost) (pt : YieldPoint) (k : Conn → Res α)
    (f : α → Conn → Res β) :
    (Res.yield c e g pt k).bind f = .yield c e g pt fun c' => (k c').bind f := rfl

@[simp] theorem Res.prepend_nil (r : Res α) : r.prepend [] [] = r := by
  cases r <;> rfl

theorem M.bind_assoc {γ : Type} (x : M α) (f : α → M β) (g : β → M γ) :
    ((x >>= f) >>= g) = (x >>= fun a => f a >>= g) := LawfulMonad.bind_assoc x f g

theorem Res.runSeq_prepend (e : List Effect) (g : List Ghost) (r : Res α) :
    (r.prepend e g).runSeq = ⟨r.runSeq.res, r.runSeq.conn, e ++ r.runSeq.eff⟩ := by
  cases r with
  | done c e' g' r => rfl
  | yield c e' g' pt k =>
    simp only [Res.prepend, Res.runSeq]
    rcases (k c).runSeq with ⟨r, c1, e1⟩
    simp [List.append_assoc]

theorem Res.runSeq_bind (r : Res α) (f : α → Conn → Res β) :
    (r.bind f).runSeq = (match r.runSeq with
      | ⟨.ok a, c1, e1⟩ => (match (f a c1).runSeq with | ⟨r2, c2, e2⟩ => ⟨r2, c2, e1 ++ e2⟩)
      | ⟨.error ex, c1, e1⟩ => ⟨.error ex, c1, e1⟩) := by
  induction r with
  | done c e g r =>
    cases r with
    | ok a => simp only [Res.bind, Res.runSeq, Res.runSeq_prepend]
    | error ex => rfl
  | yield c e g pt k ih =>
    simp only [Res.bind, Res.runSeq, ih]
    rcases (k c).runSeq with ⟨r, c1, e1⟩
    cases r with
    | error ex => rfl
    | ok a =>
      simp only
      rcases (f a c1).runSeq with ⟨r2, c2, e2⟩
      simp [List.append_assoc]

theorem Res.runSeq_tryCatch (r : Res α) (h : Exc → Conn → Res α) :
    (r.tryCatch h).runSeq = (match r.runSeq with
      | ⟨.ok a, c1, e1⟩ => ⟨.ok a, c1, e1⟩
      | ⟨.error ex, c1, e1⟩ => (match (h ex c1).runSeq with | ⟨r2, c2, e2⟩ => ⟨r2, c2, e1 ++ e2⟩)) := by
  induction r with
  | done c e g r =>
    cases r with
    | ok a => rfl
    | error ex => simp only [Res.tryCatch, Res.runSeq, Res.runSeq_prepend]
  | yield c e g pt k ih =>
    simp only [Res.tryCatch, Res.runSeq, ih]
    rcases (k c).runSeq with ⟨r, c1, e1⟩
    cases r with
    | ok a => rfl
    | error ex =>
      simp only
      rcases (h ex c1).runSeq with ⟨r2, c2, e2⟩
      simp [List.append_assoc]

@[simp] theorem R.runSeq_pure (a : α) : (pure a : R α).runSeq = (pure a : M α) := rfl

@[simp] theorem R.runSeq_bind (x : R α) (f : α → R β) :
    (x >>= f).runSeq = (x.runSeq >>= fun a => (f a).runSeq) := by
  funext c
  exact (Res.runSeq_bind (x c) f).trans rfl

@[simp] theorem R.runSeq_liftM (x : M α) : (R.liftM x).runSeq = x := by
  funext c
  have h : (R.liftM x).runSeq c = (match x c with | ⟨r, c1, e⟩ => (⟨r, c1, e⟩ : Out α)) := by
    simp only [R.runSeq, R.liftM]
    rcases x c with ⟨r, c1, e⟩
    rfl
  rw [h]

@[simp] theorem R.runSeq_yield (pt : YieldPoint) : (R.yield pt).runSeq = (pure () : M Unit) := rfl
@[simp] theorem R.runSeq_hook (e : Effect) (pt : YieldPoint) : (R.hook e pt).runSeq = M.emit e := rfl
@[simp] theorem R.runSeq_ghost (g : Ghost) : (R.ghost g).runSeq = (pure () : M Unit) := rfl
@[simp] theorem R.runSeq_get : R.get.runSeq = M.get := R.runSeq_liftM _
@[simp] theorem R.runSeq_modify (f : Conn → Conn) : (R.modify f).runSeq = M.modify f := R.runSeq_liftM _
@[simp] theorem R.runSeq_throw (ex : Exc) : (R.throw ex : R α).runSeq = M.throw ex := R.runSeq_liftM _
@[simp] theorem R.runSeq_liftE (x : Except Exc α) : (R.liftE x).runSeq = M.liftE x := R.runSeq_liftM _
@[simp] theorem R.runSeq_assert (b : Bool) : (R.assert b).runSeq = M.assert b := R.runSeq_liftM _
@[simp] theorem R.runSeq_int (s : String) : (R.int s).runSeq = M.int s := R.runSeq_liftM _

@[simp] theorem R.runSeq_tryCatch (x : R α) (h : Exc → R α) :
    (R.tryCatch x h).runSeq = M.tryCatch x.runSeq fun ex => (h ex).runSeq := by
  funext c
  exact (Res.runSeq_tryCatch (x c) h).trans rfl

@[simp] theorem R.runSeq_ite (p : Prop) [Decidable p] (x y : R α) :
    (if p then x else y).runSeq = if p then x.runSeq else y.runSeq := by
  split <;> rfl

@[simp] theorem stateSetR_seq (s : Nat) : (stateSetR s).runSeq = stateSet s := by
  simp [stateSetR]

@[simp] theorem sendGateR_seq (m : Msg) : (sendGateR m).runSeq = sendGate m := by
  simp [sendGateR, sendGate]

@[simp] theorem sendCoreR_seq (env : Env) (m : Msg) : (sendCoreR env m).runSeq = sendCore env m := by
  simp [sendCoreR]

@[simp] theorem sendMsgR_seq (env : Env) (m : Msg) : (sendMsgR env m).runSeq = sendMsg env m := by
  simp [sendMsgR, sendMsg]

@[simp] theorem sendTestReqR_seq (env : Env) : (sendTestReqR env).runSeq = sendTestReq env := by
  simp [sendTestReqR, sendTestReq]

@[simp] theorem swallowR_seq (d : α) (x : R α) : (swallowR d x).runSeq = swallow d x.runSeq := by
  simp [swallowR, swallow]

@[simp] theorem disconnectR_seq (env : Env) (d : Nat) (l : Option String) :
    (disconnectR env d l).runSeq = disconnect env d l := by
  cases l <;> simp only [disconnectR, disconnect, R.runSeq_bind, R.runSeq_get, R.runSeq_ite, R.runSeq_pure,
    R.runSeq_assert, R.runSeq_modify, R.runSeq_hook, swallowR_seq, sendMsgR_seq, stateSetR_seq]

/-- never interleaved, `rethrowAfter y` is `y; raise` (the ghost mark is dropped) -/
@[simp] theorem rethrowAfter_seq (y : R Unit) (ex : Exc) :
    (rethrowAfter (α := α) y ex).runSeq = (y.runSeq >>= fun _ => (M.throw ex : M α)) := by
  unfold rethrowAfter
  cases (ex == .duplicateSeqNo || ex == .attribute) <;> simp

@[simp] theorem processLogonR_seq (env : Env) (m : Msg) : (processLogonR env m).runSeq = processLogon env m := by
  simp only [processLogonR, processLogon, R.runSeq_bind, R.runSeq_get, R.runSeq_ite, R.runSeq_pure, R.runSeq_assert,
    R.runSeq_liftE, R.runSeq_int, R.runSeq_hook, R.runSeq_tryCatch, rethrowAfter_seq, stateSetR_seq, disconnectR_seq,
    sendMsgR_seq]

@[simp] theorem checkSeqnumGapsR_seq (env : Env) (n : Int) :
    (checkSeqnumGapsR env n).runSeq = checkSeqnumGaps env n := by
  simp [checkSeqnumGapsR, checkSeqnumGaps]

@[simp] theorem processLogoutR_seq (env : Env) (m : Msg) : (processLogoutR env m).runSeq = processLogout env m := by
  simp [processLogoutR, processLogout]

@[simp] theorem resendLoopR_seq (env : Env) (sr : Msg → Bool) (endNo : Int) (rows : List Msg) (a b : Int) :
    (resendLoopR env sr endNo rows a b).runSeq = resendLoop env sr endNo rows a b := by
  induction rows generalizing a b with
  | nil => simp [resendLoopR, resendLoop]
  | cons row rest ih =>
    unfold resendLoopR resendLoop
    simp only [R.runSeq_bind, R.runSeq_liftE, R.runSeq_int]
    congr 1; funext v; congr 1; funext n
    by_cases hn : n > endNo
    · simp [hn, ih]
    · simp only [hn, if_false, R.runSeq_bind, R.runSeq_liftE]
      congr 1; funext ty
      by_cases h : ty ∈ ConnEnum.noReplay
      · simp [h, ih]
      · cases sr row <;> simp [h, ih]

@[simp] theorem processResendR_seq (env : Env) (sr : Msg → Bool) (m : Msg) :
    (processResendR env sr m).runSeq = processResend env sr m := by
  simp only [processResendR, processResend, pure_bind, R.runSeq_bind, R.runSeq_get, R.runSeq_ite, R.runSeq_pure,
    R.runSeq_assert, R.runSeq_liftE, R.runSeq_int, R.runSeq_ghost, R.runSeq_liftM, stateSetR_seq, resendLoopR_seq,
    sendMsgR_seq]

@[simp] theorem finalizeMessageR_seq (env : Env) (m : Msg) :
    (finalizeMessageR env m).runSeq = finalizeMessage env m := by
  simp only [finalizeMessageR, finalizeMessage, R.runSeq_bind, R.runSeq_get, R.runSeq_ite, R.runSeq_pure,
    R.runSeq_assert, R.runSeq_modify, R.runSeq_liftM, stateSetR_seq]

@[simp] theorem processTestRequestR_seq (env : Env) (m : Msg) :
    (processTestRequestR env m).runSeq = processTestRequest env m := by
  simp [processTestRequestR, processTestRequest]

@[simp] theorem processHeartbeatR_seq (env : Env) (m : Msg) :
    (processHeartbeatR env m).runSeq = processHeartbeat env m := by
  simp only [processHeartbeatR, processHeartbeat, R.runSeq_bind, R.runSeq_assert, R.runSeq_get]
  congr 1; funext _; congr 1; funext c
  cases c.testReqId with
  | none => rfl
  | some tid =>
    simp only
    cases m.get? tTestReqID with
    | none => rfl
    | some v => simp

@[simp] theorem processHeadR_seq (env : Env) (m : Msg) : (processHeadR env m).runSeq = processHead env m := by
  simp only [processHeadR, processHead, R.runSeq_bind, R.runSeq_get, R.runSeq_ite, R.runSeq_pure, R.runSeq_assert,
    R.runSeq_liftE, R.runSeq_int, R.runSeq_modify, R.runSeq_liftM, stateSetR_seq, disconnectR_seq, processLogonR_seq,
    processLogoutR_seq, checkSeqnumGapsR_seq]

@[simp] theorem processDispatchR_seq (env : Env) (sr : Msg → Bool) (m : Msg) (valid : Bool) (n : Int) :
    (processDispatchR env sr m valid n).runSeq = processDispatch env sr m valid n := by
  simp [processDispatchR, processDispatch]

@[simp] theorem processMessageR_seq (env : Env) (sr : Msg → Bool) (m : Msg) :
    (processMessageR env sr m).runSeq = processMessage env sr m := by
  simp only [processMessageR, processMessage, R.runSeq_bind, R.runSeq_liftM]
  congr 1; funext integ
  cases integ with
  | good =>
    simp only [R.runSeq_bind, swallowR_seq, processHeadR_seq]
    congr 1; funext head
    cases head with
    | none => rfl
    | some p =>
      obtain ⟨valid, n⟩ := p
      simp
  | critical => simp
  | reason t => simp

@[simp] theorem tickBodyR_seq (env : Env) : (tickBodyR env).runSeq = tickBody env := by
  simp only [tickBodyR, tickBody, R.runSeq_bind, R.runSeq_get, R.runSeq_ite, R.runSeq_pure, R.runSeq_modify,
    sendTestReqR_seq, disconnectR_seq]

/-- a task that is never interleaved behaves as its sequential entry point (`appSend`, `tick`, `recv`
of `Model/Session.lean`): the final connection and the effects, an escaping exception last. -/
theorem Task.body_seq (sr : Msg → Bool) (t : Task) (c : Conn) :
    M.run (t.body sr).runSeq c =
      (match t with
       | .send env m => Session.appSend env c m
       | .tick env => Session.tick env c
       | .recv env m => Session.recv sr env c m) := by
  cases t <;> simp [Task.body, Session.appSend, Session.tick, Session.recv]

end AsyncFix.Sched
