import AsyncFix.Lemmas.SessionRel

/-!
The loop of `_process_resend` for statements about EVERY outcome on ANY connection (no invariant, exceptions
included): whatever relation is closed under sequencing and holds across the three calls the loop makes
(`persist_msg` of a row after EndSeqNo, `send_msg` of a GapFill, `send_msg` of the copy of an application row)
holds across the loop.
-/
namespace AsyncFix.Session

open AsyncFix.Generated AsyncFix.Generated.ConnEnum

/-- `hcopy` speaks of the rows at hand, so that a family may use what it knows of its journal rows; the type
`ty` read from the row is not one of the session-level types -/
theorem resendLoop_rel {R : Conn → Conn → List Effect → Prop} [Compositional R] (env : Env) (sr : Msg → Bool)
    (endNo : Int)
    (hpers : ∀ n row, M.Rel R (persistOutboundRow n row))
    (hgap : ∀ a b, M.Rel R (sendMsg env (gapFillMsg a b)))
    (rows : List Msg)
    (hcopy : ∀ row ∈ rows, ∀ ty rp, row.get tMsgType = .ok ty → ConnEnum.noReplay.contains ty = false →
      prepareReplay row = .ok rp → M.Rel R (sendMsg env rp)) :
    ∀ (a b : Int), M.Rel R (resendLoop env sr endNo rows a b) := by
  induction rows with
  | nil => intro a b; unfold resendLoop; exact M.Rel.pure _
  | cons row rest ih =>
    have ih := ih fun r hr => hcopy r (List.mem_cons_of_mem _ hr)
    have hcopy := hcopy row List.mem_cons_self
    intro a b
    unfold resendLoop
    apply M.Rel.bind (M.Rel.liftE _); intro v
    apply M.Rel.bind (M.Rel.int _); intro n
    apply M.Rel.ite
    · exact M.Rel.bind (hpers n row) (fun _ => ih _ _)
    apply M.Rel.liftE_bind; intro ty hty
    refine M.Rel.ite' (fun _ => ih _ _) fun hc => ?_
    have hnr : ConnEnum.noReplay.contains ty = false := by
      cases h : ConnEnum.noReplay.contains ty
      · rfl
      · rw [h] at hc; exact absurd rfl hc
    -- the text after the optional gap fill, once for both branches
    have hjp : ∀ u : Unit, M.Rel R (do
        let rp ← M.liftE (prepareReplay row)
        sendMsg env rp
        resendLoop env sr endNo rest (n + 1) b) := by
      intro _
      apply M.Rel.liftE_bind
      intro rp hrp
      exact M.Rel.bind (hcopy ty rp hty hnr hrp) fun _ => ih _ _
    dsimp only
    split
    · exact M.Rel.bind (hgap _ _) hjp
    · exact hjp ()

end AsyncFix.Session
