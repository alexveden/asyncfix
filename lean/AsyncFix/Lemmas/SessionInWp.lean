import AsyncFix.Lemmas.SessionFoot

/-!
C04: the calculus the proofs over the session monad `M` are written in.

`Holds x c Q` – running `x` from connection `c` ends in a result / connection / effect list satisfying `Q`.
The `holds_*` lemmas push `Holds` through every combinator the handlers use; `wp_simp` rewrites with them until
only calls are left, which are then answered by their own `Holds` statements (`Holds.of_spec`) or by a relation
proved of the whole callee (`Holds.of_rel`, with `M.Rel` of `SessionRel`).

`StepRel` bundles a compositional relation with its proofs; `Sat S x` is `M.Rel S.R x`.
`Quiet` – the expected inbound number stays and nothing is delivered – is read off the footprint of a handler
(`M.Rel.quiet`): it admits every kind of step but `inn` and `deliver`.
-/
namespace AsyncFix.Session

abbrev Post (α : Type) := Except Exc α → Conn → List Effect → Prop

def Holds {α} (x : M α) (c : Conn) (Q : Post α) : Prop := Q (x c).res (x c).conn (x c).eff

theorem Holds.mono {α} {x : M α} {c : Conn} {Q Q' : Post α}
    (h : Holds x c Q) (hq : ∀ r c' e, Q r c' e → Q' r c' e) : Holds x c Q' := hq _ _ _ h

theorem Holds.and {α} {x : M α} {c : Conn} {Q Q' : Post α}
    (h : Holds x c Q) (h' : Holds x c Q') : Holds x c (fun r c' e => Q r c' e ∧ Q' r c' e) := ⟨h, h'⟩

section wp
variable {α β : Type}

@[simp] theorem holds_pure (a : α) (c : Conn) (Q : Post α) :
    Holds (pure a : M α) c Q ↔ Q (.ok a) c [] := Iff.rfl

@[simp] theorem holds_bind (x : M α) (f : α → M β) (c : Conn) (Q : Post β) :
    Holds (x >>= f) c Q ↔
      Holds x c (fun r c1 e1 =>
        match r with
        | .ok a => Holds (f a) c1 (fun r2 c2 e2 => Q r2 c2 (e1 ++ e2))
        | .error ex => Q (.error ex) c1 e1) := by
  unfold Holds
  rw [M.bind_apply]
  rcases x c with ⟨r, c1, e1⟩
  cases r <;> rfl

@[simp] theorem holds_throw (ex : Exc) (c : Conn) (Q : Post α) :
    Holds (M.throw ex : M α) c Q ↔ Q (.error ex) c [] := Iff.rfl

@[simp] theorem holds_tryCatch (x : M α) (h : Exc → M α) (c : Conn) (Q : Post α) :
    Holds (M.tryCatch x h) c Q ↔
      Holds x c (fun r c1 e1 =>
        match r with
        | .ok a => Q (.ok a) c1 e1
        | .error ex => Holds (h ex) c1 (fun r2 c2 e2 => Q r2 c2 (e1 ++ e2))) := by
  unfold Holds
  rw [M.tryCatch_apply]
  rcases x c with ⟨r, c1, e1⟩
  cases r <;> rfl

@[simp] theorem holds_get (c : Conn) (Q : Post Conn) : Holds M.get c Q ↔ Q (.ok c) c [] := Iff.rfl

@[simp] theorem holds_modify (f : Conn → Conn) (c : Conn) (Q : Post Unit) :
    Holds (M.modify f) c Q ↔ Q (.ok ()) (f c) [] := Iff.rfl

@[simp] theorem holds_emit (e : Effect) (c : Conn) (Q : Post Unit) :
    Holds (M.emit e) c Q ↔ Q (.ok ()) c [e] := Iff.rfl

@[simp] theorem holds_liftE (x : Except Exc α) (c : Conn) (Q : Post α) :
    Holds (M.liftE x) c Q ↔ Q x c [] := Iff.rfl

@[simp] theorem holds_ite (p : Prop) [Decidable p] (x y : M α) (c : Conn) (Q : Post α) :
    Holds (if p then x else y) c Q ↔ (p → Holds x c Q) ∧ (¬p → Holds y c Q) := by
  by_cases hp : p <;> simp [hp]

@[simp] theorem holds_assert (b : Bool) (c : Conn) (Q : Post Unit) :
    Holds (M.assert b) c Q ↔ (b = true → Q (.ok ()) c []) ∧ (b = false → Q (.error .assertion) c []) := by
  cases b <;> simp [Holds, M.assert_apply]

@[simp] theorem holds_int (s : String) (c : Conn) (Q : Post Int) :
    Holds (M.int s) c Q ↔
      (∀ n, pyInt s = some n → Q (.ok n) c []) ∧ (pyInt s = none → Q (.error .value) c []) := by
  unfold Holds
  rw [M.int_apply]
  cases pyInt s <;> simp

@[simp] theorem holds_getTag (m : Msg) (t : Nat) (c : Conn) (Q : Post String) :
    Holds (M.liftE (m.get t)) c Q ↔
      (∀ v, m.get? t = some v → Q (.ok v) c []) ∧ (m.get? t = none → Q (.error .tagNotFound) c []) := by
  unfold Msg.get
  cases h : m.get? t <;> simp [Holds]

end wp

macro "wp_simp" : tactic =>
  `(tactic| simp only [holds_bind, holds_assert, holds_get, holds_getTag, holds_ite, holds_int, holds_pure,
      holds_modify, holds_emit, holds_throw, holds_tryCatch, List.append_nil, List.nil_append])

theorem Holds.any {α} {x : M α} {c : Conn} {Q : Post α} (hq : ∀ r c' e, Q r c' e) : Holds x c Q := hq _ _ _

/-- use a specification of a call; the result is split so that the continuation reduces -/
theorem Holds.of_spec {α} {x : M α} {c : Conn} {S Q : Post α} (h : Holds x c S)
    (hok : ∀ a c' e, S (.ok a) c' e → Q (.ok a) c' e)
    (herr : ∀ ex c' e, S (.error ex) c' e → Q (.error ex) c' e) : Holds x c Q := by
  unfold Holds at *
  cases hr : (x c).res with
  | ok a => rw [hr] at h; exact hok _ _ _ h
  | error ex => rw [hr] at h; exact herr _ _ _ h

theorem Holds.of_eq {α} {x y : M α} {c : Conn} {Q : Post α} (h : x c = y c) (hy : Holds y c Q) : Holds x c Q := by
  unfold Holds at *
  rw [h]
  exact hy

theorem Holds.elim {α} {x : M α} {c : Conn} {Q : Post α} (h : Holds x c Q) :
    Q (x c).res (x c).conn (x c).eff := h

theorem Holds.intro {α} {x : M α} {c : Conn} {Q : Post α} (h : Q (x c).res (x c).conn (x c).eff) :
    Holds x c Q := h

structure StepRel where
  R : Conn → Conn → List Effect → Prop
  refl : ∀ c, R c c []
  trans : ∀ {a b c e1 e2}, R a b e1 → R b c e2 → R a c (e1 ++ e2)

instance (S : StepRel) : Compositional S.R := ⟨S.refl, S.trans⟩

/-- `M.Rel S.R x` for a bundled relation -/
structure Sat {α} (S : StepRel) (x : M α) : Prop where
  out : ∀ c, S.R c (x c).conn (x c).eff

namespace Sat
variable {α : Type} {S : StepRel}

theorem rel {x : M α} (h : Sat S x) : M.Rel S.R x := ⟨h.out⟩
theorem of_rel {x : M α} (h : M.Rel S.R x) : Sat S x := ⟨h.out⟩

theorem assert (b : Bool) : Sat S (M.assert b) := of_rel (.assert b)

end Sat

/-- a relation proved of the whole computation, used at one start -/
theorem M.Rel.holds {α} {R : Conn → Conn → List Effect → Prop} {x : M α} (h : M.Rel R x) (c : Conn) :
    Holds x c (fun _ c' e => R c c' e) := h.out c

theorem Holds.of_rel {α} {R : Conn → Conn → List Effect → Prop} {x : M α} {c : Conn} {Q : Post α} (h : M.Rel R x)
    (hq : ∀ r c' e, R c c' e → Q r c' e) : Holds x c Q := hq _ _ _ (h.out c)

/-- the result is split so that the continuation reduces -/
theorem Holds.of_rel' {α} {R : Conn → Conn → List Effect → Prop} {x : M α} {c : Conn} {Q : Post α} (h : M.Rel R x)
    (hok : ∀ a c' e, R c c' e → Q (.ok a) c' e)
    (herr : ∀ ex c' e, R c c' e → Q (.error ex) c' e) : Holds x c Q :=
  Holds.of_spec (h.holds c) hok herr


open AsyncFix.Generated AsyncFix.Generated.ConnEnum

/-- the messages handed to `on_message`, in order -/
def deliveries : List Effect → List Msg
  | [] => []
  | .deliver m :: r => m :: deliveries r
  | _ :: r => deliveries r

@[simp] theorem deliveries_nil : deliveries [] = [] := rfl

@[simp] theorem deliveries_append (a b : List Effect) : deliveries (a ++ b) = deliveries a ++ deliveries b := by
  induction a with
  | nil => rfl
  | cons x r ih => cases x <;> simp [deliveries, ih]

theorem mem_deliveries {m : Msg} {e : List Effect} : m ∈ deliveries e ↔ Effect.deliver m ∈ e := by
  induction e with
  | nil => simp
  | cons x r ih => cases x <;> simp [deliveries, ih]

/-- expected inbound number unchanged, nothing delivered -/
def Quiet : StepRel where
  R c c' e := c'.sess.nextIn = c.sess.nextIn ∧ deliveries e = []
  refl c := ⟨rfl, rfl⟩
  trans := by
    intro a b c e1 e2 h1 h2
    exact ⟨h2.1.trans h1.1, by simp [h1.2, h2.2]⟩

/-- every kind but those that move the expected inbound number or deliver -/
def quietK : Foot
  | .inn | .deliver => false
  | _ => true

theorem quiet_adm : ∀ k, quietK k = true → ∀ c c' e, k.sem c c' e → Quiet.R c c' e := by
  intro k hk c c' e h
  cases k with
  | st s => rw [h.1, h.2]; exact ⟨rfl, rfl⟩
  | roleI | roleA | out | jout | jin | setSeq | wd | up | fail => rw [h.1]; exact ⟨by rw [h.2], rfl⟩
  | write => obtain ⟨rfl, f, _, rfl⟩ := h; exact ⟨rfl, rfl⟩
  | caught | logon | logout | raised => obtain ⟨rfl, x, rfl⟩ := h; exact ⟨rfl, rfl⟩
  | close | onConn => rw [h.1, h.2]; exact ⟨rfl, rfl⟩
  | drop => obtain ⟨_, d, _, rfl, rfl⟩ := h; exact ⟨rfl, by cases hs : c.sock <;> simp [discTail, hs, deliveries]⟩
  | _ => cases hk

theorem M.Rel.quiet {α} {A : Foot} {x : M α} (h : M.Rel (Fp A) x) (hA : A.sub quietK = true) : M.Rel Quiet.R x :=
  Fp.to quiet_adm h hA

theorem validateIntegrity_quiet (m : Msg) : Sat Quiet (validateIntegrity m) := .of_rel ((validateIntegrity_fp m).quiet rfl)

end AsyncFix.Session
