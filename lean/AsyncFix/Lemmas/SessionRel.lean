import AsyncFix.Model.Session

/-!
Session family, proof infrastructure (reusable by every property proved over the session model).

1. evaluation lemmas for the monad `M` (`M.bind_apply`, …): `simp` with them runs a handler on a
   connection whose relevant fields are known; `M.bind_ok` / `M.bind_err` / `M.bind_pre` step through a handler
   from the front when the outcome of the first statement is a hypothesis (`Out.pre`: an outcome with effects in
   front of it); `M.run_eq` for the entry points;
2. trace functions on effect lists: `track` (the state the `on_state_change` calls leave behind),
   `nDisc`, `nTrans`;
3. *compositional relations* `R : Conn → Conn → List Effect → Prop` (reflexive, and closed under
   sequencing with `++` on the effects) and the rules that lift `M.Rel R` through `bind`, `if`,
   `tryCatch`, …  A walk with these rules is `unfold h; rel_tac [callee lemmas]`; the footprint of every handler
   (`SessionFoot`) is proved so, and the unconditional trace invariants follow from the footprints;
4. histories: `run` over `[]`, `::`, `++`, and the induction over a history (`run_induct`).

Three ways to reason about a handler.  ONE path, the callees' outcomes known: rewrite with its equations
(`SessionHandlers`; step with `M.bind_ok / bind_err / bind_pre h`; a field of a message enters as `m.get? t = some v`
through `get_of_get?` / `has_of_get?`).  ALL outcomes, from any start: a relation `M.Rel R h`, by a walk (`rel_tac`) or,
when `R` only asks which kinds of step occur, read off the footprint (`SessionFoot`; ready-made relations in
`SessionPlain`).  A postcondition at ONE start that depends on that start or on the message: `Holds` (`SessionInWp`).
Not here: data facts (`pyInt`, tag maps, rows, `buildFrame`) are in `SessionData`; `LawfulMonad M` is in `SessionLaws`,
apart on purpose; the `…_bind_apply` equations are a simp set that the restart family switches on (`attribute [simp]`
in `RestartMonad`).
-/
namespace AsyncFix.Session

open AsyncFix.Generated.ConnEnum

section eval
variable {α β : Type}

theorem M.bind_apply (x : M α) (f : α → M β) (c : Conn) :
    (x >>= f) c = (match x c with
      | ⟨.ok a, c1, e1⟩ => (match f a c1 with | ⟨r, c2, e2⟩ => ⟨r, c2, e1 ++ e2⟩)
      | ⟨.error ex, c1, e1⟩ => ⟨.error ex, c1, e1⟩) := rfl

@[simp] theorem M.pure_apply (a : α) (c : Conn) : (pure a : M α) c = ⟨.ok a, c, []⟩ := rfl
@[simp] theorem M.throw_apply (ex : Exc) (c : Conn) : (M.throw ex : M α) c = ⟨.error ex, c, []⟩ := rfl
@[simp] theorem M.get_apply (c : Conn) : M.get c = ⟨.ok c, c, []⟩ := rfl
@[simp] theorem M.modify_apply (f : Conn → Conn) (c : Conn) : M.modify f c = ⟨.ok (), f c, []⟩ := rfl
@[simp] theorem M.emit_apply (e : Effect) (c : Conn) : M.emit e c = ⟨.ok (), c, [e]⟩ := rfl
@[simp] theorem M.liftE_apply (x : Except Exc α) (c : Conn) : M.liftE x c = ⟨x, c, []⟩ := rfl

theorem M.tryCatch_apply (x : M α) (h : Exc → M α) (c : Conn) :
    M.tryCatch x h c = (match x c with
      | ⟨.ok a, c1, e1⟩ => ⟨.ok a, c1, e1⟩
      | ⟨.error ex, c1, e1⟩ => (match h ex c1 with | ⟨r, c2, e2⟩ => ⟨r, c2, e1 ++ e2⟩)) := rfl

theorem M.assert_apply (b : Bool) (c : Conn) :
    M.assert b c = if b then ⟨.ok (), c, []⟩ else ⟨.error .assertion, c, []⟩ := by
  cases b <;> rfl

theorem M.int_apply (s : String) (c : Conn) :
    M.int s c = (match pyInt s with | some n => ⟨.ok n, c, []⟩ | none => ⟨.error .value, c, []⟩) := by
  unfold M.int; cases pyInt s <;> rfl

theorem M.bind_ok {x : M α} {f : α → M β} {c c1 : Conn} {a : α} {e1 : List Effect}
    (h : x c = ⟨.ok a, c1, e1⟩) :
    (x >>= f) c = ⟨(f a c1).res, (f a c1).conn, e1 ++ (f a c1).eff⟩ := by
  rw [M.bind_apply, h]

theorem M.bind_err {x : M α} {f : α → M β} {c c1 : Conn} {ex : Exc} {e1 : List Effect}
    (h : x c = ⟨.error ex, c1, e1⟩) : (x >>= f) c = ⟨.error ex, c1, e1⟩ := by
  rw [M.bind_apply, h]

theorem M.bind_step {x : M α} {f : α → M β} {c c1 : Conn} {a : α} (h : x c = ⟨.ok a, c1, []⟩) :
    (x >>= f) c = f a c1 := by
  rw [M.bind_ok h]; rfl

theorem M.bind_ok2 {x : M α} {f : α → M β} {c c1 c2 : Conn} {a : α}
    {e1 e2 : List Effect} {r : Except Exc β}
    (h1 : x c = ⟨.ok a, c1, e1⟩) (h2 : f a c1 = ⟨r, c2, e2⟩) : (x >>= f) c = ⟨r, c2, e1 ++ e2⟩ := by
  rw [M.bind_ok h1, h2]

theorem M.bind_pure_out (x : M α) (b : β) (c : Conn) :
    ((x >>= fun _ => (pure b : M β)) c).conn = (x c).conn ∧ ((x >>= fun _ => (pure b : M β)) c).eff = (x c).eff := by
  rw [M.bind_apply]
  rcases x c with ⟨r, c1, e1⟩
  cases r <;> simp

theorem M.tryCatch_ok {x : M α} {h : Exc → M α} {c c1 : Conn} {a : α} {e1 : List Effect}
    (hx : x c = ⟨.ok a, c1, e1⟩) : M.tryCatch x h c = ⟨.ok a, c1, e1⟩ := by
  rw [M.tryCatch_apply, hx]

theorem M.tryCatch_err {x : M α} {h : Exc → M α} {c c1 : Conn} {ex : Exc} {e1 : List Effect}
    (hx : x c = ⟨.error ex, c1, e1⟩) :
    M.tryCatch x h c = ⟨(h ex c1).res, (h ex c1).conn, e1 ++ (h ex c1).eff⟩ := by
  rw [M.tryCatch_apply, hx]

theorem M.ite_apply (p : Prop) [Decidable p] (a b : M α) (c : Conn) :
    (if p then a else b) c = if p then a c else b c := by
  split <;> rfl

/-- `if p: x` followed by `F`, as the `do` notation lays it out -/
theorem M.ite_seq (p : Prop) [Decidable p] (x : M Unit) (F : M β) :
    (if p then (x >>= fun _ => F) else F) = ((if p then x else pure ()) >>= fun _ => F) := by
  split <;> rfl

theorem M.get_bind_apply (f : Conn → M β) (c : Conn) : (M.get >>= f) c = f c c := rfl

theorem M.modify_bind_apply (g : Conn → Conn) (f : Unit → M β) (c : Conn) :
    (M.modify g >>= f) c = f () (g c) := rfl

theorem M.throw_bind_apply (ex : Exc) (f : α → M β) (c : Conn) :
    ((M.throw ex : M α) >>= f) c = ⟨.error ex, c, []⟩ := by
  rw [M.bind_err (M.throw_apply ex c)]

theorem M.emit_bind_apply (e : Effect) (f : Unit → M β) (c : Conn) :
    (M.emit e >>= f) c = ⟨(f () c).res, (f () c).conn, e :: (f () c).eff⟩ := by
  rw [M.bind_ok (M.emit_apply e c)]; simp

theorem M.liftE_ok_bind_apply (a : α) (f : α → M β) (c : Conn) :
    ((M.liftE (.ok a) : M α) >>= f) c = f a c := by
  rw [M.bind_ok (M.liftE_apply (.ok a) c)]; simp

theorem M.liftE_error_bind_apply (ex : Exc) (f : α → M β) (c : Conn) :
    ((M.liftE (.error ex) : M α) >>= f) c = ⟨.error ex, c, []⟩ := by
  rw [M.bind_err (M.liftE_apply (.error ex) c)]

/-! `assert` and `int` whose outcome is known, each in the three shapes the proofs step with: the computation itself,
its value on a connection, and followed by a continuation; each shape from the one before -/

theorem M.assert_true_apply (c : Conn) : M.assert true c = ⟨.ok (), c, []⟩ := rfl
theorem M.assert_false_apply (c : Conn) : M.assert false c = ⟨.error .assertion, c, []⟩ := rfl

theorem M.assert_of {p : Prop} [Decidable p] (h : p) (c : Conn) : M.assert (decide p) c = ⟨.ok (), c, []⟩ := by
  rw [decide_eq_true h]; exact M.assert_true_apply c

theorem M.assert_true_bind_apply (f : Unit → M β) (c : Conn) : (M.assert true >>= f) c = f () c := by
  rw [M.bind_ok (M.assert_true_apply c)]; simp

theorem M.assert_false_bind_apply (f : Unit → M β) (c : Conn) :
    (M.assert false >>= f) c = ⟨.error .assertion, c, []⟩ := by
  rw [M.bind_err (M.assert_false_apply c)]

theorem M.int_of {v : String} {n : Int} (h : pyInt v = some n) : M.int v = pure n := by
  simp [M.int, h]

theorem M.int_apply_of {s : String} {n : Int} (h : pyInt s = some n) (c : Conn) : M.int s c = ⟨.ok n, c, []⟩ := by
  rw [M.int_of h]; rfl

theorem M.int_some_bind_apply {s : String} {n : Int} (h : pyInt s = some n) (f : Int → M β) (c : Conn) :
    (M.int s >>= f) c = f n c := by
  rw [M.bind_ok (M.int_apply_of h c)]; simp

theorem M.int_none_bind_apply {s : String} (h : pyInt s = none) (f : Int → M β) (c : Conn) :
    (M.int s >>= f) c = ⟨.error .value, c, []⟩ := by
  rw [M.bind_err (by rw [M.int_apply, h])]

theorem M.bind_def {α β} (x : M α) (f : α → M β) : (x >>= f) = M.bind' x f := rfl
theorem M.pure_def {α} (a : α) : (pure a : M α) = M.pure' a := rfl

theorem M.ite_bind (b : Prop) [Decidable b] (x y : M α) (f : α → M β) :
    ((if b then x else y) >>= f) = if b then x >>= f else y >>= f := by
  split <;> rfl

theorem M.throw_bind (ex : Exc) (f : α → M β) : ((M.throw ex : M α) >>= f) = M.throw ex :=
  funext fun c => M.throw_bind_apply ex f c

theorem M.bind_ok_inv {x : M α} {f : α → M β} {c c1 c2 : Conn} {a : α} {e1 e : List Effect}
    {r : Except Exc β} (hx : x c = ⟨.ok a, c1, e1⟩) (h : (x >>= f) c = ⟨r, c2, e⟩) :
    ∃ e2, f a c1 = ⟨r, c2, e2⟩ ∧ e = e1 ++ e2 := by
  rw [M.bind_ok hx] at h
  rcases hf : f a c1 with ⟨r', c', e'⟩
  rw [hf] at h
  simp only [Out.mk.injEq] at h
  obtain ⟨h1, h2, h3⟩ := h
  subst h1 h2 h3
  exact ⟨e', rfl, rfl⟩

theorem M.run_ok {x : M α} {c c1 : Conn} {a : α} {e1 : List Effect} (h : x c = ⟨.ok a, c1, e1⟩) :
    x.run c = (c1, e1) := by
  rw [M.run, h]

theorem M.run_err {x : M α} {c c1 : Conn} {ex : Exc} {e1 : List Effect} (h : x c = ⟨.error ex, c1, e1⟩) :
    x.run c = (c1, e1 ++ [.raised ex]) := by
  rw [M.run, h]

/-- the exception an entry point lets escape, as effect list -/
def raisedOf : Except Exc α → List Effect
  | .ok _ => []
  | .error ex => [.raised ex]

theorem M.run_eq (x : M α) (c : Conn) : x.run c = ((x c).conn, (x c).eff ++ raisedOf (x c).res) := by
  unfold M.run
  rcases x c with ⟨r, c1, e1⟩
  cases r <;> simp [raisedOf]

theorem M.run_conn (x : M α) (c : Conn) : (x.run c).1 = (x c).conn := by rw [M.run_eq]

theorem M.mem_run_of_mem (x : M α) (c : Conn) {e : Effect} (h : e ∈ (x c).eff) : e ∈ (x.run c).2 := by
  rw [M.run_eq]; exact List.mem_append_left _ h

theorem M.write_mem_of_run (x : M α) (c : Conn) {f : Msg} (h : Effect.write f ∈ (x.run c).2) :
    Effect.write f ∈ (x c).eff := by
  rw [M.run_eq] at h
  rcases List.mem_append.mp h with h | h
  · exact h
  · cases hr : (x c).res <;> simp [hr, raisedOf] at h

end eval

section
variable {α : Type}

/-- `es` happened before the outcome `o` -/
def Out.pre (es : List Effect) (o : Out α) : Out α := ⟨o.res, o.conn, es ++ o.eff⟩

@[simp] theorem Out.pre_mk (es e : List Effect) (r : Except Exc α) (c : Conn) :
    Out.pre es ⟨r, c, e⟩ = ⟨r, c, es ++ e⟩ := rfl

@[simp] theorem Out.pre_res (es : List Effect) (o : Out α) : (Out.pre es o).res = o.res := rfl
@[simp] theorem Out.pre_conn (es : List Effect) (o : Out α) : (Out.pre es o).conn = o.conn := rfl
@[simp] theorem Out.pre_eff (es : List Effect) (o : Out α) : (Out.pre es o).eff = es ++ o.eff := rfl

theorem Out.pre_nil (o : Out α) : Out.pre [] o = o := rfl

theorem Out.pre_pre (a b : List Effect) (o : Out α) : Out.pre a (Out.pre b o) = Out.pre (a ++ b) o := by
  simp [Out.pre, List.append_assoc]

end

/-- `M.bind_ok` with the continuation in one piece: a handler can be evaluated from the front, one step at a time,
without the term growing -/
theorem M.bind_pre {α β : Type} {x : M α} {f : α → M β} {c c1 : Conn} {a : α} {e1 : List Effect}
    (h : x c = ⟨.ok a, c1, e1⟩) : (x >>= f) c = Out.pre e1 (f a c1) := M.bind_ok h

theorem M.pure_bind_apply {α β : Type} (a : α) (f : α → M β) (c : Conn) : ((pure a : M α) >>= f) c = f a c :=
  M.bind_pre (x := (pure a : M α)) (e1 := []) rfl

theorem get_of_get? {m : Msg} {t : Nat} {v : String} (h : m.get? t = some v) : m.get t = .ok v := by
  simp [Msg.get, h]

theorem has_of_get? {m : Msg} {t : Nat} {v : String} (h : m.get? t = some v) : m.has t = true := by
  simp [Msg.has, h]

/-- the connection state after the `on_state_change` calls of a trace, starting from `s` -/
def track (s : Nat) : List Effect → Nat
  | [] => s
  | .onState s' :: r => track s' r
  | _ :: r => track s r

/-- number of `on_disconnect` calls -/
def nDisc : List Effect → Nat
  | [] => 0
  | .onDisconnect :: r => nDisc r + 1
  | _ :: r => nDisc r

/-- disconnected states, exactly as the code tests them (`<= DISCONNECTED_BROKEN_CONN`) -/
def isDisc (s : Nat) : Bool := decide (s ≤ st_DISCONNECTED_BROKEN_CONN)

theorem isDisc_le {s : Nat} (h : isDisc s = true) : s ≤ st_DISCONNECTED_BROKEN_CONN := by
  simpa [isDisc] using h

theorem isDisc_lt {s : Nat} (h : isDisc s = false) : st_DISCONNECTED_BROKEN_CONN < s := by
  simpa [isDisc] using h

/-- number of transitions from a connected into a disconnected state reported by `on_state_change`,
starting from state `s` -/
def nTrans (s : Nat) : List Effect → Nat
  | [] => 0
  | .onState s' :: r => (if !isDisc s && isDisc s' then 1 else 0) + nTrans s' r
  | _ :: r => nTrans s r

theorem track_append (s : Nat) (a b : List Effect) : track s (a ++ b) = track (track s a) b := by
  induction a generalizing s with
  | nil => rfl
  | cons x xs ih => cases x <;> simp [track, ih]

theorem nDisc_append (a b : List Effect) : nDisc (a ++ b) = nDisc a + nDisc b := by
  induction a with
  | nil => simp [nDisc]
  | cons x xs ih => cases x <;> simp [nDisc, ih] <;> omega

theorem nTrans_append (s : Nat) (a b : List Effect) :
    nTrans s (a ++ b) = nTrans s a + nTrans (track s a) b := by
  induction a generalizing s with
  | nil => simp [nTrans, track]
  | cons x xs ih => cases x <;> simp [nTrans, track, ih] <;> omega

class Compositional (R : Conn → Conn → List Effect → Prop) : Prop where
  refl : ∀ c, R c c []
  trans : ∀ {c c1 c2 e1 e2}, R c c1 e1 → R c1 c2 e2 → R c c2 (e1 ++ e2)

/-- `x` relates every start connection to its outcome (whether it returns or raises).
(A structure, so that `intro` does not unfold it.) -/
structure M.Rel {α : Type} (R : Conn → Conn → List Effect → Prop) (x : M α) : Prop where
  out : ∀ c, R c (x c).conn (x c).eff

namespace M.Rel
variable {α β : Type} {R : Conn → Conn → List Effect → Prop} [Compositional R]

theorem pure (a : α) : M.Rel R (Pure.pure a : M α) := ⟨fun c => Compositional.refl c⟩
theorem throw (ex : Exc) : M.Rel R (M.throw ex : M α) := ⟨fun c => Compositional.refl c⟩
theorem get : M.Rel R M.get := ⟨fun c => Compositional.refl c⟩
theorem liftE (x : Except Exc α) : M.Rel R (M.liftE x) := ⟨fun c => Compositional.refl c⟩
theorem assert (b : Bool) : M.Rel R (M.assert b) := by
  constructor; intro c; rw [M.assert_apply]; split <;> exact Compositional.refl c
theorem int (s : String) : M.Rel R (M.int s) := by
  constructor; intro c; rw [M.int_apply]; split <;> exact Compositional.refl c

theorem bind {x : M α} {f : α → M β} (hx : M.Rel R x) (hf : ∀ a, M.Rel R (f a)) :
    M.Rel R (x >>= f) := by
  constructor
  intro c
  have h1 := hx.out c
  rcases hxc : x c with ⟨r, c1, e1⟩
  rw [hxc] at h1
  cases r with
  | error ex => rw [M.bind_err hxc]; exact h1
  | ok a => rw [M.bind_ok hxc]; exact Compositional.trans h1 ((hf a).out c1)

theorem tryCatch {x : M α} {h : Exc → M α} (hx : M.Rel R x) (hh : ∀ ex, M.Rel R (h ex)) :
    M.Rel R (M.tryCatch x h) := by
  constructor
  intro c
  have h1 := hx.out c
  rcases hxc : x c with ⟨r, c1, e1⟩
  rw [hxc] at h1
  cases r with
  | ok a => rw [M.tryCatch_ok hxc]; exact h1
  | error ex => rw [M.tryCatch_err hxc]; exact Compositional.trans h1 ((hh ex).out c1)

omit [Compositional R] in
theorem ite {p : Prop} [Decidable p] {a b : M α} (ha : M.Rel R a) (hb : M.Rel R b) :
    M.Rel R (if p then a else b) := by
  split <;> assumption

omit [Compositional R] in
theorem ite' {p : Prop} [Decidable p] {a b : M α} (ha : p → M.Rel R a) (hb : ¬ p → M.Rel R b) :
    M.Rel R (if p then a else b) := by
  split
  · exact ha ‹_›
  · exact hb ‹_›

omit [Compositional R] in
theorem modify {f : Conn → Conn} (h : ∀ c, R c (f c) []) : M.Rel R (M.modify f) := ⟨h⟩
omit [Compositional R] in
theorem emit {e : Effect} (h : ∀ c, R c c [e]) : M.Rel R (M.emit e) := ⟨h⟩

end M.Rel

/-- after a `get` the rest may be taken pointwise, from the connection read -/
theorem M.Rel.get_bind {β : Type} {R : Conn → Conn → List Effect → Prop} {f : Conn → M β}
    (h : ∀ c, R c (f c c).conn (f c c).eff) : M.Rel R (M.get >>= f) := ⟨h⟩

theorem M.Rel.mono {α : Type} {R S : Conn → Conn → List Effect → Prop} {x : M α}
    (h : ∀ c c' e, R c c' e → S c c' e) (hx : M.Rel R x) : M.Rel S x := ⟨fun c => h _ _ _ (hx.out c)⟩

set_option hygiene false in
/-- The walk over a handler body, for a logic given by its rules `rs` (for `>>=`, `if`, `try`, the primitives).  Every
rule is tried up to reducible unfolding only, so a rule applies exactly where the program has its head symbol: the body
is covered by the rules and the callee lemmas `ls`, and a `match` is split.  Only a callee for which no lemma was given
is opened, by the rules `os` tried at default transparency.  Side goals of the lemmas close by `rfl` / `contradiction`.
(Hygiene is off because hygienic names in so long a quotation make every call markedly dearer to elaborate.) -/
macro "walk_tac" "[" ls:term,* "]" " with " rs:ident* " opening " os:ident* : tactic =>
  `(tactic| repeat' (first
    | intro _ | exact rfl
    | with_reducible first $[| apply $rs]* $[| apply $ls]*
    | split
    $[| apply $os]*
    | exact ⟨rfl, rfl, rfl⟩ | contradiction))

set_option hygiene false in
macro "rel_tac" "[" ls:term,* "]" : tactic =>
  `(tactic| walk_tac [$ls,*]
      with AsyncFix.Session.M.Rel.bind AsyncFix.Session.M.Rel.ite AsyncFix.Session.M.Rel.tryCatch
        AsyncFix.Session.M.Rel.pure AsyncFix.Session.M.Rel.throw AsyncFix.Session.M.Rel.get
        AsyncFix.Session.M.Rel.liftE AsyncFix.Session.M.Rel.assert AsyncFix.Session.M.Rel.int
      opening AsyncFix.Session.M.Rel.bind AsyncFix.Session.M.Rel.ite AsyncFix.Session.M.Rel.tryCatch)

theorem M.Rel.liftE_bind {α β : Type} {R : Conn → Conn → List Effect → Prop} [Compositional R]
    {x : Except Exc α} {f : α → M β} (h : ∀ a, x = .ok a → M.Rel R (f a)) : M.Rel R (M.liftE x >>= f) := by
  constructor
  intro c
  cases x with
  | error ex => rw [M.liftE_error_bind_apply]; exact Compositional.refl c
  | ok a => rw [M.liftE_ok_bind_apply]; exact (h a rfl).out c

theorem swallow_rel {α : Type} {R : Conn → Conn → List Effect → Prop} [Compositional R] {x : M α} {d : α}
    (hx : M.Rel R x) (hc : ∀ ex, M.Rel R (M.emit (.caught ex))) : M.Rel R (swallow d x) := by
  unfold swallow
  apply M.Rel.tryCatch hx
  intro ex
  exact M.Rel.bind (hc ex) (fun _ => M.Rel.pure _)

theorem run_nil (sr : Msg → Bool) (c : Conn) : run sr c [] = (c, []) := rfl

theorem run_cons (sr : Msg → Bool) (c : Conn) (ev : Event) (rest : List Event) :
    run sr c (ev :: rest) =
      ((run sr (step sr c ev).1 rest).1, (step sr c ev).2 ++ (run sr (step sr c ev).1 rest).2) := rfl

theorem run_append (sr : Msg → Bool) (c : Conn) (a b : List Event) :
    run sr c (a ++ b) =
      ((run sr (run sr c a).1 b).1, (run sr c a).2 ++ (run sr (run sr c a).1 b).2) := by
  induction a generalizing c with
  | nil => simp [run]
  | cons ev r ih => simp [run, ih, List.append_assoc]

/-- The induction over a history, once: an invariant `I` of the connection and what remains of the history
that every step preserves, with effects in a class `Q` closed under concatenation, holds at the end, and the
effects of the whole run are in `Q`.  The histories are lists over any event type `ε` read as model events
through `toEv`. -/
theorem run_induct {ε : Type} (toEv : ε → Event) (sr : Msg → Bool) (I : Conn → List ε → Prop)
    (Q : List Effect → Prop) (hnil : Q []) (happ : ∀ {a b}, Q a → Q b → Q (a ++ b))
    (hstep : ∀ c ev rest, I c (ev :: rest) → I (step sr c (toEv ev)).1 rest ∧ Q (step sr c (toEv ev)).2)
    (evs : List ε) (c : Conn) (hi : I c evs) :
    I (run sr c (evs.map toEv)).1 [] ∧ Q (run sr c (evs.map toEv)).2 := by
  induction evs generalizing c with
  | nil => exact ⟨hi, hnil⟩
  | cons ev rest ih =>
    obtain ⟨h1, h2⟩ := hstep c ev rest hi
    exact ⟨(ih _ h1).1, happ h2 (ih _ h1).2⟩

end AsyncFix.Session
