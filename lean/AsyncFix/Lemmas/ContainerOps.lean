/-
Operation-level lemmas: what a successful mutator call returned, the shape of one `step` (`step_shape`), what a
step preserves because of that shape and a `run` therefore (`run_preserves`), and the refinement of `Op.apply` to
the reference map.
-/
import AsyncFix.Lemmas.ContainerDict
namespace AsyncFix.Model.Container
open AsyncFix.Py

/-- the dict key an operation writes (or deletes) -/
def Op.key : Op → Option Str
  | .set t _ _ => some t.pyStr
  | .del t => some t.pyStr
  | .addGroup t _ _ => some t.pyStr
  | .setGroup t _ => some t.pyStr
  | .pickle => none

theorem set_ok (c c' : Cont) (t : PyObj) (v : PyVal) (r : Bool) (h : set c t v r = .ok c') :
    intLike t.pyStr = true ∧
      c' = dictSet t.pyStr (match v with | .cls k => .cls k | .obj o => .str o.pyStr) c := by
  simp only [set] at h
  split at h
  · cases h
  · next hi =>
    refine ⟨by simpa using hi, ?_⟩
    cases v with
    | cls k => exact (Except.ok.inj h).symm
    | obj o =>
      simp only at h
      split at h
      · cases h
      · exact (Except.ok.inj h).symm

theorem lookup_after_set (c c' : Cont) (t o : PyObj) (r : Bool) (h : set c t (.obj o) r = .ok c') :
    lookup t.pyStr c' = some (.str o.pyStr) := by
  rw [(set_ok c c' t _ r h).2, lookup_dictSet, if_pos rfl]

theorem addGroup_ok (c c' : Cont) (t : PyObj) (g : DItem) (i : Int) (h : addGroup c t g i = .ok c') :
    ∃ old gc, intLike t.pyStr = true ∧ g.toCont = .ok gc ∧
      ((lookup t.pyStr c = some (.group old)) ∨ (lookup t.pyStr c = none ∧ old = [])) ∧
      c' = dictSet t.pyStr (.group (groupAdd old gc i)) c := by
  simp only [addGroup] at h
  split at h
  · cases h
  · next hi =>
    have hi' : intLike t.pyStr = true := by simpa using hi
    split at h
    · cases h
    · next gc hg =>
      split at h
      · next items hl => exact ⟨items, gc, hi', hg, Or.inl hl, (Except.ok.inj h).symm⟩
      · cases h
      · next hl => exact ⟨[], gc, hi', hg, Or.inr ⟨hl, rfl⟩, (Except.ok.inj h).symm⟩

theorem setGroup_ok (c c' : Cont) (t : PyObj) (gs : List DItem) (h : setGroup c t gs = .ok c') :
    ∃ items, intLike t.pyStr = true ∧ buildItems gs = .ok items ∧ hasKey t.pyStr c = false ∧
      c' = dictSet t.pyStr (.group items) c := by
  simp only [setGroup] at h
  split at h
  · cases h
  · next hi =>
    split at h
    · cases h
    · next hk =>
      split at h
      · cases h
      · next items hb => exact ⟨items, by simpa using hi, hb, by simpa using hk, (Except.ok.inj h).symm⟩

theorem step_shape (c : Cont) (op : Op) :
    (step c op).1 = c ∨ (∃ k v, op.key = some k ∧ intLike k = true ∧ (step c op).1 = dictSet k v c) ∨
      (∃ t, op = .del t ∧ (step c op).1 = dictDel t.pyStr c) := by
  unfold step
  cases h : op.apply c with
  | error e => exact Or.inl rfl
  | ok c' =>
    cases op with
    | set t v r =>
      obtain ⟨hi, e⟩ := set_ok c c' t v r h
      exact Or.inr (Or.inl ⟨_, _, rfl, hi, e⟩)
    | del t =>
      simp only [Op.apply, delItem] at h
      split at h
      · exact Or.inr (Or.inr ⟨t, rfl, (Except.ok.inj h).symm⟩)
      · cases h
    | addGroup t g i =>
      obtain ⟨_, _, hi, _, _, e⟩ := addGroup_ok c c' t g i h
      exact Or.inr (Or.inl ⟨_, _, rfl, hi, e⟩)
    | setGroup t gs =>
      obtain ⟨_, hi, _, _, e⟩ := setGroup_ok c c' t gs h
      exact Or.inr (Or.inl ⟨_, _, rfl, hi, e⟩)
    | pickle => exact Or.inl (Except.ok.inj h).symm

theorem run_preserves (P : Cont → Prop) (hstep : ∀ c op, P c → P (step c op).1) (c : Cont) (ops : List Op)
    (h : P c) : P (run c ops) := by
  induction ops generalizing c with
  | nil => exact h
  | cons op ops ih => exact ih _ (hstep c op h)

theorem step_nodup (c : Cont) (op : Op) (h : (keys c).Nodup) : (keys (step c op).1).Nodup := by
  rcases step_shape c op with e | ⟨k, v, _, _, e⟩ | ⟨t, _, e⟩ <;> rw [e]
  · exact h
  · exact nodup_dictSet k v c h
  · exact nodup_dictDel _ c h

theorem step_lookup_other (c : Cont) (op : Op) (k : Str) (hk : op.key ≠ some k) :
    lookup k (step c op).1 = lookup k c := by
  rcases step_shape c op with e | ⟨k', v, hk', _, e⟩ | ⟨t, ht, e⟩ <;> rw [e]
  · rw [lookup_dictSet, if_neg fun hh : k = k' => hk (hh ▸ hk')]
  · have hne : k ≠ t.pyStr := fun hh => hk (by rw [ht, hh]; rfl)
    rw [lookup_dictDel _ _ _ (absurd · hne), if_neg hne]

theorem run_lookup_other (c : Cont) (ops : List Op) (k : Str) (hk : ∀ op ∈ ops, op.key ≠ some k) :
    lookup k (run c ops) = lookup k c := by
  induction ops generalizing c with
  | nil => rfl
  | cons op ops ih =>
    rw [run, ih _ (fun o ho => hk o (by simp [ho])), step_lookup_other c op k (hk op (by simp))]

def TagsIntLike (c : Cont) : Prop := ∀ p ∈ c, intLike p.1 = true

theorem step_tagsIntLike (c : Cont) (op : Op) (h : TagsIntLike c) : TagsIntLike (step c op).1 := by
  rcases step_shape c op with e | ⟨k, v, _, hi, e⟩ | ⟨t, _, e⟩ <;> rw [e]
  · exact h
  · intro p hp
    rcases mem_dictSet k v c p hp with hp | rfl
    · exact h p hp
    · exact hi
  · exact fun p hp => h p ((dictDel_sublist _ c).subset hp)

/-- the operations stated on the reference map -/
def Spec.apply (m : OMap Val) : Op → Except Kind (OMap Val)
  | .set t v r =>
    if !intLike t.pyStr then .error .fixMessageError
    else match v with
      | .cls k => .ok (m.put t.pyStr (.cls k))
      | .obj o =>
        if !r && (m.val t.pyStr).isSome then .error .duplicated
        else .ok (m.put t.pyStr (.str o.pyStr))
  | .del t => if (m.val t.pyStr).isSome then .ok (m.remove t.pyStr) else .error .keyError
  | .addGroup t item i =>
    if !intLike t.pyStr then .error .fixMessageError
    else match item.toCont with
      | .error e => .error e
      | .ok g =>
        match m.val t.pyStr with
        | some (.group items) => .ok (m.put t.pyStr (.group (groupAdd items g i)))
        | some _ => .error .duplicated
        | none => .ok (m.put t.pyStr (.group (groupAdd [] g i)))
  | .setGroup t items =>
    if !intLike t.pyStr then .error .fixMessageError
    else if (m.val t.pyStr).isSome then .error .duplicated
    else match buildItems items with
      | .error e => .error e
      | .ok gs => .ok (m.put t.pyStr (.group gs))
  | .pickle => .ok m

def Spec.step (m : OMap Val) (op : Op) : OMap Val × Option Kind :=
  match Spec.apply m op with
  | .ok m' => (m', none)
  | .error k => (m, some k)

def Spec.run (m : OMap Val) : List Op → OMap Val
  | [] => m
  | op :: ops => Spec.run (Spec.step m op).1 ops

theorem absMap_val (c : Cont) (k : Str) : (absMap c).val k = lookup k c := rfl

/-- `Spec.apply` is `Op.apply` read through `absMap`: the tests are the same (`absMap_val`), and every
success is a `dictSet` / `dictDel`, which `absMap` turns into `put` / `remove` -/
theorem apply_refines (c : Cont) (op : Op) (hnd : (keys c).Nodup) :
    Spec.apply (absMap c) op = (op.apply c).map absMap := by
  cases op with
  | set t v r =>
    simp only [Op.apply, set, Spec.apply, absMap_val, hasKey]
    cases intLike t.pyStr with
    | false => rfl
    | true =>
      cases v with
      | cls k => simp [Except.map, absMap_dictSet]
      | obj o => by_cases h : (!r && (lookup t.pyStr c).isSome) = true <;> simp [h, Except.map, absMap_dictSet]
  | del t =>
    simp only [Op.apply, delItem, Spec.apply, absMap_val, hasKey]
    by_cases h : (lookup t.pyStr c).isSome = true <;> simp [h, Except.map, absMap_dictDel _ _ hnd]
  | addGroup t g i =>
    simp only [Op.apply, addGroup, Spec.apply, absMap_val]
    cases intLike t.pyStr with
    | false => rfl
    | true =>
      cases g.toCont with
      | error e => rfl
      | ok gc =>
        cases lookup t.pyStr c with
        | none => simp [Except.map, absMap_dictSet]
        | some v => cases v <;> simp [Except.map, absMap_dictSet]
  | setGroup t gs =>
    simp only [Op.apply, setGroup, Spec.apply, absMap_val, hasKey]
    cases intLike t.pyStr with
    | false => rfl
    | true =>
      by_cases h : (lookup t.pyStr c).isSome = true
      · simp [h, Except.map]
      · cases buildItems gs <;> simp [h, Except.map, absMap_dictSet]
  | pickle => rfl

end AsyncFix.Model.Container
