import AsyncFix.Model.Restart
import AsyncFix.Lemmas.RestartRecv
import AsyncFix.Lemmas.RestartFinal
import AsyncFix.Lemmas.RestartSeg

/-!
Restart family: the crash states of inbound processing of an APPLICATION message.

Segments 1-4 never touch the inbound side of the journal (whatever happens in them).  Killed after segment 5 the
process has run `_process_message` to its end (`recvPrefix_all`), so that crash state is read off the sequential
handler: the frame is journaled under its own number only when it was the expected one and had been handed to
`on_message`.
-/

namespace AsyncFix.Restart

open AsyncFix.Session AsyncFix.Generated AsyncFix.Generated.ConnEnum

/-- not one of the session-level types (`noreply_msgs` of connection.py, generated) -/
def isApp (m : Msg) : Bool := !ConnEnum.noReplay.contains m.mtype

theorem isApp_types {m : Msg} (h : isApp m = true) :
    (m.mtype == mHeartbeat) = false ∧ (m.mtype == mTestRequest) = false ∧ (m.mtype == mResendRequest) = false ∧
    (m.mtype == mSequenceReset) = false ∧ (m.mtype == mLogout) = false ∧ (m.mtype == mLogon) = false := by
  simp only [isApp, ConnEnum.noReplay, List.contains_cons, List.contains_nil, Bool.or_false, Bool.not_eq_true',
    Bool.or_eq_false_iff] at h
  simp only [mHeartbeat, mTestRequest, mResendRequest, mSequenceReset, mLogout, mLogon]
  obtain ⟨h0, h1, h2, h4, h5, hA⟩ := h
  exact ⟨h0, h1, h2, h4, h5, hA⟩

section walk
attribute [local irreducible] stateSet sendMsg disconnect checkSeqnumGaps validateIntegrity headTail M.bind' M.pure'
  M.throw M.tryCatch M.get M.modify M.emit M.liftE M.assert M.int

/-- on an application frame the head is the gates and `headTail` (no logon / seqreset / logout handling): it only
reads and sends -/
theorem processHead_app_insame (env : Env) (m : Msg) (happ : isApp m = true) : M.Rel InSameR (processHead env m) := by
  obtain ⟨_, _, _, h4, h5, hA⟩ := isApp_types happ
  rw [processHead_eq]
  unfold headMid
  rw [headRest_plain (by simpa using hA) (by simpa using h4) (by simpa using h5)]
  rel_tac [disconnect_insame, headTail_insame, Fp.to insame_adm (stateSet_fp (A := inSameK) .recv rfl) rfl,
    Fp.to insame_adm (Fp.roleA (A := inSameK) rfl) rfl]

end walk

/-- the number `headTail` hands on is the frame's own -/
theorem headTail_val {g : List Effect → Bool} [EffGuard g] (env : Env) (m : Msg) :
    OkPost g (headTail env m) (fun r _ => ∀ v n, r = some (v, n) → seqOf m = some n) := by
  unfold headTail
  apply OkPost.skip; intro c2
  split
  · exact OkPost.pure (fun _ _ _ h => by cases h)
  apply OkPost.liftE_bind; intro v hv
  apply OkPost.int_bind; intro n hn
  apply OkPost.skip; intro valid
  refine OkPost.pure (fun _ v' n' h => ?_)
  cases h
  exact seqOf_of_get hv hn

theorem processHead_app_val {g : List Effect → Bool} [EffGuard g] (env : Env) (m : Msg) (happ : isApp m = true) :
    OkPost g (processHead env m) (fun r _ => ∀ v n, r = some (v, n) → seqOf m = some n) := by
  obtain ⟨_, _, _, h4, h5, hA⟩ := isApp_types happ
  refine processHead_post (fun _ _ _ h => by cases h) ?_
  rw [headRest_plain (by simpa using hA) (by simpa using h4) (by simpa using h5)]
  exact headTail_val env m

theorem recvHead_insame (env : Env) (m : Msg) (happ : isApp m = true) (s : RecvSt) :
    M.Rel InSameR (recvHead env m s) := by
  unfold recvHead
  apply M.Rel.bind (RSame.to (validateIntegrity_same m))
  intro integ
  cases integ with
  | critical => exact M.Rel.bind (disconnect_insame env _ _) (fun _ => M.Rel.pure _)
  | reason text => exact M.Rel.bind (disconnect_insame env _ _) (fun _ => M.Rel.pure _)
  | good =>
    apply M.Rel.bind (swallow_rel (processHead_app_insame env m happ) (fun ex => InSameR.emit _))
    intro head
    cases head with
    | none => exact M.Rel.pure _
    | some p => exact M.Rel.pure _

theorem recvDispatch_apply (env : Env) (sr : Msg → Bool) (m : Msg) (happ : isApp m = true) (s : RecvSt)
    (c : Conn) :
    recvDispatch env sr m s c =
      if (s.go && s.valid && s.n == c.sess.nextIn) = true then ⟨.ok s, c, [.deliver m]⟩ else ⟨.ok s, c, []⟩ := by
  obtain ⟨h0, h1, h2, h4, _, hA⟩ := isApp_types happ
  unfold recvDispatch
  cases hgo : s.go with
  | false => simp
  | true =>
    rw [if_pos rfl, M.bind_ok (swallow_unit (processDispatch_app env sr (ne_of_beq_false h2) (ne_of_beq_false h4)
      (ne_of_beq_false hA) (ne_of_beq_false h1) (ne_of_beq_false h0)))]
    by_cases hc : s.valid = true ∧ s.n = c.sess.nextIn <;> simp [hc, caught]

section walk
attribute [local irreducible] stateSet setNextNumIn M.bind' M.pure' M.throw M.tryCatch M.get M.modify M.emit M.liftE
  M.assert M.int

theorem setNextNumIn_jir (m : Msg) : M.Rel JIR (setNextNumIn m) := Fp.to jir_adm (setNextNumIn_fp m) rfl

theorem recvCount_jir (m : Msg) (s : RecvSt) : M.Rel JIR (recvCount m s) := by
  unfold recvCount
  rel_tac [setNextNumIn_jir]

theorem recvMark_quietly (env : Env) (s : RecvSt) : M.Rel Quietly (recvMark env s) := by
  unfold recvMark
  rel_tac [stateSet_quietly, Quietly.modify]
  all_goals exact ⟨rfl, rfl, rfl⟩

end walk

/-- segments run in order keep an all-outcomes relation that each of them keeps -/
theorem runSegs_rel {σ : Type} {R : Conn → Conn → List Effect → Prop} [Compositional R]
    (segs : List (Seg σ)) (h : ∀ f ∈ segs, ∀ s, M.Rel R (f s)) (s : σ) : M.Rel R (runSegs segs s) := by
  induction segs generalizing s with
  | nil => exact M.Rel.pure _
  | cons f r ih =>
    unfold runSegs
    exact M.Rel.bind (h f (List.mem_cons_self ..) s)
      (fun s' => ih (fun f' hf' => h f' (List.mem_cons_of_mem _ hf')) s')

/-- a prefix of at most four segments is a prefix of the first four -/
theorem recvPrefix_le4_jir (k : Nat) (hk : k ≤ 4) (sr : Msg → Bool) (env : Env) (m : Msg)
    (happ : isApp m = true) : M.Rel JIR (recvPrefix k sr env m) := by
  apply runSegs_rel
  intro f hf s
  have htake : (recvSegs sr env m).take k =
      ([recvHead env m, recvDispatch env sr m, recvCount m, recvMark env]).take k :=
    List.take_append_of_le_length (l₁ := [recvHead env m, recvDispatch env sr m, recvCount m, recvMark env])
      (l₂ := [recvJournal m]) hk
  rw [htake] at hf
  have hf := List.mem_of_mem_take hf
  simp only [List.mem_cons, List.not_mem_nil, or_false] at hf
  rcases hf with rfl | rfl | rfl | rfl
  · exact (recvHead_insame env m happ s).mono fun _ _ _ => InSameR.jir
  · exact ⟨fun c => by rw [recvDispatch_apply env sr m happ]; split <;> exact ⟨rfl, rfl⟩⟩
  · exact recvCount_jir m s
  · exact (recvMark_quietly env s).mono fun _ _ _ q => q.insame.jir

/-- not counted in the journal, or journaled under the number expected at `c`, which is the frame's own, and
delivered -/
def Counted (m : Msg) (c c' : Conn) (e : List Effect) : Prop :=
  JIR c c' e ∨ (seqOf m = some c.sess.nextIn ∧ c'.journal.inSeq = c.sess.nextIn ∧
    c'.journal.inb.find c.sess.nextIn = some m ∧ Effect.deliver m ∈ e)

/-- after a part that left the inbound side alone -/
theorem Counted.pre {m : Msg} {c c1 c2 : Conn} {e1 e2 : List Effect} (h : InSame c c1) (h2 : Counted m c1 c2 e2) :
    Counted m c c2 (e1 ++ e2) := by
  rcases h2 with hj | ⟨a, b, d, f⟩
  · exact Or.inl ⟨hj.1.trans h.2.1, hj.2.trans h.2.2⟩
  · rw [h.1] at a b d
    exact Or.inr ⟨a, b, d, List.mem_append_right _ f⟩

/-- `_finalize_message` of a frame that is no SequenceReset, whatever happens: the inbound side of the journal is
untouched, or the frame carried the expected number and is journaled under it -/
theorem finalize_inbound (env : Env) {m : Msg} (h4 : m.mtype ≠ mSequenceReset) {n : Int} (hsq : seqOf m = some n)
    (c : Conn) :
    JIR c (finalizeMessage env m c).conn [] ∨
      (n = c.sess.nextIn ∧ (finalizeMessage env m c).conn.journal.inSeq = n ∧
        (finalizeMessage env m c).conn.journal.inb.find n = some m) := by
  rw [finalizeMessage_eq]
  have hj1 := (setNextNumIn_jir m).out c
  rcases hs : setNextNumIn m c with ⟨r, c1, e1⟩
  rw [hs] at hj1
  cases r with
  | error ex => rw [M.bind_err hs]; exact Or.inl hj1
  | ok k =>
    rw [M.bind_ok hs, M.ite_apply]
    by_cases hk : k ≤ 0
    · rw [if_pos hk]; exact Or.inl hj1
    · rw [if_neg hk]
      have hq := (finalizeMid_quietly env k).out c1
      rcases hm : finalizeMid env k c1 with ⟨r2, c2, e2⟩
      rw [hm] at hq
      have hj2 : JIR c c2 [] := ⟨by rw [hq.journal]; exact hj1.1, by rw [hq.journal]; exact hj1.2⟩
      cases r2 with
      | error ex => rw [M.bind_err hm]; exact Or.inl hj2
      | ok u =>
        rw [M.bind_ok hm, persistInbound_apply, hsq]
        dsimp only
        cases hp : c2.journal.persist .inbound n m with
        | none => exact Or.inl hj2
        | some j =>
          obtain ⟨r, hr, rfl⟩ := persist_in_inv hp
          right
          dsimp only
          -- the journal write is reached only after `set_next_num_in` accepted the frame's own number
          obtain ⟨-, hc⟩ := setNextNumIn_ok hs
          rcases hc with ⟨h4', -⟩ | ⟨-, ⟨hk0, -⟩ | ⟨hsk, hkn, -⟩⟩
          · exact absurd h4' h4
          · exact absurd hk0 hk
          · rw [hsq] at hsk
            exact ⟨(Option.some.inj hsk).trans hkn, rfl, Rows.find_insert hr⟩

/-- every outcome of `_process_message` on an application frame -/
theorem processMessage_app_inbound (sr : Msg → Bool) (env : Env) (m : Msg) (happ : isApp m = true) (c : Conn) :
    Counted m c (processMessage env sr m c).conn (processMessage env sr m c).eff := by
  obtain ⟨h0, h1, h2, h4, _, hA⟩ := isApp_types happ
  unfold processMessage
  have hi := validateIntegrity_apply m c
  generalize (validateIntegrity m c).res = ri at hi
  cases ri with
  | error ex => rw [M.bind_err hi]; exact Or.inl ⟨rfl, rfl⟩
  | ok integ =>
    rw [M.bind_ok hi]
    cases integ with
    | critical => exact Or.inl ((disconnect_insame env _ none).out c).jir
    | reason text => exact Or.inl ((disconnect_insame env _ (some text)).out c).jir
    | good =>
      dsimp only
      have hin := (swallow_rel (d := none) (processHead_app_insame env m happ) (fun ex => InSameR.emit _)).out c
      rcases hx : processHead env m c with ⟨rx, c1, ex⟩
      cases rx with
      | error er =>
        have hh : swallow none (processHead env m) c = ⟨.ok none, c1, ex ++ [.caught er]⟩ := by rw [swallow_apply, hx]
        rw [hh] at hin
        rw [M.bind_ok hh]
        exact Counted.pre hin (Or.inl ⟨rfl, rfl⟩)
      | ok head =>
        have hh : swallow none (processHead env m) c = ⟨.ok head, c1, ex⟩ := by rw [swallow_apply, hx]
        rw [hh] at hin
        rw [M.bind_ok hh]
        refine Counted.pre hin ?_
        cases head with
        | none => exact Or.inl ⟨rfl, rfl⟩
        | some p =>
          obtain ⟨valid, n⟩ := p
          have hsq : seqOf m = some n := (processHead_app_val (g := noGuard) env m happ).out _ _ _ _ hx rfl valid n rfl
          dsimp only
          rw [M.bind_ok (swallow_unit (processDispatch_app env sr (ne_of_beq_false h2) (ne_of_beq_false h4)
            (ne_of_beq_false hA) (ne_of_beq_false h1) (ne_of_beq_false h0)))]
          cases valid with
          | false => exact Or.inl ⟨rfl, rfl⟩
          | true =>
            rcases finalize_inbound env (ne_of_beq_false h4) hsq c1 with hj | ⟨hn, hs, hf⟩
            · exact Or.inl hj
            · refine Or.inr ⟨by rw [hsq, hn], by rw [← hn]; exact hs, by rw [← hn]; exact hf, ?_⟩
              simp [hn]

/-- EVERY crash point of inbound processing of an application message: either the inbound side of the
journal is untouched, or the frame is journaled under the number the old object expected, that number is
the frame's own, and `on_message` had been called with it. -/
theorem recv_crash_app (k : Nat) (sr : Msg → Bool) (env : Env) (m : Msg) (happ : isApp m = true) (c : Conn) :
    let o := recvPrefix k sr env m c
    (o.conn.journal.inSeq = c.journal.inSeq ∧ o.conn.journal.inb = c.journal.inb) ∨
    (seqOf m = some c.sess.nextIn ∧ o.conn.journal.inSeq = c.sess.nextIn ∧
      o.conn.journal.inb.find c.sess.nextIn = some m ∧ Effect.deliver m ∈ o.eff) := by
  intro o
  by_cases hk : k ≤ 4
  · exact Or.inl ((recvPrefix_le4_jir k hk sr env m happ).out c)
  · have ho := recvPrefix_all (k := k) (by omega) sr env m c
    show Counted m c (recvPrefix k sr env m c).conn (recvPrefix k sr env m c).eff
    rw [ho.1, ho.2]
    exact processMessage_app_inbound sr env m happ c

end AsyncFix.Restart
