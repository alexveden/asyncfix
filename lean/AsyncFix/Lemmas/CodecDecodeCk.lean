/-
The CheckSum field of the piece `encoded = msg[:next_msg]` that `decode` parses.  The field loop's `checksum_passed`
flag is set by the last tag-10 field (`fieldLoop_ck`).  That field is not the first one, so `SOH "10="` occurs in the
piece and the piece is cut at a closed CheckSum field (`decode_msg_closed`): it is `P ++ SOH "10=" w SOH` with `w` SOH-free
(`closedAtOf_shape`), its fields are those of `P` and `"10=" w` (`fieldsOf_closed`), so the deciding field is that last one.
Together: `decode_checksum_soh`, the byte-level CheckSum theorem behind Props/C10.
-/
import AsyncFix.Lemmas.CodecDecodeOutcome
namespace AsyncFix.Model.Codec

/-- `"10="` -/
def ck3 : Bytes := [49, 48, 61]

theorem cksumPat_eq : cksumPat = SOH :: ck3 := rfl
theorem ckField_eq (v : Bytes) : tag10 ++ EQS :: v = ck3 ++ v := rfl

theorem drop_succ_of_eq {P X : Bytes} {s : Nat} (msg : Bytes) (h : msg = P ++ s :: X) {n : Nat}
    (hn : P.length = n) : msg.drop (n + 1) = X := by
  subst h; subst hn
  have : P ++ s :: X = (P ++ [s]) ++ X := by simp
  rw [this]
  exact List.drop_left' (by simp)

theorem not_end_with_sep {p X q : Bytes} (hX : X ≠ []) (h1 : SOH ∉ X) :
    p ++ SOH :: X ≠ q ++ [SOH] := by
  intro h
  rcases List.eq_nil_or_concat X with hx | ⟨X', l, hx⟩
  · exact hX hx
  · rw [List.concat_eq_append] at hx
    subst hx
    have : (p ++ SOH :: X') ++ [l] = q ++ [SOH] := by simpa using h
    have := (List.append_inj' this rfl).2
    simp only [List.cons.injEq, and_true] at this
    apply h1; rw [this]; simp

theorem ckfield_noSep {v : Bytes} (h : SOH ∉ v) : SOH ∉ ck3 ++ v := by
  intro hm
  rcases List.mem_append.1 hm with h1 | h1
  · revert h1; decide
  · exact h h1

/-- the cut at a closed CheckSum field: what precedes the first `SOH 10=`, the SOH-free field, its SOH -/
theorem closedAtOf_shape {msg : Bytes} {c : Nat} (h : closedAtOf msg = some c) :
    ∃ P w, msg.take c = P ++ SOH :: (ck3 ++ w) ++ [SOH] ∧ SOH ∉ w := by
  obtain ⟨ci, e, hci, he, rfl⟩ := closedAtOf_eq_some.1 h
  obtain ⟨P, R, hPR, hl⟩ := findSub_some hci
  obtain ⟨A, B, hAB, hAl, hAn⟩ := findChar_some he
  have hdrop : msg.drop (ci + 1) = ck3 ++ R := drop_succ_of_eq msg hPR hl
  rw [hdrop] at hAB
  -- `A` has no SOH and `ck3` neither: `A` extends `ck3`
  obtain ⟨w, rfl⟩ : ∃ w, A = ck3 ++ w := by
    rcases List.append_eq_append_iff.1 hAB with ⟨a', ha, _⟩ | ⟨c', hc, hz⟩
    · exact ⟨a', ha⟩
    · cases c' with
      | nil => exact ⟨[], by rw [hc]; simp⟩
      | cons d c'' =>
        simp only [List.cons_append, List.cons.injEq] at hz
        have : SOH ∈ ck3 := by rw [hc, ← hz.1]; simp
        exact absurd this (by decide)
  refine ⟨P, w, ?_, fun hw => hAn (List.mem_append_right _ hw)⟩
  have : msg = (P ++ SOH :: (ck3 ++ w) ++ [SOH]) ++ B := by
    rw [hPR, cksumPat_eq, List.cons_append, hAB]; simp
  rw [this]
  exact List.take_left' (by simp only [List.length_append, List.length_cons, List.length_nil] at hAl ⊢; omega)

theorem fieldsOf_closed (P : Bytes) {A : Bytes} (hA : SOH ∉ A) :
    fieldsOf (P ++ SOH :: A ++ [SOH]) = splitOn SOH P ++ [A] := by
  have : splitOn SOH (P ++ SOH :: A ++ [SOH]) = (splitOn SOH P ++ [A]) ++ [[]] := by
    rw [List.append_assoc, List.cons_append, splitOn_append_sep, splitOn_append_sep, splitOn_noSep hA]
    simp [splitOn]
  exact fieldsOf_of_trailing this

/-- a field that is not the first one is preceded by an SOH in the piece -/
theorem occ_of_field {enc : Bytes} {F G : List Bytes} {x : Bytes} (h : fieldsOf enc = F ++ x :: G) (hF : F ≠ []) :
    ∃ b, enc = join SOH F ++ (SOH :: x ++ b) := by
  obtain ⟨T, hT⟩ := fieldsOf_prefix_splitOn enc
  have hj := join_splitOn SOH enc
  rw [← hT, h, List.append_assoc, join_append SOH hF (by simp), List.cons_append] at hj
  cases hGT : G ++ T with
  | nil => exact ⟨[], by rw [← hj, hGT]; simp [join]⟩
  | cons g gs => exact ⟨SOH :: join SOH (g :: gs), by rw [← hj, hGT, join_cons_cons]; simp⟩

theorem splitEq_ck (w : Bytes) : splitEq (ck3 ++ w) = some (tag10, w) := by
  simp [splitEq, ck3, tag10, EQS]

theorem stepField_ck {tbl : Tbl} {ck : Nat} {s s' : DState} {tag value : Bytes}
    (h : stepField tbl ck s tag value = .ok s') :
    s'.ckPassed = if tag == tag10 then (ckParse value == some ck) else s.ckPassed := by
  rw [stepField_eq] at h
  split at h
  · cases h
  · cases h
    simp only [bk]
    split
    · rfl
    · split <;> rfl

theorem fieldLoop_ck {tbl : Tbl} {ck : Nat} : ∀ (fields : List Bytes) (s s' : DState),
    fieldLoop tbl ck s fields = .ok (some s') → s'.ckPassed = true →
    (s.ckPassed = true ∧ ∀ m ∈ fields, ∀ v, splitEq m ≠ some (tag10, v)) ∨
    (∃ F v G, fields = F ++ (tag10 ++ EQS :: v) :: G ∧ ckParse v = some ck ∧
      ∀ m ∈ G, ∀ v', splitEq m ≠ some (tag10, v')) := by
  intro fields
  induction fields with
  | nil =>
    intro s s' h hp
    simp only [fieldLoop, pure, Except.pure, Except.ok.injEq, Option.some.injEq] at h
    subst h
    exact Or.inl ⟨hp, fun m hm => by cases hm⟩
  | cons m rest ih =>
    intro s s' h hp
    unfold fieldLoop at h
    split at h
    · cases h
    · rename_i tag value hsp
      split at h
      · cases h
      · cases hstep : stepField tbl ck s tag value with
        | error k => simp only [bind, Except.bind, hstep] at h; cases h
        | ok s1 =>
          simp only [bind, Except.bind, hstep] at h
          have hm : m = tag ++ EQS :: value := splitEq_some hsp
          rcases ih s1 s' h hp with ⟨h1, h2⟩ | ⟨F, v, G, hF, hv, hG⟩
          · have hck := stepField_ck hstep
            rw [h1] at hck
            split at hck
            · rename_i ht
              have ht' : tag = tag10 := eq_of_beq ht
              right
              exact ⟨[], value, rest, by rw [hm, ht']; rfl, eq_of_beq hck.symm, h2⟩
            · rename_i ht
              left
              refine ⟨hck.symm, ?_⟩
              intro m' hm' v hv
              rcases List.mem_cons.1 hm' with h3 | h3
              · subst h3
                rw [hsp] at hv
                simp only [Option.some.injEq, Prod.mk.injEq] at hv
                apply ht; rw [hv.1]; exact beq_self_eq_true _
              · exact h2 m' h3 v hv
          · right
            exact ⟨m :: F, v, G, by rw [hF]; rfl, hv, hG⟩

theorem decode_msg_closed {bs : Bytes} {tbl : Tbl} {raw : Bytes} {m : Msg} {n : Nat} {enc : Bytes}
    (h : decode bs tbl raw = .msg m n enc) :
    ∃ vi c, findSub marker raw = some vi ∧ closedAtOf (raw.drop vi) = some c ∧ enc = (raw.drop vi).take c := by
  obtain ⟨vi, ml, hvi, hopen, rfl, ⟨f0, f1, rest, s, hf, hrest, _, hloop, hp, _⟩, _, _⟩ := decode_msg_iff.1 h
  refine ⟨vi, ?_⟩
  obtain ⟨b, hb, _⟩ := drop_of_findSub hvi
  generalize raw.drop vi = msg at *
  -- the flag was set by a field with tag 10 …
  rcases fieldLoop_ck _ _ _ hloop hp with ⟨h1, _⟩ | ⟨F, v, G, hF, _, _⟩
  · cases h1
  rw [ckField_eq] at hF
  -- … which is not the first field (that one starts with `8=`), so `SOH 10=` occurs in the piece …
  have hFne : F ≠ [] := by
    rintro rfl
    obtain ⟨f, hf0⟩ := fieldsOf_head b (cutOf msg) (by rw [← hb]; exact hf) (Nat.not_lt.1 (three_le hrest))
    rw [hf] at hF
    simp only [List.nil_append, List.cons.injEq] at hF
    rw [hf0] at hF
    simp [ck3] at hF
  obtain ⟨t, ht⟩ := occ_of_field hF hFne
  have hocc : msg = join SOH F ++ (cksumPat ++ (v ++ t ++ msg.drop (cutOf msg))) := by
    conv => lhs; rw [← List.take_append_drop (cutOf msg) msg, ht]
    simp [cksumPat_eq]
  -- … and `decode` had waited if its SOH were missing
  cases hci : findSub cksumPat msg with
  | none => exact absurd hocc (findSub_none (by decide) hci _ _)
  | some ci =>
    cases hc : closedAtOf msg with
    | none => rw [ckOpen_of_open hci hc] at hopen; cases hopen
    | some c => exact ⟨c, hvi, rfl, by rw [cutOf_of_closed hc]⟩

/-- **CheckSum theorem, byte level: every returned frame is `pre ++ SOH "10=" ddd SOH`** with `ddd` the three-digit
byte sum of `pre ++ SOH` -/
theorem decode_checksum_soh {bs : Bytes} {tbl : Tbl} {raw : Bytes} {m : Msg} {n : Nat} {enc : Bytes}
    (h : decode bs tbl raw = .msg m n enc) :
    ∃ pre v, enc = pre ++ SOH :: (ck3 ++ v) ++ [SOH] ∧
      ckParse v = some ((sum pre + 1) % 256) ∧ pre = join SOH (fieldsOf enc).dropLast := by
  obtain ⟨vi, c, hvi, hc, rfl⟩ := decode_msg_closed h
  obtain ⟨_, _, _, _, _, ⟨_, _, _, s, _, _, _, hloop, hp, _⟩, _, _⟩ := decode_msg_iff.1 h
  obtain ⟨P, w, hshape, hw⟩ := closedAtOf_shape hc
  rw [hshape] at hloop ⊢
  rw [fieldsOf_closed P (ckfield_noSep hw)] at hloop ⊢
  rcases fieldLoop_ck _ _ _ hloop hp with ⟨h1, _⟩ | ⟨F, v, G, hF, hv, hG⟩
  · cases h1
  rw [ckField_eq] at hF
  -- the last field has tag 10, so it is the last field with tag 10
  have hG0 : G = [] := by
    rcases List.eq_nil_or_concat G with hG0 | ⟨G', l, rfl⟩
    · exact hG0
    · rw [List.concat_eq_append, ← List.cons_append, ← List.append_assoc] at hF
      have := (List.append_inj' hF rfl).2
      simp only [List.cons.injEq, and_true] at this
      exact absurd (splitEq_ck w) (this ▸ hG l (by simp) w)
  subst hG0
  have hvw := (List.append_inj' hF rfl).2
  simp only [List.cons.injEq, and_true] at hvw
  cases List.append_cancel_left hvw
  rw [cksumOf, List.dropLast_concat, join_splitOn] at hv
  rw [List.dropLast_concat, join_splitOn]
  exact ⟨P, _, rfl, hv, rfl⟩

end AsyncFix.Model.Codec
