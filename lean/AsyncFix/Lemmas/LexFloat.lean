/-
float(): the FIX float lexical space `-?(digits[.digits*] | .digits)` as an explicit form, its
equality with the regex guard of schema.py, and what CPython's float() (model `pyFloat`) does on it:
it parses, and the result is finite unless the magnitude reaches 2^1024 − 2^970.
-/
import AsyncFix.Lemmas.LexInt
namespace AsyncFix.Lemmas.LexFloat
open AsyncFix.Py AsyncFix.Model AsyncFix.Model.Lexical AsyncFix.Model.LexClass AsyncFix.Lemmas.LexTok AsyncFix.Lemmas.LexInt

/-- `ip` (then `fp` is empty) or `ip . fp` with ASCII digit strings ip, fp, at least one digit -/
def FloatForm (b : Str) : Prop :=
  ∃ ip fp : Str, ip.all isAsciiDigit = true ∧ fp.all isAsciiDigit = true ∧
    ((b = ip ∧ ip ≠ [] ∧ fp = []) ∨ (b = ip ++ 46 :: fp ∧ (ip ≠ [] ∨ fp ≠ [])))

theorem takeWhile_digits {ip : Str} (h : ip.all isAsciiDigit = true) (r : Str)
    (hr : ∀ c r', r = c :: r' → isAsciiDigit c = false) :
    (ip ++ r).takeWhile isAsciiDigit = ip ∧ (ip ++ r).dropWhile isAsciiDigit = r := by
  rw [List.takeWhile_append_of_pos (List.all_eq_true.1 h), List.dropWhile_append_of_pos (List.all_eq_true.1 h)]
  cases r with
  | nil => simp
  | cons c r' => simp [hr c r' rfl]

theorem not_digit_dot : isAsciiDigit 46 = false := by decide

theorem takeWhile_digits_dot {ip : Str} (h : ip.all isAsciiDigit = true) (fp : Str) :
    (ip ++ 46 :: fp).takeWhile isAsciiDigit = ip ∧ (ip ++ 46 :: fp).dropWhile isAsciiDigit = 46 :: fp := by
  apply takeWhile_digits h
  intro c r' he; injection he with h1 _; subst h1; exact not_digit_dot

theorem takeWhile_digits_only {ip : Str} (h : ip.all isAsciiDigit = true) :
    ip.takeWhile isAsciiDigit = ip ∧ ip.dropWhile isAsciiDigit = [] := by
  have := takeWhile_digits h [] (by intro c r' he; cases he)
  simpa using this

theorem dropWhile_head_not {p : Nat → Bool} {s : Str} {c : Nat} {r : Str}
    (h : s.dropWhile p = c :: r) : p c = false := by
  have := List.head_dropWhile_not p (l := s) (by rw [h]; exact List.cons_ne_nil _ _)
  simpa only [h, List.head_cons] using this

/-- the regex guard `[0-9]+\.?[0-9]*|\.[0-9]+` recognises exactly this form -/
theorem reUnsigned_iff (b : Str) : reUnsignedFloat b = true ↔ FloatForm b := by
  unfold reUnsignedFloat
  constructor
  · intro h
    have hsplit := List.takeWhile_append_dropWhile (p := isAsciiDigit) (l := b)
    have hip : (b.takeWhile isAsciiDigit).all isAsciiDigit = true := List.all_takeWhile
    split at h
    · rename_i hd
      rw [hd, List.append_nil] at hsplit
      refine ⟨b.takeWhile isAsciiDigit, [], hip, rfl, Or.inl ⟨hsplit.symm, ?_, rfl⟩⟩
      intro he; simp [he] at h
    · rename_i fp hd
      rw [hd] at hsplit
      simp only [Bool.and_eq_true, Bool.or_eq_true, Bool.not_eq_true', List.isEmpty_eq_false_iff] at h
      exact ⟨b.takeWhile isAsciiDigit, fp, hip, h.1, Or.inr ⟨hsplit.symm, h.2⟩⟩
    · cases h
  · rintro ⟨ip, fp, hip, hfp, (⟨rfl, hne, -⟩ | ⟨rfl, hne⟩)⟩
    · rw [(takeWhile_digits_only hip).1, (takeWhile_digits_only hip).2]
      simpa using hne
    · rw [(takeWhile_digits_dot hip fp).1, (takeWhile_digits_dot hip fp).2]
      simp only [hfp, Bool.true_and, Bool.or_eq_true, Bool.not_eq_true', List.isEmpty_eq_false_iff]
      exact hne

theorem all_digit_or_dot {ds : Str} (h : ds.all isAsciiDigit = true) :
    ds.all (fun c => LexSpec.digit c || c == 46) = true ∧ ds.filter (· == 46) = [] :=
  ⟨List.all_eq_true.2 fun c hc => Bool.or_eq_true_iff.2 (.inl (List.all_eq_true.1 h c hc)),
    List.filter_eq_nil_iff.2 fun c hc h46 => by
      rw [beq_iff_eq.1 h46] at hc
      exact Bool.eq_false_iff.1 not_digit_dot (List.all_eq_true.1 h 46 hc)⟩

theorem any_digit_of_ne {ds : Str} (hne : ds ≠ []) (h : ds.all isAsciiDigit = true) :
    ds.any LexSpec.digit = true := by
  obtain ⟨c, cs, rfl⟩ := List.exists_cons_of_ne_nil hne
  simp only [List.all_cons, Bool.and_eq_true] at h
  have hd : LexSpec.digit c = true := h.1
  simp [hd]

theorem all_of_dd_nodot {s : Str} (h : s.all (fun c => LexSpec.digit c || c == 46) = true)
    (hf : s.filter (· == 46) = []) : s.all isAsciiDigit = true :=
  List.all_eq_true.2 fun c hc =>
    (Bool.or_eq_true_iff.1 (List.all_eq_true.1 h c hc)).resolve_right (List.filter_eq_nil_iff.1 hf c hc)

/-- the SPEC's unsigned float (digits and at most one '.', at least one digit) is the same form -/
theorem isUnsigned_iff (b : Str) : LexSpec.isUnsignedFloat b = true ↔ FloatForm b := by
  unfold LexSpec.isUnsignedFloat
  simp only [Bool.and_eq_true, decide_eq_true_eq]
  constructor
  · rintro ⟨⟨hall, hany⟩, hcnt⟩
    have hsplit := List.takeWhile_append_dropWhile (p := isAsciiDigit) (l := b)
    have hip : (b.takeWhile isAsciiDigit).all isAsciiDigit = true := List.all_takeWhile
    cases hd : b.dropWhile isAsciiDigit with
    | nil =>
      rw [hd, List.append_nil] at hsplit
      refine ⟨b.takeWhile isAsciiDigit, [], hip, rfl, Or.inl ⟨hsplit.symm, ?_, rfl⟩⟩
      intro he
      rw [he] at hsplit
      rw [← hsplit] at hany; simp at hany
    | cons c fp =>
      rw [hd] at hsplit
      have hc := dropWhile_head_not hd
      rw [← hsplit] at hall hcnt hany
      simp only [List.all_append, List.all_cons, Bool.and_eq_true, Bool.or_eq_true] at hall
      have hc46 : c = 46 := by
        rcases hall.2.1 with h1 | h1
        · have : isAsciiDigit c = true := h1
          rw [hc] at this; cases this
        · simpa using h1
      subst hc46
      have hf0 := (all_digit_or_dot hip).2
      simp only [List.filter_append, hf0, List.nil_append, List.filter_cons, beq_self_eq_true,
        ↓reduceIte, List.length_cons] at hcnt
      have hfp0 : fp.filter (· == 46) = [] := by
        cases hff : fp.filter (· == 46) with
        | nil => rfl
        | cons x y => rw [hff] at hcnt; simp at hcnt
      have hfp := all_of_dd_nodot hall.2.2 hfp0
      refine ⟨b.takeWhile isAsciiDigit, fp, hip, hfp, Or.inr ⟨hsplit.symm, ?_⟩⟩
      by_cases h1 : b.takeWhile isAsciiDigit = []
      · right
        intro h2
        rw [h1, h2] at hany
        simp [LexSpec.digit] at hany
      · exact Or.inl h1
  · rintro ⟨ip, fp, hip, hfp, (⟨rfl, hne, -⟩ | ⟨rfl, hne⟩)⟩
    · exact ⟨⟨(all_digit_or_dot hip).1, any_digit_of_ne hne hip⟩, by simp [(all_digit_or_dot hip).2]⟩
    · refine ⟨⟨?_, ?_⟩, ?_⟩
      · simp [(all_digit_or_dot hip).1, (all_digit_or_dot hfp).1]
      · rcases hne with h | h
        · simp [any_digit_of_ne h hip]
        · simp [any_digit_of_ne h hfp]
      · simp [List.filter_append, (all_digit_or_dot hip).2, (all_digit_or_dot hfp).2]

theorem isFloat_sign (s : Str) : LexSpec.isFloat s = LexSpec.isUnsignedFloat (dropMinus s) :=
  signed_eq (fun _ => rfl) (fun s hs => by unfold LexSpec.isFloat; split; exact absurd rfl (hs _); rfl) s

theorem reFloat_sign (s : Str) : reFloatLexical s = reUnsignedFloat (dropMinus s) :=
  signed_eq (fun _ => rfl) (fun s hs => by unfold reFloatLexical; split; exact absurd rfl (hs _); rfl) s

/-- schema.py's regex guard for floats is the SPEC's float recogniser -/
theorem reFloat_eq (s : Str) : reFloatLexical s = LexSpec.isFloat s := by
  rw [reFloat_sign, isFloat_sign, Bool.eq_iff_iff, reUnsigned_iff, isUnsigned_iff]

theorem dropTrailingSpace_id {t : Str} (h : t.all numChar = true) : dropTrailingSpace t = t := by
  induction t with
  | nil => rfl
  | cons c cs ih =>
    simp only [List.all_cons, Bool.and_eq_true] at h
    simp [dropTrailingSpace, ih h.2, (numChar_facts h.1).2.1]

theorem removeUnderscores_id {t : Str} (h : t.all numChar = true) :
    ∀ prev, prev ≠ 95 → removeUnderscores prev t = some t := by
  induction t with
  | nil => intro prev hp; simp [removeUnderscores, hp]
  | cons c cs ih =>
    intro prev hp
    simp only [List.all_cons, Bool.and_eq_true] at h
    have hc := (numChar_facts h.1).2.2
    simp [removeUnderscores, hc, hp, ih h.2 c hc]

theorem form_numChars {b : Str} (h : FloatForm b) : b.all numChar = true ∧ b ≠ [] := by
  obtain ⟨ip, fp, hip, hfp, (⟨rfl, hne, -⟩ | ⟨rfl, hne⟩)⟩ := h
  · exact ⟨numChars_digits hip, hne⟩
  · refine ⟨?_, by simp⟩
    simp [numChars_digits hip, numChars_digits hfp, numChar]

theorem filter_digits_id {ds : Str} (h : ds.all isAsciiDigit = true) : ds.filter isAsciiDigit = ds :=
  List.filter_eq_self.2 (List.all_eq_true.1 h)

/-- head of an unsigned float form is a digit or '.', hence no sign to strip -/
theorem stripSign_form {b : Str} (h : FloatForm b) : stripSign b = b := by
  obtain ⟨hall, hne⟩ := form_numChars h
  obtain ⟨c, cs, rfl⟩ := List.exists_cons_of_ne_nil hne
  have hc : c ≠ 43 ∧ c ≠ 45 := by
    obtain ⟨ip, fp, hip, hfp, (⟨he, hne', -⟩ | ⟨he, hne'⟩)⟩ := h
    · rw [← he] at hip
      simp only [List.all_cons, Bool.and_eq_true] at hip
      have := digit_iff.1 hip.1; omega
    · cases ip with
      | nil => simp at he; omega
      | cons a t =>
        simp only [List.all_cons, Bool.and_eq_true] at hip
        have := digit_iff.1 hip.1
        simp at he; omega
  unfold stripSign
  split
  · rename_i heq; injection heq with h1 _; omega
  · rename_i heq; injection heq with h1 _; omega
  · rfl

/- `parseDecimal_form` and `overflow_form` name the two digit blocks `ip`, `fp` in their conclusions, so they take
the body of `FloatForm b` unpacked (`pyFloat_form` unpacks it once for both) -/
theorem parseDecimal_form {b : Str} {ip fp : Str} (hip : ip.all isAsciiDigit = true)
    (hfp : fp.all isAsciiDigit = true)
    (hb : (b = ip ∧ ip ≠ [] ∧ fp = []) ∨ (b = ip ++ 46 :: fp ∧ (ip ≠ [] ∨ fp ≠ [])))
    {u : Str} (hs : stripSign u = b) :
    parseDecimal u = some ⟨(ip ++ fp).map (· - 48), fp.length, 0⟩ := by
  unfold parseDecimal
  rw [hs]
  rcases hb with ⟨rfl, hne, rfl⟩ | ⟨rfl, hne⟩
  · simp only [(takeWhile_digits_only hip).1, (takeWhile_digits_only hip).2]
    simp [hne]
  · simp only [(takeWhile_digits_dot hip fp).1, (takeWhile_digits_dot hip fp).2, (takeWhile_digits_only hfp).1, (takeWhile_digits_only hfp).2]
    rcases hne with h | h <;> simp [h]

/-- magnitude test of `floatOverflow` on the unsigned part -/
def unsignedOverflow (b : Str) : Bool :=
  let ds := (b.filter isAsciiDigit).map (· - 48)
  !decFinite (decVal ds) ds.length (- (((b.dropWhile isAsciiDigit).filter isAsciiDigit).length : Int))

theorem floatOverflow_eq (s : Str) : floatOverflow s = unsignedOverflow (dropMinus s) := rfl

theorem overflow_form {b ip fp : Str} (hip : ip.all isAsciiDigit = true) (hfp : fp.all isAsciiDigit = true)
    (hb : (b = ip ∧ ip ≠ [] ∧ fp = []) ∨ (b = ip ++ 46 :: fp ∧ (ip ≠ [] ∨ fp ≠ []))) :
    unsignedOverflow b = !(DecLit.finite ⟨(ip ++ fp).map (· - 48), fp.length, 0⟩) := by
  unfold unsignedOverflow DecLit.finite
  rcases hb with ⟨rfl, -, rfl⟩ | ⟨rfl, -⟩
  · simp [filter_digits_id hip, (takeWhile_digits_only hip).2]
  · simp [List.filter_append, filter_digits_id hip, filter_digits_id hfp, (takeWhile_digits_dot hip fp).2,
      not_digit_dot, List.filter]

theorem pyFloat_form {t b : Str} (ht : t = b ∨ t = 45 :: b) (hf : FloatForm b) :
    pyFloat t = if unsignedOverflow b then .nonFinite else .finite := by
  obtain ⟨hall, hne⟩ := form_numChars hf
  have htall : t.all numChar = true := by
    rcases ht with rfl | rfl
    · exact hall
    · simp [numChar, hall]
  have htne : t ≠ [] := by
    rcases ht with rfl | rfl
    · exact hne
    · simp
  have hstrip : stripSign t = b := by
    rcases ht with rfl | rfl
    · exact stripSign_form hf
    · rfl
  obtain ⟨ip, fp, hip, hfp, hb⟩ := hf
  unfold pyFloat
  rw [map_xform_numChars htall]
  unfold pyFloatAscii
  obtain ⟨c, cs, rfl⟩ := List.exists_cons_of_ne_nil htne
  have hc : numChar c = true := by
    simp only [List.all_cons, Bool.and_eq_true] at htall; exact htall.1
  have e1 : (c :: cs).dropWhile isAsciiSpace = c :: cs := by
    simp [List.dropWhile, (numChar_facts hc).2.1]
  simp only [e1, List.isEmpty_cons, Bool.false_eq_true, ↓reduceIte, dropTrailingSpace_id htall,
    removeUnderscores_id htall 0 (by decide), parseDecimal_form hip hfp hb hstrip,
    overflow_form hip hfp hb]
  cases DecLit.finite ⟨(ip ++ fp).map (· - 48), fp.length, 0⟩ <;> rfl

theorem validateNumber_float_eq (cfg : Cfg) {s : Str} (hs : s ≠ []) :
    validateNumber cfg .float false false true none s =
      if pyFloat s = .finite ∧ reFloatLexical s = true then .pass else .err := by
  have he : s.isEmpty = false := by cases s <;> simp_all
  unfold validateNumber
  rw [he]
  cases pyFloat s <;> cases reFloatLexical s <;> rfl

theorem validateNumber_float_not_raised (cfg : Cfg) {s : Str} (hs : s ≠ []) (k : String) :
    validateNumber cfg .float false false true none s ≠ .raised k := by
  rw [validateNumber_float_eq cfg hs]
  split <;> simp

theorem float_pass_iff (cfg : Cfg) (s : Str) :
    validateTyped cfg .float s = .pass ↔ LexSpec.isFloat s = true ∧ floatOverflow s = false := by
  show validateNumber cfg .float false false true none s = .pass ↔ _
  by_cases hs : s = []
  · subst hs; simp [validateNumber, LexSpec.isFloat, LexSpec.isUnsignedFloat]
  rw [validateNumber_float_eq cfg hs, reFloat_eq, floatOverflow_eq, isFloat_sign]
  cases hfl : LexSpec.isUnsignedFloat (dropMinus s) with
  | false => simp
  | true =>
    rw [pyFloat_form (sign_cases s) ((isUnsigned_iff _).1 hfl)]
    cases unsignedOverflow (dropMinus s) <;> simp

end AsyncFix.Lemmas.LexFloat
