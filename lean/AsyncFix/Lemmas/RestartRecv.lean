import AsyncFix.Lemmas.RestartSend

/-!
The inbound handlers up to the dispatch keep `Good` on runs without exceptions; those that only read and send
leave the inbound side untouched whatever happens (`InSameR`, by their footprints).
-/

namespace AsyncFix.Restart

open AsyncFix.Session AsyncFix.Generated AsyncFix.Generated.ConnEnum

variable {g : List Effect → Bool} [EffGuard g] {om : Option Msg}

/-- In front of `headRest` there are only the gates: a returning run of `processHead` returns `none` or what
`headRest` returned.  (Facts about the value the head hands on are facts about `headRest`.) -/
theorem processHead_post {env : Env} {m : Msg} {P : Option (Bool × Int) → Conn → Prop} (hnone : ∀ c, P none c)
    (h : OkPost g (headRest env m) P) : OkPost g (processHead env m) P := by
  have drop : OkPost g (do disconnect env st_DISCONNECTED_BROKEN_CONN none; pure none) P :=
    OkPost.skip fun _ => OkPost.pure hnone
  have mid : OkPost g (headMid env m) P := by
    unfold headMid
    apply OkPost.skip; intro c1
    split
    · exact drop
    · exact h
  rw [processHead_eq]
  apply OkPost.skip; intro c
  apply OkPost.skip; intro _
  split
  · split
    · exact drop
    · exact OkPost.skip fun _ => OkPost.skip fun _ => mid
  · exact mid

omit [EffGuard g] in
theorem setSeqNum_in_good (n : Int) : OkRel g (Good om) (setSeqNum none (some n)) := by
  constructor
  intro c a c' e h _
  rw [setSeqNum_in_apply] at h
  split at h
  · rename_i hn
    cases h
    refine ⟨fun _ => ?_, Int.le_refl _, NewWritesBelow.nil _, Or.inr (Or.inl ?_), ⟨rfl, rfl, rfl⟩, fun _ => hn⟩
    · show c.sess.nextOut - 1 + 1 = c.sess.nextOut; omega
    · show n - 1 + 1 = n; omega
  · cases h

theorem disconnect_insame (env : Env) (d : Nat) (l : Option String) : M.Rel InSameR (disconnect env d l) :=
  Fp.to insame_adm (disconnect_fp env d l) rfl

theorem checkSeqnumGaps_insame (env : Env) (n : Int) : M.Rel InSameR (checkSeqnumGaps env n) :=
  Fp.to insame_adm (checkSeqnumGaps_fp env n) rfl

attribute [local irreducible] checkSeqnumGaps M.bind' M.pure' M.throw M.tryCatch M.get M.modify M.emit M.liftE M.assert
  M.int in
/-- the part of the head after the type-specific handling only reads and sends -/
theorem headTail_insame (env : Env) (m : Msg) : M.Rel InSameR (headTail env m) := by
  unfold headTail
  rel_tac [checkSeqnumGaps_insame]

section walk
attribute [local irreducible] disconnect stateSet sendMsg setSeqNum processLogon processSeqreset checkSeqnumGaps
  processLogout M.bind' M.pure' M.throw M.tryCatch M.get M.modify M.emit M.liftE M.assert M.int

theorem sendTestReq_good (env : Env) : OkRel g (Good om) (sendTestReq env) := by
  unfold sendTestReq
  ok_tac [Good.modify, sendMsg_good]

/-- `excFree`: `disconnect` swallows the exception of an unsendable Logout -/
theorem disconnect_good (env : Env) (d : Nat) (l : Option String) :
    OkRel excFree (Good om) (disconnect env d l) := by
  unfold disconnect
  ok_tac [Good.modify, Good.emit, sendMsg_good, stateSet_good, ownSeq_logout]

theorem checkSeqnumGaps_good (env : Env) (n : Int) : OkRel g (Good om) (checkSeqnumGaps env n) := by
  unfold checkSeqnumGaps
  ok_tac [Good.modify, sendMsg_good, stateSet_good]

theorem logonTail_good (n : Int) : OkRel excFree (Good om) (logonTail n) := by
  unfold logonTail
  ok_tac [Good.emit, stateSet_good]

theorem processLogon_good (env : Env) (m : Msg) : OkRel excFree (Good om) (processLogon env m) := by
  rw [processLogon_eq]
  unfold logonAnswer
  ok_tac [logonTail_good, sendMsg_good, disconnect_good]

theorem processLogout_good (env : Env) (m : Msg) : OkRel excFree (Good om) (processLogout env m) := by
  unfold processLogout
  ok_tac [Good.emit, disconnect_good]

theorem processTestRequest_good (env : Env) (m : Msg) : OkRel g (Good om) (processTestRequest env m) := by
  unfold processTestRequest
  ok_tac [sendMsg_good]

theorem processHeartbeat_good (env : Env) (m : Msg) : OkRel excFree (Good om) (processHeartbeat env m) := by
  unfold processHeartbeat
  ok_tac [Good.modify, disconnect_good]

theorem processSeqreset_good (m : Msg) : OkRel g (Good om) (processSeqreset m) := by
  unfold processSeqreset
  ok_tac [setSeqNum_in_good]

theorem headTail_good (env : Env) (m : Msg) : OkRel excFree (Good om) (headTail env m) := by
  unfold headTail
  ok_tac [checkSeqnumGaps_good]

theorem headMid_good (env : Env) (m : Msg) : OkRel excFree (Good om) (headMid env m) := by
  unfold headMid headRest
  ok_tac [headTail_good, disconnect_good, processLogon_good, processSeqreset_good, checkSeqnumGaps_good,
    processLogout_good]

theorem processHead_good (env : Env) (m : Msg) : OkRel excFree (Good om) (processHead env m) := by
  rw [processHead_eq]
  ok_tac [headMid_good, disconnect_good, stateSet_good, Good.modify]

end walk

end AsyncFix.Restart
