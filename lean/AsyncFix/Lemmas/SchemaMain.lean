/-
C15, message level: what `schemaWF` provides, the per-tag loop (the member check against `header ++ trailer ++
members`), the header check (the same check on the fetched node), and the assembly `validate = ok ↔ Allowed`.
Last, `itemOk_of_itemIn`: acceptable top-level nodes make every nested item `ItemOk` (for `reject_bad_item`).
-/
import AsyncFix.Lemmas.SchemaGroup
namespace AsyncFix.Model.Schema

theorem wf_nd (sch : Schema) :
    (∀ ms, membersWF sch ms = true → membersND ms = true) ∧
    (∀ m, memberWF sch m = true → memberND m = true) := by
  apply membersWF.mutual_induct
  · intro t r _; rfl
  · intro t r gm ih h
    rw [memberWF] at h
    simp only [Bool.and_eq_true] at h
    rw [memberND]; exact ih h.2
  · intro _; rfl
  · intro m rest ih1 ih2 h
    rw [membersWF] at h
    simp only [Bool.and_eq_true] at h
    rw [membersND_cons]
    refine ⟨ih1 h.1.1, ?_, ih2 h.2⟩
    simpa using h.1.2

theorem nodupStr_iff {l : List String} : nodupStr l = true ↔ l.Nodup := by
  induction l with
  | nil => simp [nodupStr]
  | cons x xs ih => simp [nodupStr, ih]

theorem lookupMsg_iff {msgs : List (String × List Member)} (h : (msgs.map (·.1)).Nodup)
    {t : String} {ms : List Member} : lookupMsg msgs t = some ms ↔ (t, ms) ∈ msgs := by
  induction msgs with
  | nil => simp [lookupMsg]
  | cons p rest ih =>
    obtain ⟨k, v⟩ := p
    simp only [List.map_cons, List.nodup_cons] at h
    rw [lookupMsg, List.mem_cons, Prod.mk.injEq]
    by_cases hk : k = t
    · subst hk
      have : (k, ms) ∉ rest := fun hm => h.1 (List.mem_map.mpr ⟨_, hm, rfl⟩)
      simp [this, eq_comm]
    · simp [hk, Ne.symm hk, ih h.2]

/-- What the proofs use of `schemaWF`: distinct message types, distinct member tags at every level of `header ++ trailer
++ members` (the `membersND` part of `membersWF`), and the two header clauses.  The other clauses (tags and names of
`<fields>` in bijection, members declared, group counters acceptable to `SchemaSet.__init__`, `membersWF` of `header ++
trailer` alone) say that the dictionary is one the library can load and that keying by tag is keying by name; `validate`
tests `knownTag` on every node itself, so no proof needs them. -/
structure WF (sch : Schema) : Prop where
  types : (sch.messages.map (·.1)).Nodup
  members : ∀ p, p ∈ sch.messages → membersND (sch.header ++ sch.trailer ++ p.2) = true
  hdr10 : "10" ∉ memberTags sch.header
  hdrReq : ∀ m, m ∈ sch.header → m.req = true → m.isField = true

theorem schemaWF_WF {sch : Schema} (h : schemaWF sch = true) : WF sch := by
  unfold schemaWF at h
  simp only [Bool.and_eq_true] at h
  obtain ⟨⟨⟨⟨⟨⟨_, _⟩, h3⟩, _⟩, h5⟩, h6⟩, h7⟩ := h
  refine ⟨nodupStr_iff.mp h3, ?_, by simpa using h6, ?_⟩
  · intro p hp
    exact (wf_nd sch).1 _ (List.all_eq_true.mp h5 p hp)
  · intro m hm hr
    have := List.all_eq_true.mp h7 m hm
    simpa [hr] using this

/-- the member list of a message type is unique, so `Allowed` can be stated relative to it -/
theorem allowed_iff {vv : Tag → String → Bool} {sch : Schema} (hwf : WF sch) {m : Msg}
    {ms : List Member} (hms : (m.msgType, ms) ∈ sch.messages) :
    Allowed vv sch m ↔
      (∀ mem, mem ∈ ms → mem.req = true → mem.tag ∈ nodeTags m.tags) ∧
      ("8" ∈ nodeTags m.tags → ∀ mem, mem ∈ sch.header → mem.req = true → mem.tag ∈ nodeTags m.tags) ∧
      (∀ n, n ∈ m.tags → n.tag ≠ "10" →
        sch.declares n.tag ∧ ∃ mem, mem ∈ sch.header ++ sch.trailer ++ ms ∧ NodeOk vv mem n) := by
  refine ⟨fun ⟨ms', hms', h⟩ => ?_, fun h => ⟨ms, hms, h⟩⟩
  have e := (lookupMsg_iff hwf.types).mpr hms'
  rw [(lookupMsg_iff hwf.types).mpr hms] at e
  cases e; exact h

theorem knownTag_iff {sch : Schema} {t : Tag} : sch.knownTag t = true ↔ sch.declares t := by
  simp [Schema.knownTag, Schema.declares]

theorem memberFor_eq (sch : Schema) (ms : List Member) (t : Tag) :
    memberFor sch ms t = (sch.header ++ sch.trailer ++ ms).find? fun m => m.tag = t := by
  rw [memberFor, lookupMem_eq, lookupMem_eq, lookupMem_eq, List.find?_append, List.find?_append]
  cases sch.header.find? fun m => m.tag = t with
  | some x => rfl
  | none =>
    cases sch.trailer.find? fun m => m.tag = t with
    | some x => rfl
    | none => cases ms.find? fun m => m.tag = t <;> rfl

theorem memberFor_of_mem {sch : Schema} {ms : List Member}
    (hnd : membersND (sch.header ++ sch.trailer ++ ms) = true) {mem : Member}
    (hmem : mem ∈ sch.header ++ sch.trailer ++ ms) : memberFor sch ms mem.tag = some mem := by
  rw [memberFor_eq, find_of_mem hnd hmem]

theorem checkEntries_iff {vv : Tag → String → Bool} {sch : Schema} {ms : List Member}
    (hnd : membersND (sch.header ++ sch.trailer ++ ms) = true) {ns : List Node} :
    checkEntries vv sch ms ns = .ok ↔
      ∀ n, n ∈ ns → n.tag ≠ "10" →
        sch.declares n.tag ∧ ∃ mem, mem ∈ sch.header ++ sch.trailer ++ ms ∧ NodeOk vv mem n := by
  induction ns with
  | nil => simp [checkEntries]
  | cons n rest ih =>
    rw [checkEntries, List.forall_mem_cons, ← ih, ← knownTag_iff, memberFor_eq]
    by_cases h10 : n.tag = "10"
    · simp [h10]
    · cases hk : sch.knownTag n.tag with
      | false => simp [h10]
      | true =>
        simp only [if_neg h10, Bool.not_true, Bool.false_eq_true, if_false, true_and]
        cases hf : (sch.header ++ sch.trailer ++ ms).find? fun m => m.tag = n.tag with
        | none =>
          refine iff_of_false nofun fun h => ?_
          obtain ⟨mem, hm, hok⟩ := h.1 h10
          simpa [hok.tag_eq] using List.find?_eq_none.mp hf mem hm
        | some mem =>
          have hm := List.mem_of_find?_eq_some hf
          have ht : mem.tag = n.tag := by simpa using List.find?_some hf
          simp only []
          rw [andThen_ok, validateMember_iff ht (membersND_mem hnd hm), nodeOk_of_mem hnd hm ht]
          simp [h10]

theorem checkEntries_kind (vv : Tag → String → Bool) (sch : Schema) (ms : List Member) (ns : List Node) :
    (checkEntries vv sch ms ns).NoForeign := by
  induction ns with
  | nil => exact .ok
  | cons n rest ih =>
    rw [checkEntries]
    refine .ite ih (.ite .err ?_)
    split
    · exact .err
    · exact (validateMember_kind vv _ n).andThen ih

theorem getNode_some {ns : List Node} {t : Tag} {n : Node} (h : getNode ns t = some n) :
    n ∈ ns ∧ n.tag = t :=
  ⟨List.mem_of_find?_eq_some h, by simpa using List.find?_some h⟩

theorem getNode_of_mem {ns : List Node} {t : Tag} (h : t ∈ nodeTags ns) :
    ∃ n, getNode ns t = some n := by
  obtain ⟨n, hn, ht⟩ := List.mem_map.mp h
  exact Option.isSome_iff_exists.mp (List.find?_isSome.mpr ⟨n, hn, by simpa using ht⟩)

/-- a required header field is checked like any member: the fetched node against the field -/
theorem validateHeader_field (vv : Tag → String → Bool) (ns : List Node) (t : Tag)
    (rest : List Member) :
    validateHeader vv ns (.field t true :: rest) =
      (match getNode ns t with
        | none => Outcome.raised .msgError
        | some n => validateMember vv (.field t true) n).andThen (validateHeader vv ns rest) := by
  rw [validateHeader]
  cases getNode ns t with
  | none => rfl
  | some n => cases n <;> rfl

theorem validateHeader_iff {vv : Tag → String → Bool} {ns : List Node} {hdr : List Member} :
    validateHeader vv ns hdr = .ok ↔
      ∀ mem, mem ∈ hdr → mem.req = true → mem.isField = true →
        ∃ n, getNode ns mem.tag = some n ∧ validateMember vv mem n = .ok := by
  induction hdr with
  | nil => simp [validateHeader]
  | cons m rest ih =>
    rw [List.forall_mem_cons, ← ih]
    cases m with
    | group gt gr gm => rw [validateHeader]; simp [Member.isField]
    | field ft fr =>
      cases fr with
      | false => rw [validateHeader]; simp [Member.req]
      | true =>
        rw [validateHeader_field, andThen_ok]
        cases hg : getNode ns ft <;> simp [Member.req, Member.isField, Member.tag, hg]

theorem validateHeader_kind (vv : Tag → String → Bool) (ns : List Node) (hdr : List Member) :
    (validateHeader vv ns hdr).NoForeign := by
  induction hdr with
  | nil => exact .ok
  | cons m rest ih =>
    cases m with
    | group gt gr gm => exact ih
    | field ft fr =>
      cases fr with
      | false => exact ih
      | true =>
        rw [validateHeader_field]
        refine .andThen ?_ ih
        split
        · exact .err
        · exact validateMember_kind vv _ _

theorem validate_iff_of_WF {vv : Tag → String → Bool} {sch : Schema} (hwf : WF sch) (m : Msg) :
    validate vv sch m = .ok ↔ Allowed vv sch m := by
  unfold validate
  cases hl : lookupMsg sch.messages m.msgType with
  | none =>
    refine iff_of_false nofun fun ⟨ms, hms, _⟩ => ?_
    rw [(lookupMsg_iff hwf.types).mpr hms] at hl
    cases hl
  | some ms =>
    have hms := (lookupMsg_iff hwf.types).mp hl
    have hnd := hwf.members _ hms
    simp only []
    rw [allowed_iff hwf hms, andThen_ok, andThen_ok, checkRequired_ok, checkEntries_iff hnd]
    -- given that every entry is acceptable, the header check adds presence only
    refine and_congr_right fun _ => and_congr_left fun hent => ?_
    by_cases h8 : hasTag m.tags "8" = true
    · rw [if_pos h8, validateHeader_iff]
      constructor
      · intro h _ mem hmem hr
        obtain ⟨n, hg, _⟩ := h mem hmem hr (hwf.hdrReq mem hmem hr)
        obtain ⟨hn, hnt⟩ := getNode_some hg
        exact hnt ▸ List.mem_map.mpr ⟨n, hn, rfl⟩
      · intro h mem hmem hr _
        obtain ⟨n, hg⟩ := getNode_of_mem (h (hasTag_iff.mp h8) mem hmem hr)
        obtain ⟨hn, hnt⟩ := getNode_some hg
        have h10 : n.tag ≠ "10" := fun e =>
          hwf.hdr10 ((hnt.symm.trans e) ▸ List.mem_map.mpr ⟨_, hmem, rfl⟩)
        have hin : mem ∈ sch.header ++ sch.trailer ++ ms := by simp [hmem]
        exact ⟨n, hg, (validateMember_iff hnt.symm (membersND_mem hnd hin)).mpr
          ((nodeOk_of_mem hnd hin hnt.symm).mp (hent n hn h10).2)⟩
    · rw [if_neg h8]
      exact iff_of_true rfl fun h => absurd (hasTag_iff.mpr h) h8

theorem validate_kind (vv : Tag → String → Bool) (sch : Schema) (m : Msg) : (validate vv sch m).NoForeign := by
  unfold validate
  split
  · exact .err
  · exact (checkRequired_kind _ _).andThen
      ((Outcome.NoForeign.ite (validateHeader_kind vv _ _) .ok).andThen (checkEntries_kind vv _ _ _))

theorem itemOk_of_itemIn {vv : Tag → String → Bool} {ms : List Member} {ns : List Node}
    {gm : List Member} {it : List Node} (hin : ItemIn ms ns gm it) :
    membersND ms = true → (∀ n, n ∈ ns → ∃ mem, mem ∈ ms ∧ NodeOk vv mem n) → ItemOk vv gm it := by
  induction hin with
  | here hm hn hit =>
    intro hnd hall
    cases (nodeOk_of_mem hnd hm rfl).mp (hall _ hn) with
    | group h => exact h _ hit
  | deeper hm hn hit _ ih =>
    intro hnd hall
    have hnd' := membersND_mem hnd hm
    rw [memberND] at hnd'
    cases (nodeOk_of_mem hnd hm rfl).mp (hall _ hn) with
    | group h => exact ih hnd' ((itemOk_iff hnd').mp (h _ hit)).1.node

end AsyncFix.Model.Schema
