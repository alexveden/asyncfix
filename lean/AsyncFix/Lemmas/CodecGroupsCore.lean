/-
Repeating-group reconstruction, the local part (no tree induction), over the step `stepCore` of CodecStep:
the loops `coreAll` / `bkAll` behind `stepAll`, `closeWhile`/`closeTop` in the algebra `cur`, `setCur`, `push`,
`accepts`, the productive cases of `stepCore` (`stepCore_leaf`: plain field; `stepCore_accepts`, then `afterClose`: group
header; `stepCore_next`: first field of the next item), `addGroup` on a parent container whose last entry is the group
under construction, and `ClosesTo`: the chain of frames a finished node leaves open and that the next field closes.
-/
import AsyncFix.Lemmas.CodecSpec
import AsyncFix.Lemmas.CodecStep
namespace AsyncFix.Model.Codec

def coreAll (tbl : Tbl) : DS → List Fld → Except Kind DS
  | s, [] => .ok s
  | s, f :: rest =>
    match stepCore tbl s f.tag f.val with
    | .error k => .error k
    | .ok s' => coreAll tbl s' rest

def bkAll (ck : Nat) (m : Bytes × Bool) (fs : List Fld) : Bytes × Bool :=
  fs.foldl (fun m f => bk ck m f.tag f.val) m

theorem stepAll_eq (tbl : Tbl) (ck : Nat) (d : DState) (fs : List Fld) :
    stepAll tbl ck d fs =
      match coreAll tbl (d.top, d.stack) fs with
      | .error k => .error k
      | .ok p => .ok { top := p.1, stack := p.2,
                       mtype := (bkAll ck (d.mtype, d.ckPassed) fs).1,
                       ckPassed := (bkAll ck (d.mtype, d.ckPassed) fs).2 } := by
  induction fs generalizing d with
  | nil => rfl
  | cons f rest ih =>
    simp only [stepAll, coreAll, stepField_eq, bkAll, List.foldl_cons]
    cases stepCore tbl (d.top, d.stack) f.tag f.val with
    | error k => rfl
    | ok p => simp only [ih, bkAll]

theorem fieldLoopF_eq_stepAll (tbl : Tbl) (ck : Nat) (s : DState) (fs : List Fld) :
    fieldLoopF tbl ck s fs =
      match stepAll tbl ck s fs with
      | .error k => .error k
      | .ok s' => .ok (some s') := by
  induction fs generalizing s with
  | nil => rfl
  | cons f rest ih =>
    simp only [fieldLoopF, stepAll, bind, Except.bind]
    cases stepField tbl ck s f.tag f.val with
    | error k => rfl
    | ok s' => exact ih s'

theorem coreAll_append (tbl : Tbl) (s : DS) (a b : List Fld) :
    coreAll tbl s (a ++ b) =
      match coreAll tbl s a with
      | .error k => .error k
      | .ok s' => coreAll tbl s' b := by
  induction a generalizing s with
  | nil => rfl
  | cons f rest ih =>
    simp only [List.cons_append, coreAll]
    cases stepCore tbl s f.tag f.val with
    | error k => rfl
    | ok p => exact ih p

theorem bkAll_fst (ck : Nat) (m : Bytes × Bool) (fs : List Fld) :
    (bkAll ck m fs).1 = fs.foldl (fun acc f => if f.tag == tag35 then f.val else acc) m.1 := by
  induction fs generalizing m with
  | nil => rfl
  | cons f rest ih =>
    simp only [bkAll, List.foldl_cons] at ih ⊢
    rw [ih]
    congr 1
    -- one step: only tag 35 changes the first component (tag 10 is not tag 35)
    unfold bk
    by_cases h10 : (f.tag == tag10) = true
    · rw [if_pos h10, eq_of_beq h10]; rfl
    · simp only [h10, Bool.false_eq_true, if_false]
      split <;> rfl

theorem bkAll_snd_tag10 (ck : Nat) (m : Bytes × Bool) (fs : List Fld) (v : Bytes) :
    (bkAll ck m (fs ++ [⟨tag10, v⟩])).2 =
      (ckParse v == some ck) := by
  simp [bkAll, List.foldl_append, bk]

@[simp] theorem cur_setCur (s : DS) (c : Cont) : cur (setCur s c) = c := by
  obtain ⟨top, st⟩ := s; cases st <;> rfl

@[simp] theorem setCur_setCur (s : DS) (c c' : Cont) : setCur (setCur s c) c' = setCur s c' := by
  obtain ⟨top, st⟩ := s; cases st <;> rfl

@[simp] theorem setCur_cur (s : DS) : setCur s (cur s) = s := by
  obtain ⟨top, st⟩ := s; cases st <;> rfl

@[simp] theorem cur_push (f : Frame) (s : DS) : cur (push f s) = f.item := rfl

@[simp] theorem setCur_push (f : Frame) (s : DS) (c : Cont) :
    setCur (push f s) c = push { f with item := c } s := rfl

@[simp] theorem accepts_setCur (s : DS) (c : Cont) (t : Tag) : accepts (setCur s c) t = accepts s t := by
  obtain ⟨top, st⟩ := s; cases st <;> rfl

@[simp] theorem accepts_push (f : Frame) (s : DS) (t : Tag) : accepts (push f s) t = f.members.contains t := rfl

theorem closeTop_push (f : Frame) (s : DS) :
    closeTop s.1 (f :: s.2) =
      match (cur s).addGroup f.gtag f.item with
      | .error k => .error k
      | .ok c => .ok (setCur s c) := by
  obtain ⟨top, st⟩ := s
  cases st with
  | nil =>
    simp only [closeTop, cur, bind, Except.bind, pure, Except.pure]
    cases Cont.addGroup top f.gtag f.item <;> rfl
  | cons p rest =>
    simp only [closeTop, cur, bind, Except.bind, pure, Except.pure]
    cases Cont.addGroup p.item f.gtag f.item <;> rfl

theorem closeWhile_accepts {s : DS} {t : Tag} (h : accepts s t = true) :
    closeWhile t s.1 s.2 = .ok s := by
  obtain ⟨top, st⟩ := s
  cases st with
  | nil => exact closeWhile_nil t top
  | cons f rest =>
    simp only [accepts] at h
    rw [closeWhile]
    simp only [h, if_true]

/-- `ClosesTo oms s s''`: the innermost `oms.length` frames of `s` have the member lists `oms`
(outermost first) and closing them one after the other succeeds and yields `s''` -/
def ClosesTo : List (List Tag) → DS → DS → Prop
  | [], s, s'' => s = s''
  | ms :: rest, s, s'' =>
    ∃ f sm, ClosesTo rest s (push f sm) ∧ f.members = ms ∧ closeTop sm.1 (f :: sm.2) = .ok s''

/-- a field that none of the open groups lists closes them all before it is looked at -/
theorem closeWhile_closesTo {oms : List (List Tag)} {s s'' : DS} {t : Tag}
    (h : ClosesTo oms s s'') (hn : notOpen t oms = true) :
    closeWhile t s.1 s.2 = closeWhile t s''.1 s''.2 := by
  induction oms generalizing s'' with
  | nil => simp only [ClosesTo] at h; rw [h]
  | cons ms rest ih =>
    obtain ⟨f, sm, h1, h2, h3⟩ := h
    simp only [notOpen, List.all_cons, Bool.and_eq_true, Bool.not_eq_true', ← h2] at hn
    rw [ih h1 hn.2]
    -- one round of `closeWhile` on `push f sm`: `t` is no member of `f`, `closeTop` yields `s''`
    show closeWhile t sm.1 (f :: sm.2) = _
    rw [closeWhile]
    simp only [hn.1, Bool.false_eq_true, if_false]
    split
    · next k h => rw [h3] at h; cases h
    · next top' st' h => rw [h3] at h; cases h; rfl

theorem stepCore_accepts {tbl : Tbl} {s : DS} {t : Tag} (v : Bytes) (ha : accepts s t = true) :
    stepCore tbl s t v = afterClose tbl s t v := by
  rw [stepCore, closeWhile_accepts ha]

theorem stepCore_leaf {tbl : Tbl} {s : DS} {t : Tag} (v : Bytes) (ha : accepts s t = true)
    (hm : tbl.members? t = none) (hh : (cur s).has t = false) :
    stepCore tbl s t v = .ok (setCur s (cur s ++ [.leaf t v])) := by
  obtain ⟨top, st⟩ := s
  cases st <;> simp only [cur] at hh <;>
    simp only [stepCore_accepts v ha, afterClose, hm, hh, Bool.false_eq_true, if_false, Cont.setStr, setCur, cur]

/-- the first field of the next item: the item under construction goes to the parent's group entry -/
theorem stepCore_next {tbl : Tbl} {s0 : DS} {f : Frame} {t : Tag} {c : Cont} (v : Bytes)
    (ha : f.members.contains t = true) (hm : tbl.members? t = none) (hh : f.item.has t = true)
    (hg : (cur s0).addGroup f.gtag f.item = .ok c) :
    stepCore tbl (push f s0) t v = .ok (push { f with item := [.leaf t v] } (setCur s0 c)) := by
  have hc := closeTop_push f s0
  rw [hg] at hc
  rw [stepCore_accepts (s := push f s0) v ha]
  simp only [afterClose, hm, push, hh, if_true, hc]

/-- the parent's container while group `g` is open: the completed items `done` sit in a group
entry at the END of the container, which exists only once an item has been completed -/
def addItemsTo (P : Cont) (g : Tag) (done : List (List Node)) : Cont :=
  if done.isEmpty then P else P ++ [.group g done]

theorem addItemsTo_nil (P : Cont) (g : Tag) : addItemsTo P g [] = P := rfl

theorem addItemsTo_ne (P : Cont) (g : Tag) {done : List (List Node)} (h : done ≠ []) :
    addItemsTo P g done = P ++ [.group g done] := by
  cases done with
  | nil => exact absurd rfl h
  | cons a b => rfl

theorem addGroup_addItemsTo {P : Cont} {g : Tag} (done : List (List Node)) (it : Cont)
    (h : P.has g = false) :
    (addItemsTo P g done).addGroup g it = .ok (addItemsTo P g (done ++ [it])) := by
  -- no entry of `P` is keyed `g`
  have hP : ∀ m ∈ P, (m.tag == g) = false := by simpa [Cont.has] using h
  have hnone : P.find? g = none := List.find?_eq_none.mpr fun m hm => by simp [hP m hm]
  cases done with
  | nil =>
    simp only [addItemsTo_nil, Cont.addGroup, hnone, List.nil_append]
    rfl
  | cons d ds =>
    rw [addItemsTo_ne _ _ (List.cons_ne_nil d ds), addItemsTo_ne _ _ (by simp)]
    have hf : Cont.find? (P ++ [.group g (d :: ds)]) g = some (.group g (d :: ds)) := by
      rw [Cont.find?] at hnone ⊢
      rw [List.find?_append, hnone]
      simp [Node.tag]
    simp only [Cont.addGroup, hf, List.map_append, List.map_cons, List.map_nil,
      BEq.rfl, if_true]
    -- the entries of `P` are left as they are
    congr 2
    refine (List.map_congr_left fun m hm => ?_).trans (List.map_id _)
    have := hP m hm
    cases m with
    | leaf t v => rfl
    | err t => rfl
    | group t items =>
      simp only [Node.tag] at this
      simp only [this, Bool.false_eq_true, if_false, id]

end AsyncFix.Model.Codec
