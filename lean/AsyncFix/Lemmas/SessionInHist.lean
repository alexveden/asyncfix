import AsyncFix.Lemmas.SessionInMsg

/-!
C04: `recv` at top level, and the conditions on events and histories under which the expected number never
goes back.
-/
namespace AsyncFix.Session
open AsyncFix.Generated AsyncFix.Generated.ConnEnum

theorem recv_conn (sr : Msg → Bool) (env : Env) (c : Conn) (m : Msg) :
    (recv sr env c m).1 = (processMessage env sr m c).conn := by rw [recv, M.run_eq]

theorem recv_eff (sr : Msg → Bool) (env : Env) (c : Conn) (m : Msg) :
    (recv sr env c m).2 = (processMessage env sr m c).eff ++ raisedOf (processMessage env sr m c).res := by
  rw [recv, M.run_eq]

@[simp] theorem deliveries_raisedOf {α} (r : Except Exc α) : deliveries (raisedOf r) = [] := by
  cases r <;> rfl

theorem recv_msgOk (sr : Msg → Bool) (env : Env) (c : Conn) (m : Msg) :
    MsgOk c m (recv sr env c m).1.sess.nextIn (deliveries (recv sr env c m).2) := by
  rw [recv_conn, recv_eff, deliveries_append, deliveries_raisedOf, List.append_nil]
  exact (processMessage_spec env sr m c).elim

/-- the peer-triggered backward move of the expected number (finding D6): a Reset-mode SequenceReset
whose NewSeqNo is below the expected number -/
def backwardReset (c : Conn) (m : Msg) : Bool :=
  m.mtype == mSequenceReset && !isGapFill m && (newSeqOf m).any (fun nw => decide (nw < c.sess.nextIn))

theorem moves_forward {c : Conn} {m : Msg} {k : Int} (h : Moves c m k) (hb : backwardReset c m = false) :
    c.sess.nextIn ≤ k := by
  rcases h with h | ⟨-, -, h⟩ | ⟨hm, n, hn, hk, hg⟩
  · omega
  · omega
  · cases hgf : isGapFill m
    · simp [backwardReset, hm, hgf, hk] at hb
      omega
    · have := hg hgf
      omega

/-- events that may appear in the histories of the C04 theorems: everything except a backward reset
from the peer and the application's own `reset_seq_num()` (which restarts the numbering at 1) -/
def okEvent (c : Conn) : Event → Bool
  | .recv _ m => !backwardReset c m
  | .resetSeq => false
  | _ => true

/-- the hypothesis of the history theorem, evaluated along the run -/
def noBackward (sr : Msg → Bool) : Conn → List Event → Bool
  | _, [] => true
  | c, ev :: rest => okEvent c ev && noBackward sr (step sr c ev).1 rest

/-- MsgSeqNums of the delivered messages -/
def deliveredNums (e : List Effect) : List (Option Int) := (deliveries e).map seqOf

end AsyncFix.Session
