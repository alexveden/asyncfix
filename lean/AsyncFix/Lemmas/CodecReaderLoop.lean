/-
C03, part 3: stream descriptions (`interleave`, `Good`) and the invariant.
`readLoop_good`: run on any buffer content that is a prefix of a good stream, the loop hands over exactly the
frames that end inside it and keeps a suffix that, followed by the rest of the stream, is again a good stream.
`feedAll_good_trunc`: induction over the chunk list, for reads that are a chunking of a PREFIX of a good stream;
`R` is what never arrived (a connection that ends in the middle of the stream) and fixes, by its length, how many
frames are delivered.  `feedAll_good` is the case `R = []`.
-/
import AsyncFix.Lemmas.CodecReaderFrame
import AsyncFix.Model.Codec.Reader
namespace AsyncFix.Model.Codec

/-- `g0 f1 g1 f2 … fn gn` -/
def interleave : List Bytes → List Bytes → Bytes
  | [], _ => []
  | g :: _, [] => g
  | g :: gs, f :: fs => g ++ (f ++ interleave gs fs)

theorem interleave_head (g : Bytes) (l fr : List Bytes) :
    interleave (g :: l) fr = g ++ interleave ([] :: l) fr := by
  cases fr <;> simp [interleave]

/-- the message `decode` returns on the frame alone -/
def msgOf (bs : Bytes) (tbl : Tbl) (f : Bytes) : Msg :=
  match decode bs tbl f with
  | .msg m _ _ => m
  | _ => default

/-- a stream description: frames that decode on their own, separated by marker-free blocks -/
structure Good (bs : Bytes) (tbl : Tbl) (gs frames : List Bytes) : Prop where
  hv : ∀ f ∈ frames, ∃ m, decode bs tbl f = .msg m f.length f
  hg : ∀ g ∈ gs, NoMarker g
  hlen : gs.length = frames.length + 1

def lastG (l : List Bytes) : Bytes := l.getLast?.getD []

/-- what is left in the buffer is short: a proper marker prefix when no frame is outstanding,
otherwise less than the junk and the next frame -/
def Short (b g : Bytes) : List Bytes → Prop
  | [] => ∃ k, k < 6 ∧ b = marker.take k
  | f :: _ => b.length < g.length + f.length

theorem readLoop_junk {bs : Bytes} {tbl : Tbl} {x : Bytes} {acc : List (Msg × Bytes)} (hx : NoMarker x) :
    readLoop bs tbl x acc = { buf := x.drop (x.length - partialMarkerKeep x), delivered := acc } := by
  rw [readLoop_eq, decode_junk hx]

theorem Good.tail {bs : Bytes} {tbl : Tbl} {g0 g1 f : Bytes} {gs fs : List Bytes}
    (h : Good bs tbl (g0 :: g1 :: gs) (f :: fs)) : Good bs tbl (g1 :: gs) fs :=
  ⟨fun x hx => h.hv x (List.mem_cons_of_mem _ hx), fun x hx => h.hg x (List.mem_cons_of_mem _ hx),
    by have := h.hlen; simp only [List.length_cons] at this ⊢; omega⟩

theorem Good.newHead {bs : Bytes} {tbl : Tbl} {g0 g' : Bytes} {gs fs : List Bytes}
    (h : Good bs tbl (g0 :: gs) fs) (hg' : NoMarker g') : Good bs tbl (g' :: gs) fs :=
  ⟨h.hv, fun x hx => by
      rcases List.mem_cons.1 hx with rfl | hx
      · exact hg'
      · exact h.hg x (List.mem_cons_of_mem _ hx),
    by have := h.hlen; simp only [List.length_cons] at this ⊢; omega⟩

theorem Good.gs_nil {bs : Bytes} {tbl : Tbl} {g0 : Bytes} {gs : List Bytes}
    (h : Good bs tbl (g0 :: gs) []) : gs = [] := by
  have := h.hlen
  simp only [List.length_cons, List.length_nil] at this
  exact List.eq_nil_of_length_eq_zero (by omega)

theorem Good.gs_cons {bs : Bytes} {tbl : Tbl} {g0 f : Bytes} {gs fs : List Bytes}
    (h : Good bs tbl (g0 :: gs) (f :: fs)) : ∃ g1 gs', gs = g1 :: gs' := by
  have := h.hlen
  cases gs with
  | nil => simp at this
  | cons a b => exact ⟨a, b, rfl⟩

theorem msgOf_eq {bs : Bytes} {tbl : Tbl} {f : Bytes} {m : Msg} {n : Nat} {raw : Bytes}
    (h : decode bs tbl f = .msg m n raw) : msgOf bs tbl f = m := by
  simp only [msgOf, h]

/-- one buffer content `X` that is a prefix of a good stream: the loop hands over exactly the frames
that end inside `X`; what it keeps, followed by the rest of the stream, is again a good stream.
The `drop` / suffix clause ties the new description to the given one (`g'` is what is left of the block `gj` in front of
the first outstanding frame): Props/C03 speaks of the blocks of the ORIGINAL description (`gs.drop j`, `lastG gs`). -/
theorem readLoop_good {bs : Bytes} {tbl : Tbl} :
    ∀ (frames : List Bytes) (g0 : Bytes) (gs : List Bytes) (X R : Bytes) (acc : List (Msg × Bytes)),
      Good bs tbl (g0 :: gs) frames → X ++ R = interleave (g0 :: gs) frames →
      ∃ (done left : List Bytes) (g' : Bytes) (gsl : List Bytes) (b' : Bytes),
        frames = done ++ left ∧
        readLoop bs tbl X acc =
          { buf := b', delivered := acc ++ done.map (fun f => (msgOf bs tbl f, f)) } ∧
        Good bs tbl (g' :: gsl) left ∧ b' ++ R = interleave (g' :: gsl) left ∧
        (∃ gj, (g0 :: gs).drop done.length = gj :: gsl ∧ g' <:+ gj) ∧ Short b' g' left := by
  intro frames
  induction frames with
  | nil =>
    intro g0 gs X R acc hgood hs
    cases hgood.gs_nil
    simp only [interleave] at hs
    have hg0 : NoMarker g0 := hgood.hg g0 (by simp)
    have hX : NoMarker X := NoMarker_of_prefix (hs ▸ hg0)
    obtain ⟨hk5, hkl, hkeq, _⟩ := pmk_spec X
    have hrl := readLoop_junk (bs := bs) (tbl := tbl) (acc := acc) hX
    generalize partialMarkerKeep X = k at hk5 hkl hkeq hrl
    have hdrop : X.drop (X.length - k) ++ R = g0.drop (X.length - k) := by
      rw [← hs, List.drop_append_of_le_length (by omega)]
    refine ⟨[], [], X.drop (X.length - k) ++ R, [], X.drop (X.length - k), rfl, ?_, ?_, rfl, ?_, ?_⟩
    · simpa using hrl
    · exact hgood.newHead (by rw [hdrop]; exact NoMarker_drop hg0 _)
    · exact ⟨g0, rfl, by rw [hdrop]; exact List.drop_suffix _ _⟩
    · exact ⟨k, by omega, hkeq⟩
  | cons f fs ih =>
    intro g0 gs X R acc hgood hs
    obtain ⟨g1, gs', rfl⟩ := hgood.gs_cons
    simp only [interleave] at hs
    obtain ⟨m, hd⟩ := hgood.hv f (by simp)
    have hg0 : NoMarker g0 := hgood.hg g0 (by simp)
    obtain ⟨hfm, _, _, hf6⟩ := self_frame hd
    by_cases hfull : g0.length + f.length ≤ X.length
    · -- the whole frame is in the buffer
      rw [← List.append_assoc] at hs
      obtain ⟨X', rfl, hX'⟩ := append_split_of_le hs.symm (by simpa using hfull)
      have hdec := decode_frame_ctx hd hg0 X'
      obtain ⟨done, left, g', gsl, b', hfr, hrl, hgd, hbr, hdropj, hshort⟩ :=
        ih g1 gs' X' R (acc ++ [(m, f)]) hgood.tail hX'.symm
      refine ⟨f :: done, left, g', gsl, b', by rw [hfr]; rfl, ?_, hgd, hbr, ?_, hshort⟩
      · rw [List.append_assoc, readLoop_eq, hdec]
        dsimp only
        rw [← List.append_assoc, ← List.length_append, List.drop_left, hrl]
        simp only [List.map_cons, msgOf_eq hd, List.append_assoc, List.cons_append, List.nil_append]
      · simpa using hdropj
    · -- the first frame is not complete yet: either the buffer shows no marker, and what `decode` drops lies
      -- inside `g0`, or it is `g0` and a proper prefix of the frame that shows the marker
      have hcases : (NoMarker X ∧ X.length - partialMarkerKeep X ≤ g0.length) ∨
          ∃ p, X = g0 ++ p ∧ p <+: f ∧ 6 ≤ p.length ∧ p.length < f.length ∧
            f ++ interleave (g1 :: gs') fs = p ++ R := by
        by_cases hle : X.length ≤ g0.length
        · obtain ⟨t, ht⟩ : X <+: g0 :=
            List.prefix_of_prefix_length_le (List.prefix_append X R) (hs ▸ List.prefix_append g0 _) hle
          exact Or.inl ⟨NoMarker_of_prefix (ht ▸ hg0), by omega⟩
        · obtain ⟨p, rfl, hp⟩ := append_split_of_le hs.symm (by omega)
          simp only [List.length_append] at hfull hle
          have hpf : p <+: f :=
            List.prefix_of_prefix_length_le (List.prefix_append p R) (hp ▸ List.prefix_append f _) (by omega)
          by_cases h6 : p.length < 6
          · have hpm : p <+: marker :=
              List.prefix_of_prefix_length_le hpf hfm (by rw [marker_length]; omega)
            have hpt : p = marker.take p.length := List.prefix_iff_eq_take.1 hpm
            have : p.length ≤ partialMarkerKeep (g0 ++ p) := by
              refine pmk_ge (by omega) (by simp) ?_
              rw [← hpt, show (g0 ++ p).length - p.length = g0.length by simp, List.drop_left]
            refine Or.inl ⟨?_, by simp only [List.length_append]; omega⟩
            rw [hpt]; exact NoMarker_append_take hg0 _ (by omega)
          · exact Or.inr ⟨p, rfl, hpf, by omega, by omega, hp⟩
      rcases hcases with ⟨hXnm, hdle⟩ | ⟨p, rfl, hpf, h6, hlt, hp⟩
      · obtain ⟨hk5, hkl, hkeq, _⟩ := pmk_spec X
        have hrl := readLoop_junk (bs := bs) (tbl := tbl) (acc := acc) hXnm
        generalize hd' : X.length - partialMarkerKeep X = d at *
        have hdrop : X.drop d ++ R = g0.drop d ++ (f ++ interleave (g1 :: gs') fs) := by
          rw [← List.drop_append_of_le_length hdle, ← hs, List.drop_append_of_le_length (by omega)]
        refine ⟨[], f :: fs, g0.drop d, g1 :: gs', X.drop d, rfl, ?_, ?_, ?_, ?_, ?_⟩
        · simpa using hrl
        · exact hgood.newHead (NoMarker_drop hg0 _)
        · simpa only [interleave] using hdrop
        · exact ⟨g0, rfl, List.drop_suffix _ _⟩
        · show (X.drop d).length < (g0.drop d).length + f.length
          rw [hkeq]
          simp only [List.length_take, marker_length, List.length_drop]
          omega
      · have hdec := decode_frame_prefix hd hg0 hpf hlt h6
        refine ⟨[], f :: fs, [], g1 :: gs', p, rfl, ?_, ?_, ?_, ?_, ?_⟩
        · rw [readLoop_eq, hdec]; simp
        · exact hgood.newHead (g' := []) rfl
        · simpa only [interleave, List.nil_append] using hp.symm
        · exact ⟨g0, rfl, List.nil_suffix⟩
        · show p.length < ([] : Bytes).length + f.length
          simp only [List.length_nil]; omega

theorem good_of {bs : Bytes} {tbl : Tbl} {frames gs : List Bytes}
    (hv : ∀ f ∈ frames, ∃ m, decode bs tbl f = .msg m f.length f)
    (hg : ∀ g ∈ gs, NoMarker g) (hlen : gs.length = frames.length + 1) :
    ∃ g0 gs', gs = g0 :: gs' ∧ Good bs tbl (g0 :: gs') frames := by
  cases gs with
  | nil => simp at hlen
  | cons g0 gs' => exact ⟨g0, gs', rfl, ⟨hv, hg, hlen⟩⟩

theorem short_nil {bs : Bytes} {tbl : Tbl} {frames : List Bytes} (g0 : Bytes)
    (hv : ∀ f ∈ frames, ∃ m, decode bs tbl f = .msg m f.length f) :
    Short [] g0 frames := by
  cases frames with
  | nil => exact ⟨0, by omega, rfl⟩
  | cons f fs =>
    obtain ⟨_, hd⟩ := hv f (by simp)
    have := (self_frame hd).2.2.2
    show ([] : Bytes).length < g0.length + f.length
    simp only [List.length_nil]; omega

/-- two such clauses in a row, as `feedAll_good_trunc` meets them read after read -/
theorem drop_compose {G : List Bytes} {a b : Nat} {gj gj2 g1 g2 : Bytes} {gsl1 gsl2 : List Bytes}
    (h1 : G.drop a = gj :: gsl1) (hs1 : g1 <:+ gj)
    (h2 : (g1 :: gsl1).drop b = gj2 :: gsl2) (hs2 : g2 <:+ gj2) :
    ∃ gj', G.drop (a + b) = gj' :: gsl2 ∧ g2 <:+ gj' := by
  cases b with
  | zero =>
    simp only [List.drop_zero, List.cons.injEq] at h2
    obtain ⟨rfl, rfl⟩ := h2
    exact ⟨gj, by simpa using h1, hs2.trans hs1⟩
  | succ k =>
    simp only [List.drop_succ_cons] at h2
    refine ⟨gj2, ?_, hs2⟩
    rw [← List.drop_drop, h1, List.drop_succ_cons, h2]

theorem feedAll_good_trunc {bs : Bytes} {tbl : Tbl} (R : Bytes) :
    ∀ (chunks : List Bytes) (buf : Bytes) (acc : List (Msg × Bytes)) (frames : List Bytes) (g0 : Bytes)
      (gs : List Bytes),
      Good bs tbl (g0 :: gs) frames → buf ++ (chunks.flatten ++ R) = interleave (g0 :: gs) frames →
      Short buf g0 frames →
      ∃ (done left : List Bytes) (g' gj : Bytes) (gsl : List Bytes),
        frames = done ++ left ∧
        (feedAll bs tbl buf chunks acc).2 = acc ++ done.map (fun f => (msgOf bs tbl f, f)) ∧
        Good bs tbl (g' :: gsl) left ∧
        (feedAll bs tbl buf chunks acc).1 ++ R = interleave (g' :: gsl) left ∧
        (g0 :: gs).drop done.length = gj :: gsl ∧ g' <:+ gj ∧
        Short (feedAll bs tbl buf chunks acc).1 g' left := by
  intro chunks
  induction chunks with
  | nil =>
    intro buf acc frames g0 gs hgood hs hshort
    refine ⟨[], frames, g0, g0, gs, rfl, by simp [feedAll], hgood, by simpa [feedAll] using hs, rfl,
      List.suffix_refl _, by simpa [feedAll] using hshort⟩
  | cons c cs ih =>
    intro buf acc frames g0 gs hgood hs hshort
    simp only [List.flatten_cons, List.append_assoc] at hs
    rw [← List.append_assoc] at hs
    obtain ⟨done, left, g', gsl, b', hfr, hrl, hgd, hbr, ⟨gj, hdj, hsj⟩, hsh'⟩ :=
      readLoop_good frames g0 gs (buf ++ c) (cs.flatten ++ R) [] hgood hs
    obtain ⟨done2, left2, g2, gj2, gsl2, hfr2, hdel2, hgd2, hbr2, hdj2, hsj2, hsh2⟩ :=
      ih b' (acc ++ done.map (fun f => (msgOf bs tbl f, f))) left g' gsl hgd hbr hsh'
    have hfeed : feedAll bs tbl buf (c :: cs) acc =
        feedAll bs tbl b' cs (acc ++ done.map (fun f => (msgOf bs tbl f, f))) := by
      simp only [feedAll, feed, hrl, List.nil_append]
    rw [hfeed]
    obtain ⟨gj', hdj', hsj'⟩ := drop_compose hdj hsj hdj2 hsj2
    refine ⟨done ++ done2, left2, g2, gj', gsl2, by rw [hfr, hfr2, List.append_assoc], ?_, hgd2, hbr2, ?_, hsj', hsh2⟩
    · rw [hdel2, List.map_append, List.append_assoc]
    · rw [List.length_append]; exact hdj'

/-- the whole stream has arrived: every frame is delivered and a proper marker prefix from the last block stays -/
theorem feedAll_good {bs : Bytes} {tbl : Tbl} (chunks : List Bytes) (buf : Bytes)
    (acc : List (Msg × Bytes)) (frames : List Bytes) (g0 : Bytes) (gs : List Bytes)
    (hgood : Good bs tbl (g0 :: gs) frames) (hs : buf ++ chunks.flatten = interleave (g0 :: gs) frames)
    (hshort : Short buf g0 frames) :
    (feedAll bs tbl buf chunks acc).2 = acc ++ frames.map (fun f => (msgOf bs tbl f, f)) ∧
    ∃ k, k < 6 ∧ (feedAll bs tbl buf chunks acc).1 = marker.take k ∧
      (feedAll bs tbl buf chunks acc).1 <:+ lastG (g0 :: gs) := by
  obtain ⟨done, left, g', gj, gsl, hfr, hdel, hgd, hbr, hdj, hsj, hsh⟩ :=
    feedAll_good_trunc [] chunks buf acc frames g0 gs hgood (by simpa using hs) hshort
  rw [List.append_nil] at hbr
  cases left with
  | cons f fs =>
    -- an outstanding frame would lie in the buffer entirely
    obtain ⟨g1, gs', rfl⟩ := hgd.gs_cons
    have : (feedAll bs tbl buf chunks acc).1.length < g'.length + f.length := hsh
    rw [hbr] at this
    simp only [interleave, List.length_append] at this
    omega
  | nil =>
    cases hgd.gs_nil
    obtain ⟨k, hk, hbk⟩ := hsh
    rw [List.append_nil] at hfr
    subst hfr
    refine ⟨hdel, k, hk, hbk, ?_⟩
    have hl : (g0 :: gs).getLast? = some gj := by
      have := congrArg List.getLast? hdj
      rw [List.getLast?_drop] at this
      split at this
      · cases this
      · exact this
    rw [hbr, lastG, hl]
    exact hsj

end AsyncFix.Model.Codec
