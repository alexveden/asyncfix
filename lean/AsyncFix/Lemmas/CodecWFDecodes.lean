/-
Every structurally valid frame decodes on its own.

`WFFrame bs f` (Model/Codec/Frame.lean) says: `f = mkFrame bs fs` for body fields with decodable
tags (none of them CheckSum(10)), SOH-free values, and a BodyLength within CPython's `int()` digit
limit.  Nothing is assumed about the group table or about the group structure of the fields.
Then `decode bs tbl f` is a message that consumes exactly `f`:

 * the outcome of `decode` on such a frame is the class of its fields (`decode_mkFrame_of`, CodecFrame), and on
   them the loop is the structured one over `frameFlds bs fs = preFlds bs fs ++ [⟨"10", dec3 ck⟩]`,
   `ck = frameCk bs fs` (`fieldLoop_frameFields`, `fieldLoopF_eq_stepAll`: no guard is left);
 * the loop does not raise: `stepField_ok` with the invariant `Inv` (CodecNoRaise), whatever the
   group logic does with the fields;
 * `ckPassed` is true at the end: the bookkeeping on (mtype, ckPassed) is independent of the group
   logic (`stepAll_eq`), the LAST field has tag "10" and sets `ckPassed := (ckParse (dec3 ck) == some ck)`
   (`bkAll_snd_tag10`), nothing after it can reset it, and `ckParse (dec3 ck) = some ck` for `ck < 1000`.

`decode_mkFrame_top` puts these together for whatever state the loop ends in; the round trip (`Props.C01.decode_flat`)
uses it with the state `stepAll_wfTop` computes.
-/
import AsyncFix.Lemmas.CodecGroupsCore
import AsyncFix.Lemmas.CodecFrame
import AsyncFix.Lemmas.CodecNoRaise
namespace AsyncFix.Model.Codec

theorem stepAll_ok (tbl : Tbl) (ck : Nat) (fs : List Fld) :
    ∀ (s : DState), Inv tbl s → ∃ s', stepAll tbl ck s fs = .ok s' ∧ Inv tbl s' := by
  induction fs with
  | nil => intro s hi; exact ⟨s, rfl, hi⟩
  | cons f rest ih =>
    intro s hi
    obtain ⟨s1, h1, h2⟩ := stepField_ok ck f.tag f.val hi
    simp only [stepAll, h1]
    exact ih s1 h2

theorem stepAll_ckPassed (tbl : Tbl) (ck : Nat) (d d' : DState) (fs : List Fld) (v : Bytes)
    (h : stepAll tbl ck d (fs ++ [⟨tag10, v⟩]) = .ok d') :
    d'.ckPassed = (ckParse v == some ck) := by
  rw [stepAll_eq] at h
  split at h
  · cases h
  · simp only [Except.ok.injEq] at h
    rw [← h]
    exact bkAll_snd_tag10 ck (d.mtype, d.ckPassed) fs v

/-- On a frame built from `okFields` the decoder's bookkeeping is settled whatever the group logic does with the
fields: the reported type is the value of the last field tagged 35, and the CheckSum comparison succeeds.  So
`decode` returns the container the field loop leaves, consumes the frame and hands back its bytes. -/
theorem decode_mkFrame_top (bs : Bytes) (tbl : Tbl) (fs : List Fld)
    (hb : okBegin bs = true) (hf : okFields fs = true)
    (hd : (natToDec (bodyBytes fs).length).length ≤ maxStrDigits) {s : DState}
    (hs : stepAll tbl (frameCk bs fs) {} (frameFlds bs fs) = .ok s) :
    decode bs tbl (mkFrame bs fs) =
      .msg { mtype := lastMtype (preFlds bs fs), body := s.top } (mkFrame bs fs).length (mkFrame bs fs) := by
  have hck : s.ckPassed = true := by
    rw [stepAll_ckPassed tbl _ _ _ (preFlds bs fs) (dec3 (frameCk bs fs)) hs,
      ckParse_dec3 _ (Nat.lt_trans (frameCk_lt bs fs) (by decide))]
    exact beq_self_eq_true _
  have hmt : s.mtype = lastMtype (preFlds bs fs) := by
    rw [stepAll_eq] at hs
    split at hs
    · cases hs
    · cases hs
      -- the CheckSum field is not tagged 35
      simp [bkAll_fst, frameFlds, ckFld, lastMtype, List.foldl_append, tag35]
  have hl : fieldLoop tbl (cksumOf (frameFields bs fs)) {} (frameFields bs fs) = .ok (some s) := by
    rw [ckExpected_frameFields bs fs, frameFields_eq, fieldLoop_frameFields _ _ _ _ (okTag_frameFlds bs fs hf),
      fieldLoopF_eq_stepAll, hs]
  rw [← hmt, decode_mkFrame_of hb hf (.msg (frameFields_tail_ne bs fs) (hdr_mkFrame bs fs hd) (Nat.le_refl _) hl hck),
    Nat.zero_add]

/-- **every valid frame decodes on its own** – for every group table and every `okFields`
field list (the fields need not form a well-formed group structure) -/
theorem wfframe_decodes (bs : Bytes) (tbl : Tbl) (f : Bytes) (hb : okBegin bs = true)
    (h : WFFrame bs f) :
    ∃ m, decode bs tbl f = .msg m f.length f := by
  obtain ⟨fs, rfl, hf, hd⟩ := h
  obtain ⟨s, hs, _⟩ := stepAll_ok tbl (frameCk bs fs) (frameFlds bs fs) {} (Inv_init tbl)
  exact ⟨_, decode_mkFrame_top bs tbl fs hb hf hd hs⟩

/-! ### non-vacuity

`8=FIX.4.4|9=27|35=D|268=2|55=A|999=x|55=B|10=…|` against a table in which 268 is a group with
members 269, 270: the body fields do NOT form a well-formed group (55 is not a member, the count
says 2 and no item follows) – `WFFrame` holds and the theorem applies all the same. -/

def exBegin : Bytes := [70, 73, 88, 46, 52, 46, 52]
def exTblW : Tbl := [([50, 54, 56], [[50, 54, 57], [50, 55, 48]])]
def exFsW : List Fld := [⟨[51, 53], [68]⟩, ⟨[50, 54, 56], [50]⟩, ⟨[53, 53], [65]⟩,
  ⟨[57, 57, 57], [120]⟩, ⟨[53, 53], [66]⟩]

example : okBegin exBegin = true ∧ WFFrame exBegin (mkFrame exBegin exFsW) ∧
    (∃ m, decode exBegin exTblW (mkFrame exBegin exFsW) =
      .msg m (mkFrame exBegin exFsW).length (mkFrame exBegin exFsW)) := by
  have hb : okBegin exBegin = true := by decide +kernel
  have hw : WFFrame exBegin (mkFrame exBegin exFsW) :=
    ⟨exFsW, rfl, by decide +kernel, by decide +kernel⟩
  exact ⟨hb, hw, wfframe_decodes exBegin exTblW _ hb hw⟩

end AsyncFix.Model.Codec
