/-
`flatCont` is what the encoder emits, and its fields are decodable:
 (a) `addCont c = .ok ((flatCont c).map …)` for every container without `.err` entries at any
     level (`addCont_flat`), in particular every well-formed one (`addCont_wf`);
 (b) every field of `flatCont c` has an `okTag` tag and a SOH-free value when `c` is well-formed
     (`flatCont_okFld`); `okFields (flatCont c)` needs in addition that no field – at any nesting
     level – carries tag "10" (`okFields_flatCont`), which follows from `wfTop` when no member
     list of the group table contains "10" (`flatCont_no10`, `okFields_flatCont_wfTop`).
-/
import AsyncFix.Model.Codec.Encode
import AsyncFix.Lemmas.CodecDec
import AsyncFix.Lemmas.CodecGroupsWf
namespace AsyncFix.Model.Codec

mutual
/-- no `RepeatingTagError` marker at any level -/
def noErrNode : Node → Bool
  | .leaf _ _ => true
  | .err _ => false
  | .group _ items => noErrItems items
def noErrItems : List (List Node) → Bool
  | [] => true
  | it :: rest => noErrCont it && noErrItems rest
def noErrCont : List Node → Bool
  | [] => true
  | n :: rest => noErrNode n && noErrCont rest
end

def fb (f : Fld) : Bytes := fieldBytes f.tag f.val

theorem flatCont_append (a b : List Node) : flatCont (a ++ b) = flatCont a ++ flatCont b := by
  induction a with
  | nil => rfl
  | cons n rest ih => simp only [List.cons_append, flatCont, ih, List.append_assoc]

/-- a container of plain entries (e.g. the header fields) flattens to itself -/
theorem flatCont_leaves (fs : List Fld) : flatCont (fs.map fun f => .leaf f.tag f.val) = fs := by
  induction fs with
  | nil => rfl
  | cons f rest ih => simp only [List.map_cons, flatCont, flatNode, ih, List.cons_append, List.nil_append]

theorem addCont_leaves (fs : List Fld) :
    addCont (fs.map fun f => .leaf f.tag f.val) = .ok (fs.map fun f => fieldBytes f.tag f.val) := by
  induction fs with
  | nil => rfl
  | cons f rest ih => simp only [List.map_cons, addCont, ih, addTag]; rfl

mutual
theorem addTag_flat : (n : Node) → noErrNode n = true → addTag n = .ok ((flatNode n).map fb)
  | .leaf t v, _ => rfl
  | .err t, h => by simp [noErrNode] at h
  | .group g items, h => by
    simp only [noErrNode] at h
    simp only [addTag, addItems_flat items h, flatNode, List.map_cons]
    rfl
theorem addItems_flat : (items : List (List Node)) → noErrItems items = true →
    addItems items = .ok ((flatItems items).map fb)
  | [], _ => rfl
  | it :: rest, h => by
    simp only [noErrItems, Bool.and_eq_true] at h
    simp only [addItems, addCont_flat it h.1, addItems_flat rest h.2, flatItems, List.map_append]
theorem addCont_flat : (c : List Node) → noErrCont c = true →
    addCont c = .ok ((flatCont c).map fb)
  | [], _ => rfl
  | n :: rest, h => by
    simp only [noErrCont, Bool.and_eq_true] at h
    simp only [addCont, addTag_flat n h.1, addCont_flat rest h.2, flatCont, List.map_append]
end

mutual
theorem noErr_of_wfNode (tbl : Tbl) : (n : Node) → wfNode tbl n = true → noErrNode n = true
  | .leaf _ _, _ => rfl
  | .err _, h => by simp [wfNode] at h
  | .group g items, h => by
    obtain ⟨ms, -, -, -, hwi⟩ := wfNode_group h
    simp only [noErrNode]
    exact noErr_of_wfItems tbl ms items hwi
theorem noErr_of_wfItems (tbl : Tbl) (ms : List Tag) : (items : List (List Node)) →
    wfItems tbl ms items = true → noErrItems items = true
  | [], _ => rfl
  | it :: rest, h => by
    simp only [noErrItems, Bool.and_eq_true]
    exact ⟨noErr_of_wfNodes tbl (some ms) [] it (wfItem_wfNodes (wfItems_head h)),
      noErr_of_wfItems tbl ms rest (wfItems_tail h)⟩
theorem noErr_of_wfNodes (tbl : Tbl) (ms? : Option (List Tag)) (seen : List Tag) :
    (c : List Node) → wfNodes tbl ms? seen c = true → noErrCont c = true
  | [], _ => rfl
  | n :: rest, h => by
    simp only [noErrCont, Bool.and_eq_true]
    exact ⟨noErr_of_wfNode tbl n (wfNodes_head h).1,
      noErr_of_wfNodes tbl ms? (n.tag :: seen) rest (wfNodes_tail h)⟩
end

theorem addCont_wf {tbl : Tbl} {ms? : Option (List Tag)} {seen : List Tag} {c : List Node}
    (h : wfNodes tbl ms? seen c = true) :
    addCont c = .ok ((flatCont c).map fun f => fieldBytes f.tag f.val) :=
  addCont_flat c (noErr_of_wfNodes tbl ms? seen c h)

theorem addCont_wfTop {tbl : Tbl} {c : Cont} (h : wfTop tbl c = true) :
    addCont c = .ok ((flatCont c).map fun f => fieldBytes f.tag f.val) := by
  exact addCont_wf (wfTop_nodes h)

/-- a field the decoder's guards accept and that cannot break the SOH framing -/
def okFld (f : Fld) : Bool := okTag f.tag && !f.val.contains SOH

mutual
theorem flatNode_okFld (tbl : Tbl) : (n : Node) → wfNode tbl n = true →
    (flatNode n).all okFld = true
  | .leaf t v, h => by
    simp only [wfNode, Bool.and_eq_true] at h
    simp only [flatNode, List.all_cons, List.all_nil, Bool.and_true, okFld, Bool.and_eq_true]
    exact ⟨h.1.1, h.1.2⟩
  | .err _, h => by simp [wfNode] at h
  | .group g items, h => by
    obtain ⟨ms, -, hg, -, hwi⟩ := wfNode_group h
    simp only [flatNode, List.all_cons, Bool.and_eq_true, okFld, natToDec_no_SOH, Bool.not_false]
    exact ⟨⟨hg, trivial⟩, flatItems_okFld tbl ms items hwi⟩
theorem flatItems_okFld (tbl : Tbl) (ms : List Tag) : (items : List (List Node)) →
    wfItems tbl ms items = true → (flatItems items).all okFld = true
  | [], _ => rfl
  | it :: rest, h => by
    simp only [flatItems, List.all_append, Bool.and_eq_true]
    exact ⟨flatCont_okFld tbl (some ms) [] it (wfItem_wfNodes (wfItems_head h)),
      flatItems_okFld tbl ms rest (wfItems_tail h)⟩
theorem flatCont_okFld (tbl : Tbl) (ms? : Option (List Tag)) (seen : List Tag) :
    (c : List Node) → wfNodes tbl ms? seen c = true → (flatCont c).all okFld = true
  | [], _ => rfl
  | n :: rest, h => by
    simp only [flatCont, List.all_append, Bool.and_eq_true]
    exact ⟨flatNode_okFld tbl n (wfNodes_head h).1,
      flatCont_okFld tbl ms? (n.tag :: seen) rest (wfNodes_tail h)⟩
end

theorem okFields_flatCont {tbl : Tbl} {ms? : Option (List Tag)} {seen : List Tag} {c : List Node}
    (h : wfNodes tbl ms? seen c = true) (h10 : ∀ f ∈ flatCont c, f.tag ≠ tag10) :
    okFields (flatCont c) = true := by
  have hk := flatCont_okFld tbl ms? seen c h
  simp only [okFields, List.all_eq_true, Bool.and_eq_true, bne_iff_ne, ne_eq] at hk ⊢
  intro f hf
  have := hk f hf
  simp only [okFld, Bool.and_eq_true] at this
  exact ⟨⟨this.1, h10 f hf⟩, this.2⟩

/-- no group of the table lists CheckSum(10) as a member (decidable; true of the FIX 4.4 table) -/
def tblNo10 (tbl : Tbl) : Bool := tbl.all fun p => !p.2.contains tag10

theorem members_no10 {tbl : Tbl} {g : Tag} {ms : List Tag} (ht : tblNo10 tbl = true)
    (hm : tbl.members? g = some ms) : ms.contains tag10 = false := by
  unfold Tbl.members? at hm
  split at hm
  · next p hp =>
    cases hm
    have := List.all_eq_true.mp ht p (List.mem_of_find?_eq_some hp)
    simpa using this
  · cases hm

mutual
theorem flatNode_no10 (tbl : Tbl) (ht : tblNo10 tbl = true) : (n : Node) → wfNode tbl n = true →
    n.tag ≠ tag10 → ∀ f ∈ flatNode n, f.tag ≠ tag10
  | .leaf t v, _, hn => by
    intro f hf
    simp only [flatNode, List.mem_singleton] at hf
    subst hf; exact hn
  | .err _, h, _ => by simp [wfNode] at h
  | .group g items, h, hn => by
    obtain ⟨ms, hm, -, -, hwi⟩ := wfNode_group h
    intro f hf
    simp only [flatNode, List.mem_cons] at hf
    rcases hf with rfl | hf
    · exact hn
    · exact flatItems_no10 tbl ht ms items hwi (members_no10 ht hm) f hf
theorem flatItems_no10 (tbl : Tbl) (ht : tblNo10 tbl = true) (ms : List Tag) :
    (items : List (List Node)) → wfItems tbl ms items = true → ms.contains tag10 = false →
    ∀ f ∈ flatItems items, f.tag ≠ tag10
  | [], _, _ => by intro f hf; cases hf
  | it :: rest, h, hms => by
    intro f hf
    simp only [flatItems, List.mem_append] at hf
    have hw := wfItem_wfNodes (wfItems_head h)
    rcases hf with hf | hf
    · refine flatCont_no10 tbl ht (some ms) [] it hw ?_ f hf
      intro n hn he
      have := wfNodes_mem_inMs hw n hn
      rw [he] at this
      simp only [inMs] at this
      rw [this] at hms; cases hms
    · exact flatItems_no10 tbl ht ms rest (wfItems_tail h) hms f hf
theorem flatCont_no10 (tbl : Tbl) (ht : tblNo10 tbl = true) (ms? : Option (List Tag))
    (seen : List Tag) : (c : List Node) → wfNodes tbl ms? seen c = true →
    (∀ n ∈ c, n.tag ≠ tag10) → ∀ f ∈ flatCont c, f.tag ≠ tag10
  | [], _, _ => by intro f hf; cases hf
  | n :: rest, h, hc => by
    intro f hf
    simp only [flatCont, List.mem_append] at hf
    rcases hf with hf | hf
    · exact flatNode_no10 tbl ht n (wfNodes_head h).1 (hc n (List.mem_cons_self ..)) f hf
    · exact flatCont_no10 tbl ht ms? (n.tag :: seen) rest (wfNodes_tail h)
        (fun m hm => hc m (List.mem_cons_of_mem _ hm)) f hf
end

theorem okFields_flatCont_wfTop {tbl : Tbl} {c : Cont} (h : wfTop tbl c = true)
    (ht : tblNo10 tbl = true) : okFields (flatCont c) = true := by
  obtain ⟨hw, _, hnot, _⟩ := wfTop_iff.1 h
  refine okFields_flatCont hw (flatCont_no10 tbl ht none [] c hw ?_)
  intro n hn he
  have : Cont.has c tag10 = true := List.any_eq_true.mpr ⟨n, hn, by rw [he]; exact beq_self_eq_true _⟩
  rw [has_eq_contTags, hnot] at this; cases this

end AsyncFix.Model.Codec
