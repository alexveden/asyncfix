import AsyncFix.Lemmas.LinkRecvSim
import AsyncFix.Lemmas.LinkConnSim

/-!
C07: **the abstraction commutes with the step functions** on well-formed Link states, and well-formedness is an
invariant: `absLink (step l ev) = astep (absLink l) (absEv ev)`.
-/
namespace AsyncFix.Link

open AsyncFix.Session AsyncFix.Generated AsyncFix.Generated.ConnEnum
open AsyncFix.Session.Msg AsyncFix.Session.Rows

def absRes (c : Conn) (eff : List Effect) : ARes :=
  { c := absConn c, wr := (writesOf eff).map absFrame, dl := (deliveriesOf eff).map absDelivered }

theorem absLink_absorb (l : Link) (s : Side) (c : Conn) (eff : List Effect) :
    absLink (l.absorb s c eff) = (absLink l).absorb s (absRes c eff) := by
  cases s <;> simp [absLink, Link.absorb, ALink.absorb, absRes, List.map_append]

theorem absLink_noteAccepted (l : Link) (s : Side) (m : Msg) :
    absLink (l.noteAccepted s m) = (absLink l).noteAccepted s (payloadOf m) := by
  cases s <;> simp [absLink, Link.noteAccepted, ALink.noteAccepted, List.map_append]

theorem absLink_pop (l : Link) (s : Side) : absLink (l.pop s) = (absLink l).pop s := by
  cases s <;> simp [absLink, Link.pop, ALink.pop, List.map_tail]

theorem absLink_conn (l : Link) (s : Side) : (absLink l).conn s = absConn (l.conn s) := by
  cases s <;> rfl

theorem absLink_queueTo (l : Link) (s : Side) : (absLink l).queueTo s = (l.queueTo s).map absFrame := by
  cases s <;> rfl

theorem absRes_of_stepOK {s : Side} {r : ARes} {c : Conn} {eff : List Effect} (h : StepOK s r c eff) :
    absRes c eff = r := by
  cases r
  simp only [absRes, h.conn, h.wr, h.dl]

theorem LinkGood.conn {l : Link} (h : LinkGood l) (s : Side) : ConnGood s (l.conn s) := by
  cases s
  · exact h.i
  · exact h.a

theorem LinkGood.queue {l : Link} (h : LinkGood l) (s : Side) :
    ∀ f ∈ l.queueTo s, FrameGood s.other.name s.name f := by
  cases s
  · exact h.toI
  · exact h.toA

theorem linkGood_absorb {l : Link} (h : LinkGood l) (s : Side) {c : Conn} {eff : List Effect}
    (hc : ConnGood s c) (hf : ∀ g ∈ writesOf eff, FrameGood s.name s.other.name g) :
    LinkGood (l.absorb s c eff) := by
  cases s
  · refine ⟨hc, h.a, ?_, h.toI⟩
    intro f hf'
    rcases List.mem_append.mp hf' with hf' | hf'
    · exact h.toA f hf'
    · exact hf f hf'
  · refine ⟨h.i, hc, h.toA, ?_⟩
    intro f hf'
    rcases List.mem_append.mp hf' with hf' | hf'
    · exact h.toI f hf'
    · exact hf f hf'

theorem linkGood_noteAccepted {l : Link} (h : LinkGood l) (s : Side) (m : Msg) : LinkGood (l.noteAccepted s m) := by
  cases s <;> exact ⟨h.i, h.a, h.toA, h.toI⟩

theorem linkGood_pop {l : Link} (h : LinkGood l) (s : Side) : LinkGood (l.pop s) := by
  cases s
  · exact ⟨h.i, h.a, h.toA, fun f hf => h.toI f (List.mem_of_mem_tail hf)⟩
  · exact ⟨h.i, h.a, fun f hf => h.toA f (List.mem_of_mem_tail hf), h.toI⟩

theorem absorb_conn_other (l : Link) (s : Side) (c : Conn) (eff : List Effect) :
    (l.absorb s c eff).conn s.other = l.conn s.other := by
  cases s <;> rfl

theorem stepCore_sim (l : Link) (ev : Ev) (hg : LinkGood l) (hwf : ev.wf = true) :
    absLink (stepCore l ev) = astep (absLink l) (absEv ev) ∧ LinkGood (stepCore l ev) := by
  cases ev with
  | appSend s env m =>
    simp only [Ev.wf, Bool.and_eq_true] at hwf
    have hsim := appSend_sim (env := env) (hg.conn s) hwf.1 hwf.2
    simp only [stepCore, absEv, astep, absLink_conn]
    by_cases hcond : ((absConn (l.conn s)).canSend && msgLatin1 m) = true
    · rw [if_pos hcond] at hsim
      obtain ⟨hstep, hr⟩ := hsim
      rw [if_pos hcond]
      cases hres : Session.appSend env (l.conn s) m with
      | mk c eff =>
        rw [hres] at hstep hr
        simp only [hr, Bool.false_eq_true, if_false]
        refine ⟨?_, linkGood_noteAccepted (linkGood_absorb hg s hstep.good hstep.frames) s m⟩
        rw [absLink_noteAccepted, absLink_absorb, absRes_of_stepOK hstep]
    · rw [if_neg hcond] at hsim
      obtain ⟨h1, h2, h3, h4⟩ := hsim
      rw [if_neg hcond]
      cases hres : Session.appSend env (l.conn s) m with
      | mk c eff =>
        rw [hres] at h1 h2 h3 h4
        simp only at h1 h2 h3 h4
        simp only [h4, if_true]
        subst h1
        refine ⟨?_, linkGood_absorb hg s (hg.conn s) (by simp [h2])⟩
        rw [absLink_absorb]
        cases s <;> simp [ALink.absorb, absRes, h2, h3, absLink, Link.conn]
  | deliverNext to env =>
    simp only [Ev.wf] at hwf
    simp only [stepCore, absEv, astep, absLink_queueTo, absLink_conn]
    cases hq : l.queueTo to with
    | nil => exact ⟨by simp, hg⟩
    | cons f rest =>
      simp only [List.map_cons]
      have hfg : FrameGood to.other.name to.name f := hg.queue to f (by rw [hq]; simp)
      have hcg := hg.conn to
      by_cases hs : (l.conn to).sock = true
      · have hne : (absConn (l.conn to)).st ≠ .disc := by rw [Ne, absSt_disc_iff hcg, hs]; decide
        have hstep := recv_sim (env := env) hcg hs hfg hwf
        simp only [hs, Bool.not_true, Bool.false_eq_true, if_false, hne]
        cases hres : Session.recv srAll env (l.conn to) f with
        | mk c eff =>
          rw [hres] at hstep
          refine ⟨?_, linkGood_absorb (linkGood_pop hg to) to hstep.good hstep.frames⟩
          rw [absLink_absorb, absLink_pop, absRes_of_stepOK hstep]
      · have hs' : (l.conn to).sock = false := by simpa using hs
        have hd : (absConn (l.conn to)).st = .disc := (absSt_disc_iff hcg).mpr hs'
        simp only [hs', Bool.not_false, if_true, hd]
        exact ⟨absLink_pop l to, linkGood_pop hg to⟩
  | breakConn env =>
    have hi := eof_sim (env := env) hg.i
    have ha := eof_sim (env := env) hg.a
    have hg0 : LinkGood { l with toA := [], toI := [] } := ⟨hg.i, hg.a, nofun, nofun⟩
    refine ⟨?_, linkGood_absorb (linkGood_absorb hg0 .I hi.good hi.frames) .A ha.good ha.frames⟩
    show absLink (Link.absorb (Link.absorb { l with toA := [], toI := [] } .I (Session.eof env l.i).1
      (Session.eof env l.i).2) .A (Session.eof env l.a).1 (Session.eof env l.a).2) = _
    rw [absLink_absorb, absLink_absorb, absRes_of_stepOK hi, absRes_of_stepOK ha]
    simp [absEv, astep, ALink.absorb, absLink]
  | reconnect env =>
    simp only [Ev.wf] at hwf
    simp only [stepCore, absEv, astep]
    by_cases hs : (l.i.sock || l.a.sock) = true
    · have : ((absLink l).i.st ≠ .disc ∨ (absLink l).a.st ≠ .disc) := by
        rcases Bool.or_eq_true _ _ |>.mp hs with h | h
        · left; show (absConn l.i).st ≠ .disc; rw [Ne, absSt_disc_iff hg.i, h]; decide
        · right; show (absConn l.a).st ≠ .disc; rw [Ne, absSt_disc_iff hg.a, h]; decide
      simp only [hs, if_true]
      have hc : (decide ((absLink l).i.st ≠ .disc) || decide ((absLink l).a.st ≠ .disc)) = true := by
        rcases this with h | h <;> simp [h]
      rw [if_pos hc]
      exact ⟨rfl, hg⟩
    · have hs' : l.i.sock = false ∧ l.a.sock = false := by simpa using hs
      have hdi : (absLink l).i.st = .disc := (absSt_disc_iff hg.i).mpr hs'.1
      have hda : (absLink l).a.st = .disc := (absSt_disc_iff hg.a).mpr hs'.2
      have hc : ¬ ((decide ((absLink l).i.st ≠ .disc) || decide ((absLink l).a.st ≠ .disc)) = true) := by
        simp [hdi, hda]
      rw [if_neg hc]
      simp only [hs, Bool.false_eq_true, if_false]
      have hA := connected_acceptor_sim hg.a hs'.2
      have hI := (connected_initiator_sim (env := env) hg.i hs'.1 hwf).1
      have hg0 : LinkGood { l with toA := [], toI := [] } := ⟨hg.i, hg.a, nofun, nofun⟩
      refine ⟨?_, linkGood_absorb (linkGood_absorb hg0 .A hA.good hA.frames) .I hI.good hI.frames⟩
      show absLink (Link.absorb (Link.absorb { l with toA := [], toI := [] } .A (Session.connected l.a .acceptor).1
        (Session.connected l.a .acceptor).2) .I
        (Session.appSend env (Session.connected l.i .initiator).1 (logonMsg (Session.connected l.i .initiator).1.hb)).1
        ((Session.connected l.i .initiator).2 ++
          (Session.appSend env (Session.connected l.i .initiator).1
            (logonMsg (Session.connected l.i .initiator).1.hb)).2)) = _
      rw [absLink_absorb, absLink_absorb, absRes_of_stepOK hA, absRes_of_stepOK hI]
      simp [ALink.absorb, absLink, AConn.push]

/-- **Simulation.**  On well-formed states the abstraction commutes with the step functions, and
well-formedness is kept. -/
theorem step_sim (l : Link) (ev : Ev) (hg : LinkGood l) (hwf : ev.wf = true) :
    absLink (step l ev) = astep (absLink l) (absEv ev) ∧ LinkGood (step l ev) := by
  have hg' : LinkGood { l with eff := [] } := ⟨hg.i, hg.a, hg.toA, hg.toI⟩
  have := stepCore_sim { l with eff := [] } ev hg' hwf
  exact this

end AsyncFix.Link
