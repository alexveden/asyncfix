import AsyncFix.Lemmas.SessionQuietH

/-!
Session family: step-level lemmas (every `Event`, every start state) behind the C11 history theorems.
-/
namespace AsyncFix.Session

open AsyncFix.Generated.ConnEnum

theorem disc_lt_established {s : Nat} (h : isDisc s = true) : s < st_NETWORK_CONN_ESTABLISHED := by
  have := isDisc_le h
  simp [st_DISCONNECTED_BROKEN_CONN, st_NETWORK_CONN_ESTABLISHED] at *
  omega

theorem disc_ne_active {s : Nat} (h : isDisc s = true) : (s == st_ACTIVE) = false := by
  have := isDisc_le h
  simp [st_DISCONNECTED_BROKEN_CONN, st_ACTIVE] at *
  omega

theorem sendMsg_calm (env : Env) (m : Msg) : CalmFrom (sendMsg env m) :=
  ⟨fun c hc => by rw [sendMsg_refused env c m (Or.inl (disc_lt_established hc))]; exact ⟨rfl, hc⟩⟩

theorem sendTestReq_calm (env : Env) : CalmFrom (sendTestReq env) := by
  constructor
  intro c hc
  rw [sendTestReq_apply]
  split
  · exact ⟨rfl, hc⟩
  · exact (sendMsg_calm env _).out _ hc

theorem processMessage_calm (env : Env) (sr : Msg → Bool) (m : Msg) :
    CalmFrom (processMessage env sr m) := by
  constructor
  intro c hc
  have hlt := disc_lt_established hc
  have hnot : ¬ c.state ≥ st_NETWORK_CONN_ESTABLISHED := by omega
  unfold processMessage
  have hx := validateIntegrity_apply m c
  generalize (validateIntegrity m c).res = r at hx
  cases r with
  | error ex => rw [M.bind_err hx]; exact ⟨rfl, hc⟩
  | ok integ =>
    rw [M.bind_ok hx]
    cases integ with
    | critical => simp [disconnect_of_disc, isDisc_le hc, hc, Calm]
    | reason t => simp [disconnect_of_disc, isDisc_le hc, hc, Calm]
    | good =>
      simp [swallow, processHead, bind, M.bind', M.tryCatch_apply, M.assert_apply, hnot, Calm, hc,
        Effect.calm]

theorem tickBody_calm (env : Env) : CalmFrom (tickBody env) := by
  constructor
  intro c hc
  have hna := disc_ne_active hc
  unfold tickBody
  cases hs : c.sock
  · simp [bind, M.bind', hs, Calm, hc]
  · simp only [bind, M.bind', M.get_apply, hs, Bool.not_true, Bool.false_eq_true, if_false, hna,
      M.pure_apply, List.nil_append, M.ite_apply, disconnect_of_disc, isDisc_le hc]
    split <;> split <;> simp [Calm, hc]

theorem raisedOf_calm {α : Type} (r : Except Exc α) : (raisedOf r).all Effect.calm = true := by
  cases r <;> rfl

/-- what a step guarantees about silence; the flag of `quiet` starts as `isDisc c.state` -/
def StepQ (c : Conn) (out : Conn × List Effect) : Prop :=
  quiet (isDisc c.state) out.2 = true ∧
    (flagAfter (isDisc c.state) out.2 = true → isDisc out.1.state = true)

/-- the flag / state equation of `QSpec` survives `run` -/
theorem run_flag_eq {α : Type} {G : α → Prop} {x : M α} (hq : QS G x) (c : Conn)
    (hc : isDisc c.state = false) :
    quiet false (x.run c).2 = true ∧ isDisc (x.run c).1.state = flagAfter false (x.run c).2 := by
  rw [M.run_eq]
  have hr := calm_quiet (raisedOf_calm (x c).res)
  obtain ⟨h1, h2, _⟩ := hq.out c hc
  refine ⟨?_, ?_⟩
  · show quiet false ((x c).eff ++ raisedOf (x c).res) = true
    rw [quiet_append, h1, (hr _).1]; rfl
  · show isDisc (x c).conn.state = flagAfter false ((x c).eff ++ raisedOf (x c).res)
    rw [flagAfter_append, (hr _).2, h2]

theorem run_calm {α : Type} {x : M α} (h : CalmFrom x) (c : Conn) (hc : isDisc c.state = true) :
    (x.run c).2.all Effect.calm = true ∧ isDisc (x.run c).1.state = true := by
  rw [M.run_eq]
  obtain ⟨h1, h2⟩ := h.out c hc
  refine ⟨?_, h2⟩
  show ((x c).eff ++ raisedOf (x c).res).all Effect.calm = true
  rw [List.all_append, h1, raisedOf_calm]; rfl

theorem run_stepQ {α : Type} {G : α → Prop} {x : M α} (hq : QS G x) (hcalm : CalmFrom x) (c : Conn) :
    StepQ c (x.run c) := by
  unfold StepQ
  cases hc : isDisc c.state with
  | false =>
    obtain ⟨h1, h2⟩ := run_flag_eq hq c hc
    exact ⟨h1, fun hf => by rw [h2]; exact hf⟩
  | true =>
    obtain ⟨h1, h2⟩ := run_calm hcalm c hc
    exact ⟨(calm_quiet h1 true).1, fun _ => h2⟩

theorem connected_stepQ (c : Conn) (k : ConnKind) : StepQ c (connected c k) := by
  unfold connected
  rw [M.run_eq]
  have h6 : isDisc st_NETWORK_CONN_ESTABLISHED = false := rfl
  have h3 : isDisc st_DISCONNECTED_BROKEN_CONN = true := rfl
  cases k <;> cases hs : c.sock <;> cases hd : isDisc c.state <;>
    simp [connectedM, StepQ, bind, M.bind', hs, hd, raisedOf, quiet, flagAfter, Effect.busy, Effect.loud, h6, h3]

/-- a relation that admits `raised` beside the kinds of a handler holds of the handler run as an entry point -/
theorem run_adm {α : Type} {R : Conn → Conn → List Effect → Prop} [Compositional R] {K A : Foot}
    (adm : ∀ k, K k = true → ∀ c c' e, k.sem c c' e → R c c' e) (hr : K .raised = true) (hA : A.sub K = true)
    {x : M α} (h : M.Rel (Fp A) x) (c : Conn) : R c (x.run c).1 (x.run c).2 := by
  rw [M.run_eq]
  refine Compositional.trans (Fp.adm adm hA (h.out c)) ?_
  cases (x c).res with
  | ok a => exact Compositional.refl _
  | error ex => exact adm .raised hr _ _ _ ⟨rfl, ex, rfl⟩

theorem flagAfter_true_noConn {e : List Effect} (hn : e.all notConn = true) : flagAfter true e = true := by
  induction e with
  | nil => rfl
  | cons x xs ih =>
    simp only [List.all_cons, Bool.and_eq_true] at hn
    cases x with
    | onConnect => cases hn.1
    | _ => exact ih hn.2

/-- in a quiet trace without `onConnect` there is at most one `onDisconnect`, and it sets the flag -/
theorem quiet_nDisc {e : List Effect} (hn : e.all notConn = true) (d : Bool) (hq : quiet d e = true) :
    nDisc e = (if d then 0 else if flagAfter d e then 1 else 0) := by
  induction e generalizing d with
  | nil => cases d <;> rfl
  | cons x xs ih =>
    simp only [List.all_cons, Bool.and_eq_true] at hn
    obtain ⟨hx, hxs⟩ := hn
    cases x with
    | onConnect => simp [notConn] at hx
    | onDisconnect =>
      simp only [quiet, Bool.and_eq_true, Bool.not_eq_true'] at hq
      obtain ⟨hd, hq'⟩ := hq
      subst hd
      have := ih hxs true hq'
      simp [nDisc, flagAfter, this, flagAfter_true_noConn hxs]
    | _ =>
      simp only [quiet, Bool.and_eq_true] at hq
      have := ih hxs d hq.2
      simp only [nDisc, flagAfter]
      exact this

theorem calm_plain (x : Effect) (h : x.calm = true) : plainUp x = true := by
  cases x <;> first | rfl | cases h

theorem calm_nDisc {e : List Effect} (h : e.all Effect.calm = true) : nDisc e = 0 :=
  plain_nDisc (all_imp calm_plain h)

theorem calm_not_loud {e : List Effect} (h : e.all Effect.calm = true) : ∀ x ∈ e, x.loud = false := by
  intro x hx
  have := List.all_eq_true.mp h x hx
  cases x <;> first | rfl | cases this

/-! ### the handler behind every event other than transport set-up -/

def handler (sr : Msg → Bool) : Event → Option (M Unit)
  | .recv env m => some (processMessage env sr m)
  | .appSend env m => some (sendMsg env m)
  | .appTestReq env => some (sendTestReq env)
  | .appDisconnect env d l => some (disconnect env d l)
  | .tick env => some (tickBody env)
  | .eof env => some (disconnect env st_DISCONNECTED_BROKEN_CONN none)
  | .resetSeq => some resetSeqNum
  | .connected _ => none

theorem step_handler {sr : Msg → Bool} {ev : Event} {x : M Unit} (h : handler sr ev = some x) (c : Conn) :
    step sr c ev = x.run c ∨ step sr c ev = (c, []) := by
  cases ev <;> simp [handler] at h <;> subst h
  case eof env =>
    show eof env c = _ ∨ eof env c = _
    unfold eof; split
    · exact Or.inl rfl
    · exact Or.inr rfl
  all_goals exact Or.inl rfl

theorem resetSeqNum_calm : CalmFrom resetSeqNum :=
  ⟨fun c hc => by
    have h := resetSeqNum_sil.out c
    have he : (resetSeqNum c).eff = [] := h.1
    have hs : (resetSeqNum c).conn.state = c.state := h.2
    exact ⟨by rw [he]; rfl, by rw [hs]; exact hc⟩⟩

theorem handler_specs {sr : Msg → Bool} {ev : Event} {x : M Unit} (h : handler sr ev = some x) :
    QS (fun _ => True) x ∧ CalmFrom x ∧ ∀ c, RAB c (x.run c).1 (x.run c).2 := by
  cases ev <;> simp [handler] at h <;> subst h
  · exact ⟨processMessage_QS _ _ _, processMessage_calm _ _ _, run_adm RAB.adm rfl rfl (processMessage_fp _ _ _)⟩
  · exact ⟨QS.of_plain (sendMsg_plain _ _), sendMsg_calm _ _, run_adm RAB.adm rfl rfl (sendMsg_fp _ _)⟩
  · exact ⟨QS.of_plain (sendTestReq_plain _), sendTestReq_calm _, run_adm RAB.adm rfl rfl (sendTestReq_fp _)⟩
  · exact ⟨disconnect_QS _ _ _, disconnect_calm _ _ _, run_adm RAB.adm rfl rfl (disconnect_fp _ _ _)⟩
  · exact ⟨tickBody_QS _, tickBody_calm _, run_adm RAB.adm rfl rfl (tickBody_fp _)⟩
  · exact ⟨disconnect_QS _ _ _, disconnect_calm _ _ _, run_adm RAB.adm rfl rfl (disconnect_fp _ _ _)⟩
  · exact ⟨QS.of_plain (RSil.toPlain resetSeqNum_sil), resetSeqNum_calm, run_adm RAB.adm rfl rfl resetSeqNum_fp⟩

theorem step_stepQ (sr : Msg → Bool) (c : Conn) (ev : Event) : StepQ c (step sr c ev) := by
  cases hh : handler sr ev with
  | none =>
    cases ev <;> simp [handler] at hh
    exact connected_stepQ c _
  | some x =>
    rcases step_handler hh c with h | h
    · rw [h]; exact run_stepQ (handler_specs hh).1 (handler_specs hh).2.1 c
    · rw [h]; exact ⟨rfl, fun h => h⟩

theorem connected_effects (c : Conn) (k : ConnKind) :
    nDisc (connected c k).2 = 0 ∧ (∀ s, nTrans s (connected c k).2 = 0) ∧
      (∀ e ∈ (connected c k).2, e.loud = false) := by
  unfold connected
  rw [M.run_eq]
  cases k <;> cases hs : c.sock <;>
    simp [connectedM, bind, M.bind', hs, raisedOf, nDisc, nTrans, Effect.loud]

end AsyncFix.Session
