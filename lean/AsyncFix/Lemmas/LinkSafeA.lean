import AsyncFix.Model.LinkInv

/-!
Link family, safety invariant (`SafeInv`), one direction: journal / `appView` / `frameOK` lemmas (a frame covers the
numbers `[seq, next)`: `frameOK_iff`), the consequences of `Safe` used by the property statements, and the two
generic preservation lemmas

* `safe_send` – the sender `X` of a direction changes by a `SendStep` (journal grows / is rebuilt, frames written);
* `safe_recv` – the receiver `Y` of a direction consumes the head of the queue by a `RecvStep`.
-/
namespace AsyncFix.Link

open AsyncFix.Session

theorem appView_append (A B : AJournal) : appView (A ++ B) = appView A ++ appView B := by
  simp [appView]

theorem mem_appView {J : AJournal} {n : Int} {p : Payload} : (n, p) ∈ appView J ↔ (n, some p) ∈ J := by
  simp only [appView, List.mem_filterMap, Option.map_eq_some_iff, Prod.mk.injEq]
  exact ⟨fun ⟨r, hr, q, hq, h1, h2⟩ => by rw [← h1, ← h2, ← hq]; exact hr, fun h => ⟨_, h, p, rfl, rfl, rfl⟩⟩

theorem appView_sorted {J : AJournal} (h : J.Pairwise (fun a b => a.1 < b.1)) :
    (appView J).Pairwise (fun a b => a.1 < b.1) := by
  refine List.Pairwise.filterMap _ (fun a a' hlt b hb b' hb' => ?_) h
  simp only [Option.map_eq_some_iff] at hb hb'
  obtain ⟨_, _, rfl⟩ := hb
  obtain ⟨_, _, rfl⟩ := hb'
  exact hlt

theorem sorted_functional {α} {L : List (Int × α)} (h : L.Pairwise (fun a b => a.1 < b.1)) {n : Int} {a b : α}
    (ha : (n, a) ∈ L) (hb : (n, b) ∈ L) : a = b := by
  induction L with
  | nil => simp at ha
  | cons x L ih =>
    rw [List.pairwise_cons] at h
    rcases List.mem_cons.1 ha with rfl | ha' <;> rcases List.mem_cons.1 hb with hb' | hb'
    · exact (Prod.mk.inj hb').2.symm
    · have := h.1 _ hb'; simp at this
    · subst hb'; have := h.1 _ ha'; simp at this
    · exact ih h.2 ha' hb'

theorem filter_lt_eq_nil {α} {L : List (Int × α)} {e : Int} (h : ∀ r ∈ L, e ≤ r.1) :
    L.filter (fun r => r.1 < e) = [] := by
  rw [List.filter_eq_nil_iff]
  intro r hr
  have := h r hr
  simp; omega

theorem filter_lt_eq_self {α} {L : List (Int × α)} {e : Int} (h : ∀ r ∈ L, r.1 < e) :
    L.filter (fun r => r.1 < e) = L := by
  rw [List.filter_eq_self]
  intro r hr
  simpa using h r hr

theorem filter_split {α} {L : List (Int × α)} (h : L.Pairwise (fun a b => a.1 < b.1)) (b : Int) :
    L.filter (fun r => r.1 < b) ++ L.filter (fun r => b ≤ r.1) = L := by
  induction L with
  | nil => simp
  | cons x L ih =>
    rw [List.pairwise_cons] at h
    by_cases hx : x.1 < b
    · rw [List.filter_cons_of_pos (by simpa using hx), List.filter_cons_of_neg (by simp; omega)]
      simp [ih h.2]
    · rw [List.filter_cons_of_neg (by simpa using hx), List.filter_cons_of_pos (by simp; omega)]
      rw [filter_lt_eq_nil (fun r hr => by have := h.1 r hr; omega)]
      have : L.filter (fun r => decide (b ≤ r.1)) = L := by
        rw [List.filter_eq_self]
        intro r hr
        have := h.1 r hr
        simp; omega
      simp [this]

theorem filter_lt_prefix {α} {L : List (Int × α)} (h : L.Pairwise (fun a b => a.1 < b.1)) (e : Int) :
    L.filter (fun r => r.1 < e) <+: L := ⟨_, filter_split h e⟩

theorem filter_succ_of_mem {L : List (Int × Payload)} (h : L.Pairwise (fun a b => a.1 < b.1)) {e : Int}
    {p : Payload} (hm : (e, p) ∈ L) :
    L.filter (fun r => r.1 < e + 1) = L.filter (fun r => r.1 < e) ++ [(e, p)] := by
  induction L with
  | nil => simp at hm
  | cons x L ih =>
    rw [List.pairwise_cons] at h
    rcases List.mem_cons.1 hm with rfl | hm'
    · rw [List.filter_cons_of_pos (by simp; omega), List.filter_cons_of_neg (by simp)]
      rw [filter_lt_eq_nil (fun r hr => by have := h.1 r hr; simp at this; omega)]
      rw [filter_lt_eq_nil (fun r hr => by have := h.1 r hr; simp at this; omega)]
      simp
    · have hx := h.1 _ hm'
      simp at hx
      rw [List.filter_cons_of_pos (by simp; omega), List.filter_cons_of_pos (by simp; omega)]
      simp [ih h.2 hm']

theorem filter_skip {J : AJournal} {e e' : Int} (hle : e ≤ e')
    (hn : ∀ r ∈ J, e ≤ r.1 → r.1 < e' → r.2 = none) :
    (appView J).filter (fun r => r.1 < e') = (appView J).filter (fun r => r.1 < e) := by
  apply List.filter_congr
  intro x hx
  have hm := mem_appView.1 hx
  by_cases h1 : x.1 < e
  · simp [h1]; omega
  · by_cases h2 : x.1 < e'
    · have := hn _ hm (by simp; omega) (by simpa using h2)
      simp at this
    · simp [h1, h2]

theorem AFrame.next_of_entry {f : AFrame} {p : Payload} (h : f.kind.entry = some p) : f.next = f.seq + 1 := by
  unfold AFrame.next; cases hk : f.kind <;> simp_all [AKind.entry]

/-- a frame covers the numbers `[seq, next)`: an application frame carries the payload journaled under its number,
any other frame covers no application row -/
theorem frameOK_iff {J : AJournal} {o : Int} {f : AFrame} :
    frameOK J o f ↔ 1 ≤ f.seq ∧ f.seq < f.next ∧ f.next ≤ o ∧
      match f.kind.entry with
      | some p => (f.seq, some p) ∈ J
      | none => ∀ r ∈ J, f.seq ≤ r.1 → r.1 < f.next → r.2 = none := by
  obtain ⟨n, k⟩ := f
  have session : (1 ≤ n ∧ n < o ∧ ∀ r ∈ J, r.1 = n → r.2 = none) ↔
      1 ≤ n ∧ n < n + 1 ∧ n + 1 ≤ o ∧ ∀ r ∈ J, n ≤ r.1 → r.1 < n + 1 → r.2 = none :=
    ⟨fun ⟨a, b, c⟩ => ⟨a, by omega, by omega, fun r hr _ _ => c r hr (by omega)⟩,
     fun ⟨a, _, b, c⟩ => ⟨a, by omega, fun r hr _ => c r hr (by omega) (by omega)⟩⟩
  cases k with
  | app p pd =>
    simp only [frameOK, AFrame.next, AKind.entry]
    exact ⟨fun ⟨a, b, c⟩ => ⟨a, by omega, by omega, c⟩, fun ⟨a, _, b, c⟩ => ⟨a, by omega, c⟩⟩
  | gapFill nw =>
    simp only [frameOK, AFrame.next, AKind.entry]
    exact ⟨fun ⟨a, _, b, c, d⟩ => ⟨a, b, c, d⟩, fun ⟨a, b, c, d⟩ => ⟨a, by omega, b, c, d⟩⟩
  | _ => exact session

/-- old frames stay `frameOK` when application rows keep (number, payload) and every other row of the new
journal is an old row, a session row, numbered at or above the old counter, or numbered below the frame -/
theorem frameOK_mono {J J' : AJournal} {o o' : Int} {f : AFrame} (h : frameOK J o f) (ho : o ≤ o')
    (hk : ∀ n p, (n, some p) ∈ J → (n, some p) ∈ J')
    (hr : ∀ r ∈ J', r ∈ J ∨ r.2 = none ∨ o ≤ r.1 ∨ r.1 < f.seq) : frameOK J' o' f := by
  rw [frameOK_iff] at h ⊢
  obtain ⟨h1, h2, h3, h4⟩ := h
  refine ⟨h1, h2, by omega, ?_⟩
  cases he : f.kind.entry with
  | some p => simp only [he] at h4 ⊢; exact hk _ _ h4
  | none =>
    simp only [he] at h4 ⊢
    intro r hr' ha hb
    rcases hr r hr' with h | h | h | h
    · exact h4 r h ha hb
    · exact h
    · omega
    · omega

theorem frameOK_prepend {P N : AJournal} {o : Int} {f : AFrame} (h : frameOK N o f)
    (hp : ∀ r ∈ P, r.1 < f.seq) : frameOK (P ++ N) o f :=
  frameOK_mono h (Int.le_refl _) (fun _ _ hm => List.mem_append_right _ hm) fun r hr => by
    rcases List.mem_append.1 hr with h | h
    · exact Or.inr (Or.inr (Or.inr (hp r h)))
    · exact Or.inl h

/-- the sender of a direction moves from `(o, J)` to `(o', J')`, writing `wr`; `ext` = new application rows -/
structure SendStep (o : Int) (J : AJournal) (o' : Int) (J' : AJournal) (wr : List AFrame)
    (ext : List (Int × Payload)) : Prop where
  keys : keysOK o' J'
  mono : o ≤ o'
  view : appView J' = appView J ++ ext
  extge : ∀ r ∈ ext, o ≤ r.1
  new : ∀ f ∈ wr, frameOK J' o' f

/-- `frameOK` reads the journal through `appView` only: an application row of the new journal is an old one or
one of `ext` -/
theorem SendStep.old {o J o' J' wr ext} (s : SendStep o J o' J' wr ext) {f : AFrame} (h : frameOK J o f) :
    frameOK J' o' f := by
  refine frameOK_mono h s.mono (fun n p hm => ?_) ?_
  · have : (n, p) ∈ appView J' := by rw [s.view]; exact List.mem_append_left _ (mem_appView.2 hm)
    exact mem_appView.1 this
  · rintro ⟨n, v⟩ hr
    cases v with
    | none => exact Or.inr (Or.inl rfl)
    | some p =>
      have : (n, p) ∈ appView J ++ ext := by rw [← s.view]; exact mem_appView.2 hr
      rcases List.mem_append.1 this with h | h
      · exact Or.inl (mem_appView.1 h)
      · exact Or.inr (Or.inr (Or.inl (s.extge _ h)))

theorem SendStep.refl {o J} (hk : keysOK o J) : SendStep o J o J [] [] :=
  ⟨hk, Int.le_refl _, by simp, by simp, by simp⟩

theorem SendStep.trans {o J o' J' wr ext o'' J'' wr' ext'} (s : SendStep o J o' J' wr ext)
    (t : SendStep o' J' o'' J'' wr' ext') : SendStep o J o'' J'' (wr ++ wr') (ext ++ ext') := by
  refine ⟨t.keys, Int.le_trans s.mono t.mono, by rw [t.view, s.view, List.append_assoc], ?_, ?_⟩
  · intro r hr
    rcases List.mem_append.1 hr with h | h
    · exact s.extge r h
    · exact Int.le_trans s.mono (t.extge r h)
  · intro f hf
    rcases List.mem_append.1 hf with h | h
    · exact t.old (s.new f h)
    · exact t.new f h

theorem safe_send {X Y X' : AConn} {Q delY accX wireX wr ext} (h : Safe X Y Q delY accX wireX)
    (s : SendStep X.o X.out X'.o X'.out wr ext) :
    Safe X' Y (Q ++ wr) delY (accX ++ ext.map (·.2)) (wireX ++ wr) := by
  refine ⟨s.keys, h.e1, Int.le_trans h.s2 s.mono, ?_, ?_, ?_, ?_⟩
  · rw [s.view, List.filter_append, filter_lt_eq_nil (fun r hr => Int.le_trans h.s2 (s.extge r hr))]
    simpa using h.s1
  · rw [s.view, List.map_append, h.acc]
  · intro f hf
    rcases List.mem_append.1 hf with h' | h'
    · exact s.old (h.wire f h')
    · exact s.new f h'
  · intro f hf
    rcases List.mem_append.1 hf with h' | h'
    · exact List.mem_append_left _ (h.sub f h')
    · exact List.mem_append_right _ h'

theorem Safe.congr {X Y X' Y' : AConn} {Q delY accX wireX} (h : Safe X Y Q delY accX wireX)
    (ho : X'.o = X.o) (hj : X'.out = X.out) (he : Y'.e = Y.e) : Safe X' Y' Q delY accX wireX := by
  obtain ⟨a, b, c, d, e, f, g⟩ := h
  exact ⟨by rw [ho, hj]; exact a, by rw [he]; exact b, by rw [he, ho]; exact c, by rw [hj, he]; exact d,
    by rw [hj]; exact e, by rw [ho, hj]; exact f, g⟩

theorem Safe.subQ {X Y : AConn} {Q Q' delY accX wireX} (h : Safe X Y Q delY accX wireX)
    (hq : ∀ f ∈ Q', f ∈ Q) : Safe X Y Q' delY accX wireX :=
  ⟨h.keys, h.e1, h.s2, h.s1, h.acc, h.wire, fun f hf => h.sub f (hq f hf)⟩

/-- application rows that a frame of kind `k` numbered `n` stands for -/
def pushExt (n : Int) (k : AKind) : List (Int × Payload) :=
  match k.entry with
  | some p => [(n, p)]
  | none => []

/-- what the receiver does with frame `f`: ignore it, or accept it as number `e` and move to `f.next` -/
def RecvStep (e : Int) (f : AFrame) (e' : Int) (dl : List (Int × Payload)) : Prop :=
  (e' = e ∧ dl = []) ∨ (f.seq = e ∧ e' = f.next ∧ dl = pushExt f.seq f.kind)

theorem safe_recv {X Y Y' : AConn} {Q delY accX wireX} {f : AFrame} {dl} (h : Safe X Y Q delY accX wireX)
    (hf : f ∈ wireX) (r : RecvStep Y.e f Y'.e dl) : Safe X Y' Q (delY ++ dl) accX wireX := by
  rcases r with ⟨he, hd⟩ | ⟨hs, he, hd⟩
  · subst hd
    simpa using h.congr (X' := X) (Y' := Y') rfl rfl he
  · obtain ⟨_, k2, k3, k4⟩ := frameOK_iff.1 (h.wire f hf)
    refine ⟨h.keys, by rw [he]; have := h.e1; omega, by rw [he]; exact k3, ?_, h.acc, h.wire, h.sub⟩
    rw [he, h.s1, hd, pushExt]
    cases hp : f.kind.entry with
    | some p =>
      simp only [hp] at k4 ⊢
      rw [AFrame.next_of_entry hp, hs] at *
      exact (filter_succ_of_mem (appView_sorted h.keys.1) (mem_appView.2 k4)).symm
    | none =>
      simp only [hp, List.append_nil] at k4 ⊢
      exact (filter_skip (by omega) fun r hr ha hb => k4 r hr (by omega) hb).symm

theorem safe_prefix {X Y Q delY accX wireX} (h : Safe X Y Q delY accX wireX) : (delY.map (·.2)) <+: accX := by
  rw [h.s1, ← h.acc]
  exact (filter_lt_prefix (appView_sorted h.keys.1) Y.e).map _

theorem safe_seq_increasing {X Y Q delY accX wireX} (h : Safe X Y Q delY accX wireX) :
    delY.Pairwise (fun a b => a.1 < b.1) := by
  rw [h.s1]
  exact (appView_sorted h.keys.1).filter _

theorem safe_complete {X Y Q delY accX wireX} (h : Safe X Y Q delY accX wireX) (he : Y.e = X.o) :
    delY.map (·.2) = accX := by
  rw [h.s1, ← h.acc, he, filter_lt_eq_self]
  intro r hr
  exact (h.keys.2 _ (mem_appView.1 hr)).2

theorem safe_number_stable {X Y Q delY accX wireX} (h : Safe X Y Q delY accX wireX) {f g : AFrame}
    (hf : f ∈ wireX) (hg : g ∈ wireX) (hs : f.seq = g.seq) {p q pd qd} (hfk : f.kind = .app p pd)
    (hgk : g.kind = .app q qd) : p = q := by
  have h1 := (h.wire f hf).2.2
  have h2 := (h.wire g hg).2.2
  simp only [hfk] at h1
  simp only [hgk] at h2
  rw [hs] at h1
  exact Option.some.inj (sorted_functional h.keys.1 h1 h2)

end AsyncFix.Link
