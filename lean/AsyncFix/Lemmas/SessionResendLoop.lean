import AsyncFix.Lemmas.SessionResendRun
import AsyncFix.Lemmas.SessionHandlers

/-!
`_process_resend` as a whole, in closed form, and what the specification says of its reply.

`resendCore_run` / `processResend_run`: on a connection whose outbound rows are ascending, below the counter and
carry their numbers, a request for numbers that were sent is answered by writing and journaling `replyRows`
(the loop's `sentRows` over the requested rows, then the trailing gap fill), the rows after EndSeqNo go back as
they were, counter and state are restored.  The reply is the `Chain` the specification asks for
(`chain_replyRows`, a list induction over `sentRows`), ascending inside `[b, EndSeqNo]` (`replyRows_keys`), every
frame a well-formed row (`rowOK_replyRows`).
-/
namespace AsyncFix.Session.C06
open Msg AsyncFix.Generated AsyncFix.Generated.ConnEnum

theorem chain_append {s : Session} {J : Rows} {sr : Msg → Bool} {a m z : Int} {xs ys : List Msg}
    (h1 : Chain s J sr a m xs) (h2 : Chain s J sr m z ys) : Chain s J sr a z (xs ++ ys) := by
  induction h1 with
  | nil => exact h2
  | replay hf hr hi _ ih => exact Chain.replay hf hr hi (ih h2)
  | gap hl hg hn _ ih => exact Chain.gap hl hg hn (ih h2)

theorem chain_le {s : Session} {J : Rows} {sr : Msg → Bool} {a z : Int} {xs : List Msg}
    (h : Chain s J sr a z xs) : a ≤ z := by
  induction h with
  | nil => exact Int.le_refl _
  | replay _ _ _ _ ih => omega
  | gap hl _ _ _ ih => omega

/-- every frame of a chain is a GapFill or the PossDup copy of an application-level message:
no session-level message is ever retransmitted -/
theorem chain_frames {s : Session} {J : Rows} {sr : Msg → Bool} {a z : Int} {xs : List Msg}
    (h : Chain s J sr a z xs) :
    ∀ g ∈ xs, (g.mtype = mSequenceReset ∧ g.get? tGapFillFlag = some "Y") ∨
      (ConnEnum.noReplay.contains g.mtype = false ∧ g.get? tPossDupFlag = some "Y") := by
  induction h with
  | nil => intro g hg; simp at hg
  | replay _ hr hi _ ih =>
    intro g hg
    simp only [List.mem_cons] at hg
    rcases hg with rfl | hg
    · exact Or.inr ⟨by rw [hi.mtype]; exact hr.1, hi.possDup⟩
    · exact ih g hg
  | gap _ hg' _ _ ih =>
    intro g hg
    simp only [List.mem_cons] at hg
    rcases hg with rfl | hg
    · exact Or.inl ⟨hg'.mtype, hg'.gapFill⟩
    · exact ih g hg

/-- the MsgSeqNums of a chain are strictly ascending numbers of `[a, z)`, the first one is `a` -/
theorem chain_seqs {s : Session} {J : Rows} {sr : Msg → Bool} {a z : Int} {xs : List Msg}
    (h : Chain s J sr a z xs) :
    ∃ ns : List Int, xs.map (·.get? tMsgSeqNum) = ns.map (fun n => some (pyStr n)) ∧
      ns.Pairwise (· < ·) ∧ (∀ n ∈ ns, a ≤ n ∧ n < z) ∧ (∀ g ∈ xs.head?, g.get? tMsgSeqNum = some (pyStr a)) := by
  induction h with
  | nil => exact ⟨[], rfl, List.Pairwise.nil, by simp, by simp⟩
  | @replay a z row g rest _ _ hi hc ih =>
    obtain ⟨ns, e, pw, rg, _⟩ := ih
    have := chain_le hc
    refine ⟨a :: ns, by simp [hi.seq, e], ?_, ?_, by simp [hi.seq]⟩
    · exact List.pairwise_cons.mpr ⟨fun n hn => by have := (rg n hn).1; omega, pw⟩
    · intro n hn
      simp only [List.mem_cons] at hn
      rcases hn with rfl | hn
      · omega
      · have := rg n hn; omega
  | @gap a a' z g rest hl hg _ hc ih =>
    obtain ⟨ns, e, pw, rg, _⟩ := ih
    have := chain_le hc
    refine ⟨a :: ns, by simp [hg.seq, e], ?_, ?_, by simp [hg.seq]⟩
    · exact List.pairwise_cons.mpr ⟨fun n hn => by have := (rg n hn).1; omega, pw⟩
    · intro n hn
      simp only [List.mem_cons] at hn
      rcases hn with rfl | hn
      · omega
      · have := rg n hn; omega

theorem replayable_of_skips {sr : Msg → Bool} {row : Msg} (h : skips sr row = false) : Replayable sr row := by
  unfold skips at h
  obtain ⟨h1, h2⟩ := Bool.or_eq_false_iff.mp h
  exact ⟨h1, by simpa using h2⟩

theorem not_replayable_of_skips {sr : Msg → Bool} {row : Msg} (h : skips sr row = true) :
    ¬ Replayable sr row := by
  rintro ⟨h1, h2⟩
  rw [skips, h1, h2] at h
  cases h

theorem chain_gapRow {s : Session} {stamp : String} {sr : Msg → Bool} {J : Rows} {a k : Int} (hak : a ≤ k)
    (hno : ∀ n row, a ≤ n → n < k → J.find n = some row → ¬ Replayable sr row) :
    Chain s J sr a k ((gapRow s stamp a k).map (·.2)) := by
  unfold gapRow
  split
  · exact Chain.gap ‹_› (isGapFill_buildFrame _ _ _ _) hno (Chain.nil k)
  · obtain rfl : k = a := by omega
    exact Chain.nil _

/-- what the loop wrote for `rs` is a chain over `[gfb, gap_fill_begin')`, given that `rs` has every replayable row of
`J` in `[gfb, hi)`.  The second conjunct (no replayable row from `gap_fill_begin'` up to `hi`) is what the trailing
gap fill needs in `chain_replyRows`. -/
theorem chain_sentRows {s : Session} {stamp : String} (sr : Msg → Bool) {J : Rows} (hJ : Rows.Sorted J)
    (hi : Int) :
    ∀ (rs : Rows) (gfb gfe : Int), Rows.Sorted rs →
      (∀ p ∈ rs, gfb ≤ p.1 ∧ p.1 < hi ∧ p ∈ J ∧ RowOK p.1 p.2) →
      (∀ n row, gfb ≤ n → n < hi → (n, row) ∈ J → Replayable sr row → (n, row) ∈ rs) →
      Chain s J sr gfb (loopVars sr rs gfb gfe).1 ((sentRows s stamp sr rs gfb).map (·.2)) ∧
        ∀ n row, (loopVars sr rs gfb gfe).1 ≤ n → n < hi → (n, row) ∈ J → ¬ Replayable sr row := by
  intro rs
  induction rs with
  | nil =>
    intro gfb gfe _ _ hcomp
    exact ⟨Chain.nil _, fun n row h1 h2 h3 h4 => nomatch hcomp n row h1 h2 h3 h4⟩
  | cons p rest ih =>
    intro gfb gfe hs hrows hcomp
    obtain ⟨k, row⟩ := p
    obtain ⟨hk1, hkhi, hkJ, hrow⟩ := hrows (k, row) List.mem_cons_self
    have hs' := List.pairwise_cons.mp hs
    have hgt : ∀ q ∈ rest, k + 1 ≤ q.1 := fun q hq => hs'.1 q hq
    cases hsk : skips sr row with
    | true =>
      rw [sentRows_skip hsk, loopVars_skip hsk]
      refine ih gfb (k + 1) hs'.2 (fun q hq => hrows q (List.mem_cons_of_mem _ hq)) ?_
      intro n row' h1 h2 h3 h4
      rcases List.mem_cons.mp (hcomp n row' h1 h2 h3 h4) with hm | hm
      · cases hm; exact absurd h4 (not_replayable_of_skips hsk)
      · exact hm
    | false =>
      rw [sentRows_replay hsk, loopVars_replay hsk, List.map_append, List.map_append]
      have hno : ∀ n row', gfb ≤ n → n < k → J.find n = some row' → ¬ Replayable sr row' := by
        intro n row' h1 h2 h3 h4
        rcases List.mem_cons.mp (hcomp n row' h1 (by omega) ((Rows.find_eq_some_iff hJ _ _).mp h3) h4) with hm | hm
        · cases hm; omega
        · have := hgt _ hm; omega
      obtain ⟨c3, no3⟩ := ih (k + 1) gfe hs'.2
        (fun q hq => ⟨hgt q hq, (hrows q (List.mem_cons_of_mem _ hq)).2⟩) (by
          intro n row' h1 h2 h3 h4
          rcases List.mem_cons.mp (hcomp n row' (by omega) h2 h3 h4) with hm | hm
          · cases hm; omega
          · exact hm)
      exact ⟨chain_append (chain_append (chain_gapRow hk1 hno)
        (Chain.replay ((Rows.find_eq_some_iff hJ _ _).mpr hkJ) (replayable_of_skips hsk)
          (isRetransmission_buildFrame _ _ hrow) (Chain.nil _))) c3, no3⟩

/-- `_process_resend` once the state excursion has begun and BeginSeqNo = `b`, EndSeqNo = `e0` are parsed -/
def resendCore (env : Env) (sr : Msg → Bool) (b e0 : Int) : M Unit := do
  let c ← M.get
  resendServe env sr c b e0

/-- the model's `processResend` on a well-formed request: enter RESENDREQ_HANDLING unless awaiting, then
`resendCore` (the two assertions hold, the two `int()` succeed) -/
theorem processResend_core (env : Env) (sr : Msg → Bool) (m : Msg) (c : Conn) (b e0 : Int)
    (hreq : Req m b e0) (hst : c.state = st_ACTIVE ∨ c.state = st_RESENDREQ_AWAITING) :
    processResend env sr m c =
      (if c.state != st_RESENDREQ_AWAITING then (do stateSet st_RESENDREQ_HANDLING; resendCore env sr b e0)
       else resendCore env sr b e0) c := by
  obtain ⟨vb, hb1, hb2⟩ := hreq.begin_
  obtain ⟨ve, he1, he2⟩ := hreq.end_
  have a1 : (m.mtype == mResendRequest) = true := by rw [hreq.mtype]; rfl
  -- from the connection `c1` in which the excursion has begun: assertions hold, the two numbers are read
  have rest : ∀ c1 : Conn, (c1.state == st_RESENDREQ_HANDLING || c1.state == st_RESENDREQ_AWAITING) = true →
      resendBody env sr m c1 = resendCore env sr b e0 c1 := by
    intro c1 h1
    unfold resendBody
    rw [a1, M.bind_step (M.assert_true_apply c1), M.bind_step (M.get_apply c1), h1,
      M.bind_step (M.assert_true_apply c1), get_of_get? hb1, M.bind_step (M.liftE_apply _ c1),
      M.bind_step (M.int_apply_of hb2 c1), get_of_get? he1, M.bind_step (M.liftE_apply _ c1),
      M.bind_step (M.int_apply_of he2 c1)]
    rfl
  rw [Session.processResend_eq, M.bind_step (M.get_apply c)]
  rcases hst with h | h
  · have hne : (c.state != st_RESENDREQ_AWAITING) = true := by rw [h]; decide
    rw [if_pos hne, if_pos hne, M.bind_ok (stateSet_apply _ c), M.bind_ok (stateSet_apply _ c), rest _ rfl]
  · have hne : ¬ (c.state != st_RESENDREQ_AWAITING) = true := by rw [h]; decide
    rw [if_neg hne, if_neg hne]
    exact rest c (by rw [h]; rfl)

/-- the effective EndSeqNo of `_process_resend` -/
def effEnd (e0 : Int) : Int := if e0 == 0 then sysMaxsize else e0

/-- the journal rows after EndSeqNo (they are put back unsent) -/
def tailRows (c : Conn) (b e0 : Int) : Rows :=
  (c.journal.out.range b sysMaxsize).filter fun p => effEnd e0 < p.1

/-- one past the last number the reply covers: `min(EndSeqNo, last sent) + 1`, but not below `b` -/
def chainEnd (c : Conn) (b e0 : Int) : Int := max b (min (effEnd e0 + 1) c.sess.nextOut)

theorem le_chainEnd (c : Conn) (b e0 : Int) : b ≤ chainEnd c b e0 := by unfold chainEnd; omega

/-- from `b` on, the numbers below it are those up to EndSeqNo that were sent -/
theorem lt_chainEnd_iff {c : Conn} {b e0 n : Int} (hbn : b ≤ n) :
    n < chainEnd c b e0 ↔ n ≤ effEnd e0 ∧ n < c.sess.nextOut := by unfold chainEnd; omega

/-- when the bound `min(EndSeqNo + 1, next_num_out)` of the trailing gap fill is not below `b`, it is the end -/
theorem chainEnd_eq_min {c : Conn} {b e0 : Int} (h : b ≤ min (effEnd e0 + 1) c.sess.nextOut) :
    chainEnd c b e0 = min (effEnd e0 + 1) c.sess.nextOut := by unfold chainEnd; omega

/-- the recovered rows up to EndSeqNo (they are served) -/
def lowRows (c : Conn) (b e0 : Int) : Rows :=
  (c.journal.out.range b sysMaxsize).filter fun p => p.1 ≤ effEnd e0

theorem recoverOut_split (c : Conn) (b e0 : Int) (hJ : Rows.Sorted c.journal.out) :
    c.journal.out.range b sysMaxsize = lowRows c b e0 ++ tailRows c b e0 :=
  Rows.split_at (effEnd e0) (Rows.sorted_range hJ _ _)

theorem mem_lowRows {c : Conn} {b e0 : Int} {p : Int × Msg} :
    p ∈ lowRows c b e0 ↔ p ∈ c.journal.out ∧ b ≤ p.1 ∧ p.1 ≤ sysMaxsize ∧ p.1 ≤ effEnd e0 := by
  simp [lowRows, List.mem_filter, Rows.mem_range, and_assoc]

theorem mem_tailRows {c : Conn} {b e0 : Int} {p : Int × Msg} :
    p ∈ tailRows c b e0 ↔ p ∈ c.journal.out ∧ b ≤ p.1 ∧ p.1 ≤ sysMaxsize ∧ effEnd e0 < p.1 := by
  simp [tailRows, List.mem_filter, Rows.mem_range, and_assoc]

theorem sorted_lowRows {c : Conn} (hJ : Rows.Sorted c.journal.out) (b e0 : Int) :
    Rows.Sorted (lowRows c b e0) := List.Pairwise.filter _ (Rows.sorted_range hJ _ _)

/-- `set_seq_num(next_num_out = n)`: counter rewound, rows from `n` on deleted -/
def rewind (c : Conn) (n : Int) : Conn :=
  { c with sess := { c.sess with nextOut := n }, journal := c.journal.setSeq n c.sess.nextIn }

/-- the connection after the second `set_seq_num`: counter back, journal `rows`, stored counters rewritten,
inbound rows from the expected number on deleted -/
def restored (c : Conn) (rows : Rows) : Conn :=
  { c with journal := { out := rows, inb := c.journal.inb.below c.sess.nextIn,
                        outSeq := c.sess.nextOut - 1, inSeq := c.sess.nextIn - 1 } }

/-- second `set_seq_num(next_num_out = remembered)` on the rewound connection whose journal is `rows`, all
below the remembered number: nothing is deleted -/
theorem setSeqNum_restore (c : Conn) (b : Int) (rows : Rows) (os : Int) (hpos : 0 < c.sess.nextOut)
    (hlt : Rows.AllLt c.sess.nextOut rows) :
    setSeqNum (some c.sess.nextOut) none (withOut (rewind c b) rows os) = ⟨.ok (), restored c rows, []⟩ := by
  rw [setSeqNum_out_apply, if_pos hpos]
  simp only [restored, rewind, withOut, Journal.setSeq, Rows.below_of_allLt _ _ hlt,
    Rows.below_of_allLt _ _ (Rows.allLt_below c.sess.nextIn c.journal.inb)]

/-- the state `_process_resend` ends in: ACTIVE unless the receiver itself awaits a resend -/
def backToActive (c : Conn) : Conn :=
  { c with state := if c.state = st_RESENDREQ_AWAITING then st_RESENDREQ_AWAITING else st_ACTIVE
           wasActive := c.wasActive || (c.state != st_RESENDREQ_AWAITING) }

theorem backToActive_apply (c : Conn) :
    (M.get >>= fun c2 => if c2.state != st_RESENDREQ_AWAITING then stateSet st_ACTIVE else pure ()) c =
      ⟨.ok (), backToActive c, if c.state = st_RESENDREQ_AWAITING then [] else [.onState st_ACTIVE]⟩ := by
  rw [M.bind_step (M.get_apply c)]
  by_cases h : c.state = st_RESENDREQ_AWAITING
  · cases c; simp only at h; subst h; simp [backToActive]
  · simp [h, backToActive, stateSet_apply, setState]

/-- the connection after a served request: as before except the outbound rows from `b` up to EndSeqNo
(replaced by the frames just sent), the inbound side of `set_seq_num`, and the state excursion.  `c` is the
connection INSIDE the excursion (RESENDREQ_HANDLING or AWAITING), as `resendCore` finds it; counted from the
connection `_process_resend` was called on, the same result is `answered`. -/
def served (c : Conn) (b : Int) (sent tail : Rows) : Conn :=
  backToActive (restored c (c.journal.out.below b ++ sent ++ tail))

theorem gapRow_sess {s s' : Session} (h1 : s.sender = s'.sender) (h2 : s.target = s'.target)
    (stamp : String) (a k : Int) : gapRow s stamp a k = gapRow s' stamp a k := by
  unfold gapRow; rw [buildFrame_sess s s' _ _ _ h1 h2]

theorem sentRows_sess {s s' : Session} (h1 : s.sender = s'.sender) (h2 : s.target = s'.target)
    (stamp : String) (sr : Msg → Bool) :
    ∀ (rs : Rows) (gfb : Int), sentRows s stamp sr rs gfb = sentRows s' stamp sr rs gfb := by
  intro rs
  induction rs with
  | nil => intro _; rfl
  | cons p rest ih =>
    intro gfb
    obtain ⟨k, row⟩ := p
    simp only [sentRows, ih, gapRow_sess h1 h2, buildFrame_sess s s' _ _ _ h1 h2]

/-- everything a served request writes: the loop's frames, then the trailing gap fill up to
`min(EndSeqNo + 1, next_num_out)` -/
def replyRows (env : Env) (sr : Msg → Bool) (c : Conn) (b e0 : Int) : Rows :=
  sentRows c.sess env.stamp sr (lowRows c b e0) b ++
    gapRow c.sess env.stamp (loopVars sr (lowRows c b e0) b b).1 (min (effEnd e0 + 1) c.sess.nextOut)

theorem replyRows_keys (env : Env) (sr : Msg → Bool) (c : Conn) (b e0 : Int)
    (hJ : Rows.Sorted c.journal.out) (hlt : Rows.AllLt c.sess.nextOut c.journal.out) :
    Rows.Sorted (replyRows env sr c b e0) ∧
      ∀ p ∈ replyRows env sr c b e0, b ≤ p.1 ∧ p.1 < min (effEnd e0 + 1) c.sess.nextOut := by
  have hSlo := sorted_lowRows hJ b e0
  obtain ⟨k1, k2, k3⟩ := sentRows_keys c.sess env.stamp sr (lowRows c b e0) b b hSlo
    fun p hp => (mem_lowRows.mp hp).2.1
  have hv := (loopVars_le sr (m := max b (min (effEnd e0 + 1) c.sess.nextOut)) (lowRows c b e0) b b (by omega)
    fun p hp => by have := mem_lowRows.mp hp; have := hlt p this.1; omega).1
  unfold replyRows
  refine ⟨Rows.sorted_append k2 (sorted_gapRow _) fun p hp q hq => ?_, fun p hp => ?_⟩
  · obtain ⟨_, rfl⟩ := mem_gapRow hq; exact (k3 p hp).2
  · rcases List.mem_append.mp hp with h | h
    · have := k3 p h; omega
    · obtain ⟨hg, rfl⟩ := mem_gapRow h; exact ⟨k1, hg⟩

theorem mem_replyRows {env : Env} {sr : Msg → Bool} {c : Conn} {b e0 : Int} {p : Int × Msg}
    (h : p ∈ replyRows env sr c b e0) :
    (∃ z, p = (p.1, buildFrame c.sess env.stamp (gapFillMsg p.1 z) p.1)) ∨
    ∃ row, (p.1, row) ∈ lowRows c b e0 ∧ skips sr row = false ∧
      p = (p.1, buildFrame c.sess env.stamp (replayMsg row) p.1) := by
  rcases List.mem_append.mp h with h | h
  · exact mem_sentRows h
  · obtain ⟨_, rfl⟩ := mem_gapRow h; exact Or.inl ⟨_, rfl⟩

/-- the journal a served request leaves – the rows below `b`, the reply, the rows after EndSeqNo – is ascending and
below the counter -/
theorem sorted_served (env : Env) (sr : Msg → Bool) (c : Conn) (b e0 : Int)
    (hJ : Rows.Sorted c.journal.out) (hlt : Rows.AllLt c.sess.nextOut c.journal.out) :
    Rows.Sorted (c.journal.out.below b ++ replyRows env sr c b e0 ++ tailRows c b e0) ∧
      Rows.AllLt c.sess.nextOut (c.journal.out.below b ++ replyRows env sr c b e0 ++ tailRows c b e0) := by
  obtain ⟨rS, rK⟩ := replyRows_keys env sr c b e0 hJ hlt
  refine ⟨Rows.sorted_append (Rows.sorted_append (Rows.sorted_below hJ b) rS fun p hp q hq =>
      Int.lt_of_lt_of_le (Rows.allLt_below b _ p hp) (rK q hq).1)
    (List.Pairwise.filter _ (Rows.sorted_range hJ _ _)) fun p hp q hq => ?_, fun p hp => ?_⟩
  · have hq' := mem_tailRows.mp hq
    rcases List.mem_append.mp hp with h | h
    · have := Rows.allLt_below b _ p h; omega
    · have := (rK p h).2; omega
  · rcases List.mem_append.mp hp with h | h
    · rcases List.mem_append.mp h with h | h
      · exact hlt p (Rows.mem_below.mp h).1
      · have := (rK p h).2; omega
    · exact hlt p (mem_tailRows.mp h).1

theorem rowOK_replyRows {env : Env} {sr : Msg → Bool} {c : Conn} {b e0 : Int}
    (l1 : isLatin1 c.sess.sender = true) (l2 : isLatin1 c.sess.target = true) (l3 : isLatin1 env.stamp = true)
    (hrows : ∀ p ∈ c.journal.out, RowOK p.1 p.2) :
    ∀ p ∈ replyRows env sr c b e0, RowOK p.1 p.2 := by
  intro p hp
  rcases mem_replyRows hp with ⟨z, h⟩ | ⟨row, h1, _, h⟩
  · rw [h]; exact rowOK_gapFrame l1 l2 l3 _ _
  · rw [h]; exact rowOK_replayFrame l1 l2 l3 (hrows _ (mem_lowRows.mp h1).1)

/-- **the reply is what the specification asks for**: a chain over `[b, min(EndSeqNo, last sent)]`.  The
numbers must fit `sys.maxsize`, or a replayable row beyond it would be missing from the recovered rows. -/
theorem chain_replyRows (env : Env) (sr : Msg → Bool) (c : Conn) (b e0 : Int) (hinv : OutInv c)
    (hmax : c.sess.nextOut - 1 ≤ sysMaxsize) :
    Chain c.sess c.journal.out sr b (chainEnd c b e0) ((replyRows env sr c b e0).map (·.2)) := by
  have hSlo := sorted_lowRows hinv.sorted b e0
  obtain ⟨c1, no1⟩ := chain_sentRows (s := c.sess) (stamp := env.stamp) sr hinv.sorted (chainEnd c b e0)
    (lowRows c b e0) b b hSlo
    (fun p hp => by
      obtain ⟨h1, h2, -, h3⟩ := mem_lowRows.mp hp
      have := hinv.lt p h1
      exact ⟨h2, (lt_chainEnd_iff h2).mpr ⟨h3, this⟩, h1, hinv.rows p h1⟩)
    (fun n row h1 h2 h3 _ => by
      have hn := (lt_chainEnd_iff h1).mp h2
      exact mem_lowRows.mpr ⟨h3, h1, by omega, hn.1⟩)
  have k1 := (sentRows_keys c.sess env.stamp sr (lowRows c b e0) b b hSlo fun p hp => (mem_lowRows.mp hp).2.1).1
  have hv := (loopVars_le sr (m := chainEnd c b e0) (lowRows c b e0) b b (le_chainEnd c b e0)
    fun p hp => (lt_chainEnd_iff (mem_lowRows.mp hp).2.1).mpr
      ⟨(mem_lowRows.mp hp).2.2.2, hinv.lt p (mem_lowRows.mp hp).1⟩).1
  -- from `b ≤ gap_fill_begin'` on, the bound `min …` of the trailing gap fill and `max b (min …)` agree
  have hgap : gapRow c.sess env.stamp (loopVars sr (lowRows c b e0) b b).1 (min (effEnd e0 + 1) c.sess.nextOut) =
      gapRow c.sess env.stamp (loopVars sr (lowRows c b e0) b b).1 (chainEnd c b e0) := by
    unfold gapRow
    by_cases h : (loopVars sr (lowRows c b e0) b b).1 < min (effEnd e0 + 1) c.sess.nextOut
    · rw [chainEnd_eq_min (by omega)]
    · rw [if_neg h, if_neg (by rw [lt_chainEnd_iff k1]; omega)]
  unfold replyRows
  rw [hgap, List.map_append]
  exact chain_append c1 (chain_gapRow hv
    fun n row h1 h2 h3 => no1 n row h1 h2 ((Rows.find_eq_some_iff hinv.sorted _ _).mp h3))

/-- **`_process_resend` from its range check on, in closed form**: no bound on the numbers, nothing about
the stored counter; whatever a family wants to know of the reply it reads off `replyRows`. -/
theorem resendCore_run (env : Env) (sr : Msg → Bool) (c : Conn) (b e0 : Int)
    (hctx : LoopCtx env c) (hJ : Rows.Sorted c.journal.out) (hlt : Rows.AllLt c.sess.nextOut c.journal.out)
    (hrows : ∀ p ∈ c.journal.out, RowOK p.1 p.2) (hb1 : 1 ≤ b) (hb2 : b < c.sess.nextOut) :
    resendCore env sr b e0 c =
      ⟨.ok (), served c b (replyRows env sr c b e0) (tailRows c b e0),
        (replyRows env sr c b e0).map (fun p => Effect.write p.2) ++
          (if c.state = st_RESENDREQ_AWAITING then [] else [.onState st_ACTIVE])⟩ := by
  have hsplit := recoverOut_split c b e0 hJ
  have hSlo := sorted_lowRows hJ b e0
  have hlo : ∀ p ∈ lowRows c b e0, b ≤ p.1 ∧ p.1 ≤ effEnd e0 ∧ RowOK p.1 p.2 := fun p hp =>
    ⟨(mem_lowRows.mp hp).2.1, (mem_lowRows.mp hp).2.2.2, hrows p (mem_lowRows.mp hp).1⟩
  have hctx1 : LoopCtx env (rewind c b) := ⟨hctx.h6, hctx.h7, hctx.sock, hctx.lsender, hctx.ltarget, hctx.lstamp⟩
  -- the loop over the requested rows …
  obtain ⟨os, e1⟩ := resendLoop_run env sr (effEnd e0) ((tailRows c b e0).map (·.2)) (lowRows c b e0) b b
    (rewind c b) hctx1 (Rows.allLt_below b _) hSlo hlo
  rw [sentRows_sess (s := (rewind c b).sess) (s' := c.sess) rfl rfl] at e1
  obtain ⟨hsort, hall⟩ := sorted_served env sr c b e0 hJ hlt
  unfold replyRows at hsort hall
  generalize hsent : sentRows c.sess env.stamp sr (lowRows c b e0) b = sent at e1 hsort hall
  obtain ⟨k1, -, k3⟩ := sentRows_keys c.sess env.stamp sr (lowRows c b e0) b b hSlo fun p hp => (hlo p hp).1
  rw [hsent] at k3
  generalize hv : loopVars sr (lowRows c b e0) b b = v at e1 k1 k3 hsort hall
  have hvle := fun m hm h => loopVars_le sr (m := m) (lowRows c b e0) b b hm h
  rw [hv] at hvle
  have hcur := hvle c.sess.nextOut (by omega) fun p hp => hlt p (mem_lowRows.mp hp).1
  have lt2 : Rows.AllLt v.1 (c.journal.out.below b ++ sent) := fun p hp =>
    (List.mem_append.mp hp).elim (fun h => by have := Rows.allLt_below b _ p h; omega) fun h => (k3 p h).2
  -- … over the rows after EndSeqNo …
  obtain ⟨os2, e2⟩ := resendLoop_tail env sr (effEnd e0) (tailRows c b e0) v.1 v.2
    (withOut (rewind c b) (c.journal.out.below b ++ sent) os)
    (hsort.sublist (((List.sublist_append_left sent _).append_left _).append_right _))
    fun p hp => ⟨(mem_tailRows.mp hp).2.2.2, hrows p (mem_tailRows.mp hp).1⟩
  rw [withOut_out, withOut_withOut] at e2
  -- … and the trailing gap fill
  obtain ⟨os3, e3⟩ := gapFill_run env
    (withOut (rewind c b) (c.journal.out.below b ++ sent ++ tailRows c b e0) os2) v.1
    (min (effEnd e0 + 1) c.sess.nextOut) (c.journal.out.below b ++ sent) (tailRows c b e0)
    (hctx1.withOut _ _) rfl lt2 fun p hp => by
      have := (mem_tailRows.mp hp).2.2.2; have := hlt p (mem_tailRows.mp hp).1; omega
  rw [withOut_withOut, withOut_sess, gapRow_sess (s := (rewind c b).sess) (s' := c.sess) rfl rfl] at e3
  have lt4 : Rows.AllLt c.sess.nextOut (c.journal.out.below b ++ sent ++
      gapRow c.sess env.stamp v.1 (min (effEnd e0 + 1) c.sess.nextOut) ++ tailRows c b e0) := by
    simpa only [List.append_assoc] using hall
  unfold resendCore resendServe resendReplay
  have hcond : (decide (b < 1) || decide (b ≥ c.sess.nextOut)) = false := by simp; omega
  rw [M.bind_step (M.get_apply c)]
  simp only [hcond, Bool.false_eq_true, if_false]
  rw [Journal.recoverOut, hsplit, List.map_append]
  refine (M.bind_ok2 ((setSeqNum_out_apply b c).trans (if_pos (show b > 0 by omega)))
    (M.bind_ok2 (e1.trans (congrArg _ e2)) (M.bind_ok2 (M.assert_of (hcur.2 (by omega)) _)
      ((congrFun (M.ite_seq _ _ _) _).trans (M.bind_ok2 e3
        (M.bind_ok2 (setSeqNum_restore c b _ os3 (by omega) lt4) (backToActive_apply _))))))).trans ?_
  simp [served, restored, replyRows, hsent, hv, List.append_assoc]


/-- the connection after `_process_resend` served `[b, …]` writing `sent`: outbound rows from `b` up to
EndSeqNo replaced, the rows `tail` after it as they were, inbound side of `set_seq_num`, ACTIVE remembered.  `c` is
the connection `_process_resend` is CALLED on (ACTIVE or AWAITING); `processResend_run` shows it is `served` of the
connection after `_state_set(RESENDREQ_HANDLING)`. -/
def answered (c : Conn) (b : Int) (sent tail : Rows) : Conn :=
  { c with
    wasActive := c.wasActive || (c.state == st_ACTIVE)
    journal := { out := c.journal.out.below b ++ sent ++ tail, inb := c.journal.inb.below c.sess.nextIn,
                 outSeq := c.sess.nextOut - 1, inSeq := c.sess.nextIn - 1 } }


/-- **`_process_resend` on a request for numbers that were sent**, in closed form -/
theorem processResend_run (env : Env) (sr : Msg → Bool) (m : Msg) (c : Conn) (b e0 : Int)
    (hst : c.state = st_ACTIVE ∨ c.state = st_RESENDREQ_AWAITING) (hsock : c.sock = true)
    (hl1 : isLatin1 c.sess.sender = true) (hl2 : isLatin1 c.sess.target = true)
    (hl3 : isLatin1 env.stamp = true) (hreq : Req m b e0)
    (hJ : Rows.Sorted c.journal.out) (hlt : Rows.AllLt c.sess.nextOut c.journal.out)
    (hrows : ∀ p ∈ c.journal.out, RowOK p.1 p.2) (hb1 : 1 ≤ b) (hb2 : b < c.sess.nextOut) :
    processResend env sr m c =
      ⟨.ok (), answered c b (replyRows env sr c b e0) (tailRows c b e0),
        pre c ++ (replyRows env sr c b e0).map (fun p => Effect.write p.2) ++ post c⟩ := by
  rw [processResend_core env sr m c b e0 hreq hst]
  rcases hst with h | h
  · -- ACTIVE: excursion through RESENDREQ_HANDLING
    have hne : (c.state != st_RESENDREQ_AWAITING) = true := by rw [h]; decide
    let c1 : Conn := { c with state := st_RESENDREQ_HANDLING,
                              wasActive := c.wasActive || st_RESENDREQ_HANDLING == st_ACTIVE }
    have e0' : stateSet st_RESENDREQ_HANDLING c = ⟨.ok (), c1, [.onState st_RESENDREQ_HANDLING]⟩ := rfl
    have e1 := resendCore_run env sr c1 b e0 (LoopCtx.of_resend (Or.inl rfl) hsock hl1 hl2 hl3) hJ hlt hrows
      hb1 hb2
    rw [if_pos hne, M.bind_ok2 e0' e1]
    simp [served, backToActive, restored, answered, pre, post, h, c1, replyRows, lowRows, tailRows,
      st_RESENDREQ_HANDLING, st_RESENDREQ_AWAITING, st_ACTIVE]
  · have hne : ¬ (c.state != st_RESENDREQ_AWAITING) = true := by rw [h]; decide
    have e1 := resendCore_run env sr c b e0 (LoopCtx.of_resend (Or.inr h) hsock hl1 hl2 hl3) hJ hlt hrows
      hb1 hb2
    rw [if_neg hne, e1]
    simp [served, backToActive, restored, answered, pre, post, h, st_RESENDREQ_AWAITING, st_ACTIVE]


/-- a request for numbers never sent is ignored; the state excursion is the only trace
(`Session.processResend_ignored` in the vocabulary of this file) -/
theorem processResend_invalid (env : Env) (sr : Msg → Bool) (m : Msg) (c : Conn) (b e0 : Int)
    (hst : c.state = st_ACTIVE ∨ c.state = st_RESENDREQ_AWAITING)
    (hreq : Req m b e0) (hbad : b < 1 ∨ c.sess.nextOut ≤ b) :
    processResend env sr m c = ⟨.ok (), ignored c, pre c ++ post c⟩ := by
  obtain ⟨vb, hvb, hpb⟩ := hreq.begin_
  obtain ⟨ve, hve, hpe⟩ := hreq.end_
  rw [Session.processResend_ignored env sr hreq.mtype hvb hpb hve hpe hbad]
  -- `ignored`, `pre`, `post` spell the same result for the two states at hand
  cases c
  rcases hst with h | h <;> simp only at h <;> subst h
  · simp [ignored, pre, post, st_ACTIVE, st_RESENDREQ_AWAITING]
  · simp [ignored, pre, post, st_ACTIVE, st_RESENDREQ_AWAITING]

theorem writes_map_write (l : Rows) : writes (l.map fun p => Effect.write p.2) = l.map (·.2) := by
  induction l with
  | nil => rfl
  | cons p r ih => simp [writes, ih]

theorem writes_pre (c : Conn) : writes (pre c) = [] := by unfold pre; split <;> rfl
theorem writes_post (c : Conn) : writes (post c) = [] := by unfold post; split <;> rfl

theorem quiet_pre (c : Conn) : Quiet (pre c) := by
  intro e he; unfold pre at he; split at he
  · simp at he; exact Or.inr ⟨_, he⟩
  · simp at he

theorem quiet_post (c : Conn) : Quiet (post c) := by
  intro e he; unfold post at he; split at he
  · simp at he; exact Or.inr ⟨_, he⟩
  · simp at he

theorem quiet_append {a b : List Effect} (ha : Quiet a) (hb : Quiet b) : Quiet (a ++ b) := by
  intro e he
  rcases List.mem_append.mp he with h | h
  · exact ha e h
  · exact hb e h

end AsyncFix.Session.C06
