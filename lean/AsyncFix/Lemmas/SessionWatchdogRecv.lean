import AsyncFix.Lemmas.SessionWatchdog

/-!
C12, inbound, around the dispatch: the notions of a logged-on connection (`Up`, `On`) and of a valid
in-sequence frame (`InSeq`); `recv_via`: on a logged-on connection an in-sequence frame passes the integrity check and the head, and
whatever the dispatch leaves behind is finalised (`Session.recv_expected`, `Session.finalized`); and what that
leaves of the fields the watchdog reads.
-/
namespace AsyncFix.Session.Watchdog

open AsyncFix.Generated AsyncFix.Generated.ConnEnum

/-- ACTIVE, transport up, heartbeat interval `h` seconds -/
structure Up (h : Int) (c : Conn) : Prop where
  active : c.state = st_ACTIVE
  sock : c.sock = true
  hb : c.hb = h

/-- ACTIVE with TestReqID `id` outstanding -/
structure Armed (h id : Int) (c : Conn) : Prop extends Up h c where
  tid : c.testReqId = some id

/-- consistency of the resend watermark: it is positive while a resend is awaited (the code asserts it) -/
def WatermarkOk (c : Conn) : Prop := c.state = st_RESENDREQ_AWAITING → 0 < c.maxResend

theorem active_watermark {c : Conn} (ha : c.state = st_ACTIVE) : WatermarkOk c := by
  intro h; rw [ha] at h; exact absurd h (by decide)

/-- logged on in the wide sense: any state from LOGON_INITIAL_RECV upwards – ACTIVE, RESENDREQ_AWAITING,
RESENDREQ_HANDLING, RECV_SEQNUM_TOO_HIGH … –, transport up, interval `h`, resend watermark consistent -/
structure On (h : Int) (c : Conn) : Prop where
  state : 8 ≤ c.state
  sock : c.sock = true
  hb : c.hb = h
  watermark : WatermarkOk c

theorem Up.on {h : Int} {c : Conn} (hu : Up h c) : On h c :=
  ⟨active_ge8 hu.active, hu.sock, hu.hb, active_watermark hu.active⟩

theorem On.only {h : Int} {c c' : Conn} (ho : On h c) (k : OutboundOnly c c') : On h c' :=
  ⟨by rw [k.state]; exact ho.state, by rw [k.sock]; exact ho.sock, by rw [k.hb]; exact ho.hb,
    by intro hq; rw [k.maxResend]; rw [k.state] at hq; exact ho.watermark hq⟩

theorem bind_pyInt {o : Option String} {n : Int} (h : o.bind pyInt = some n) : ∃ v, o = some v ∧ pyInt v = some n := by
  cases o with
  | none => simp at h
  | some v => exact ⟨v, rfl, by simpa using h⟩

/-- `m` passes `_validate_integrity` on `c` and carries exactly the expected MsgSeqNum -/
structure InSeq (c : Conn) (m : Msg) : Prop where
  begin : m.get? tBeginString = some Proto.beginString
  sender : m.get? tSenderCompID = some c.sess.target
  target : m.get? tTargetCompID = some c.sess.sender
  seq : (m.get? tMsgSeqNum).bind pyInt = some c.sess.nextIn
  pos : 0 < c.sess.nextIn

theorem InSeq.seqv {c : Conn} {m : Msg} (h : InSeq c m) :
    ∃ v, m.get? tMsgSeqNum = some v ∧ pyInt v = some c.sess.nextIn := bind_pyInt h.seq

theorem InSeq.addressed {c : Conn} {m : Msg} (h : InSeq c m) : Addressed c m c.sess.nextIn :=
  ⟨h.begin, h.sender, h.target, h.seqv⟩

theorem InSeq.congr {c c1 : Conn} {m : Msg} (h : InSeq c m) (h1 : c1.sess.nextIn = c.sess.nextIn)
    (h2 : c1.sess.sender = c.sess.sender) (h3 : c1.sess.target = c.sess.target) : InSeq c1 m :=
  ⟨h.begin, by rw [h3]; exact h.sender, by rw [h2]; exact h.target, by rw [h1]; exact h.seq, by rw [h1]; exact h.pos⟩

/-- `m` is of none of the types handled before the sequence check (Logon, SequenceReset, Logout) or changing the
connection state (ResendRequest), which are not "traffic" in the sense of C12 -/
def Routine (m : Msg) : Prop :=
  (m.mtype == mLogon) = false ∧ (m.mtype == mSequenceReset) = false ∧ (m.mtype == mLogout) = false ∧
  (m.mtype == mResendRequest) = false

/-- message types `_process_message` does not handle BEFORE the sequence check -/
def Headable (m : Msg) : Prop := m.mtype ≠ mLogon ∧ m.mtype ≠ mSequenceReset ∧ m.mtype ≠ mLogout

theorem Routine.headable {m : Msg} (h : Routine m) : Headable m :=
  ⟨by simpa using h.1, by simpa using h.2.1, by simpa using h.2.2.1⟩

/-- the logged-on states (≥ 8: ACTIVE, RESENDREQ_AWAITING, RESENDREQ_HANDLING, RECV_SEQNUM_TOO_HIGH, …) lie
after LOGON_INITIAL_SENT -/
theorem on_gt7 {c : Conn} (h8 : 8 ≤ c.state) : st_LOGON_INITIAL_SENT < c.state := by
  show 7 < c.state; omega

/-- what `recv` of a valid in-sequence frame amounts to once the (swallowed) dispatch is known to end in `c1`
with effects `e1`, and `c1` still expects the same number -/
theorem recv_via (sr : Msg → Bool) (env : Env) (c c1 : Conn) (m : Msg) (e1 : List Effect)
    (h8 : 8 ≤ c.state) (h : InSeq c m) (hr : Headable m)
    (hd : swallow () (processDispatch env sr m true c.sess.nextIn) c = ⟨.ok (), c1, e1⟩)
    (h1 : InSeq c1 m) (hw : WatermarkOk c1) :
    recv sr env c m = ((finalized env c1 m).1, e1 ++ (finalized env c1 m).2) := by
  obtain ⟨r, e0, hx, rfl⟩ := of_swallow hd
  rw [recv_expected (on_gt7 h8) h.addressed hr.1 hr.2.1 hr.2.2 hx,
    finalizeMessage_expected env h1.addressed h1.pos hr.2.1 hw]

theorem active_ne_awaiting {c : Conn} (ha : c.state = st_ACTIVE) : c.state ≠ st_RESENDREQ_AWAITING := by
  rw [ha]; decide

/-- `_finalize_message` when it does not end a resend wait: only the counter, `lastTime` and the journal move -/
theorem finalized_ctl (env : Env) (c : Conn) (m : Msg) (hnp : c.state ≠ st_RESENDREQ_AWAITING) :
    (finalized env c m).1.state = c.state ∧ (finalized env c m).1.sock = c.sock ∧
    (finalized env c m).1.hb = c.hb ∧ (finalized env c m).1.testReqId = c.testReqId ∧
    (c.state = st_ACTIVE → (finalized env c m).1.lastTime = env.now) ∧ NoDisc (finalized env c m).2 ∧
    writes (finalized env c m).2 = [] := by
  unfold finalized
  cases c.journal.persist .inbound c.sess.nextIn m <;>
    simp +contextual [stamped, promoted, hnp, NoDisc, isDisc, writes, st_ACTIVE, st_DISCONNECTED_BROKEN_CONN]

/-- on a connection the dispatch has just disconnected `_finalize_message` leaves `lastTime` alone (fix 5623bd4) -/
theorem finalized_lastTime_down (env : Env) (c : Conn) (m : Msg) (hd : c.state = st_DISCONNECTED_BROKEN_CONN) :
    (finalized env c m).1.lastTime = c.lastTime := by
  unfold finalized
  cases c.journal.persist .inbound c.sess.nextIn m <;>
    simp [stamped, promoted, hd, st_DISCONNECTED_BROKEN_CONN, st_RESENDREQ_AWAITING]

/-- `_finalize_message` on a logged-on connection (wide sense): still logged on – RESENDREQ_AWAITING may
turn into ACTIVE, nothing else changes state –, `lastTime = now`, id untouched, no teardown, no frame -/
theorem finalized_on (env : Env) (h : Int) (c : Conn) (m : Msg) (ho : On h c) :
    On h (finalized env c m).1 ∧ (finalized env c m).1.lastTime = env.now ∧
    (finalized env c m).1.testReqId = c.testReqId ∧ NoDisc (finalized env c m).2 ∧
    writes (finalized env c m).2 = [] ∧
    ((finalized env c m).1.state = c.state ∨ (finalized env c m).1.state = st_ACTIVE) := by
  have h8 := ho.state
  have n3 : 3 < c.state := by omega
  unfold finalized
  by_cases hp : c.state = st_RESENDREQ_AWAITING ∧ c.maxResend ≤ c.sess.nextIn
  · cases c.journal.persist .inbound c.sess.nextIn m <;>
      simp [stamped, promoted, hp, NoDisc, isDisc, writes, st_ACTIVE, st_DISCONNECTED_BROKEN_CONN] <;>
      exact ⟨(by show (8 : Nat) ≤ 17; decide), ho.sock, ho.hb,
        fun hq => absurd (show (17 : Nat) = st_RESENDREQ_AWAITING from hq) (by decide)⟩
  · have hw := ho.watermark
    cases c.journal.persist .inbound c.sess.nextIn m <;>
      simp [stamped, promoted, hp, NoDisc, isDisc, writes, st_DISCONNECTED_BROKEN_CONN, n3] <;>
      exact ⟨h8, ho.sock, ho.hb, hw⟩

end AsyncFix.Session.Watchdog
