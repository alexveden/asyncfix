/-
Every action of the reference exchange keeps the relation `Sync0` between the (drained) order and
the exchange, and the reports it emits satisfy `ChainP` – except the two excluded races: a suspended
order expires (known finding C17-suspended-expire-ignored), a replace is accepted on a suspended
order (known finding C17-suspended-replace-stuck).
What the exchange does unasked (ack, reject, fill, expire, suspend, resume) is said once, without the
order (`Unsol`); `Unsol.ok` is the one place where the order is shown to follow.
-/
import AsyncFix.Lemmas.OrderObjSync
namespace AsyncFix.Model.OrderLink
open AsyncFix.Model.OrderObj AsyncFix.Model.Exchange AsyncFix.Model.OrderTable AsyncFix.Props.C16

theorem pstat_pending (k : String) : pstat k = "6" ∨ pstat k = "E" := by
  unfold pstat; split <;> simp

theorem reported_of_pending_some {e : Exch} {p : PReq} (h : e.pending = some p) :
    e.reported = pstat p.kind := by
  simp [Exch.reported, h, pstat]

theorem pstat_ne4 (k : String) : pstat k ≠ "4" := by
  unfold pstat; split <;> decide

theorem feed_go (o : Order) (e : Exch) (cl : Str) (ex : String) (orig : Option Str)
    (hid : cl = o.clordId ∨ some cl = o.origClordId) (hex : ex ≠ "5")
    (hres : changeStatus spec o.status "8" ex e.reported false = .to e.reported)
    (hsv : e.reported ∈ bases) :
    feed o (e.execRep cl ex orig) =
      ({ o with orderId := some orderIdC, leavesQty := e.leaves, cumQty := e.cum, avgPx := some e.avgPx,
                status := e.reported }, .ok true) := by
  rw [feed_execRep o e cl ex orig hid, hres]
  simp [execApply, hex, finishExec_to _ (bases_sv _ hsv)]

theorem feed_stay (o : Order) (e : Exch) (cl : Str) (ex : String) (orig : Option Str)
    (hid : cl = o.clordId ∨ some cl = o.origClordId) (hex : ex ≠ "5")
    (hres : changeStatus spec o.status "8" ex e.reported false = .none) :
    feed o (e.execRep cl ex orig) =
      ({ o with orderId := some orderIdC, leavesQty := e.leaves, cumQty := e.cum, avgPx := some e.avgPx },
       .ok false) := by
  rw [feed_execRep o e cl ex orig hid, hres]
  simp [execApply, hex, finishExec_none]

theorem feed_pending (o : Order) (e : Exch) (cl : Str) (ex : String) (orig : Option Str) {k : String}
    (hp : o.status = pstat k) (hid : cl = o.clordId ∨ some cl = o.origClordId)
    (hex : ex ≠ "5") (hrep : e.reported ≠ "4") :
    feed o (e.execRep cl ex orig) =
      ({ o with orderId := some orderIdC, leavesQty := e.leaves, cumQty := e.cum, avgPx := some e.avgPx },
       .ok false) :=
  feed_stay o e cl ex orig hid hex (cs8_pending_none (hp ▸ pstat_pending k) hex hrep)

theorem pending_not_nonPending {o : Order} {k : String} (h : o.status = pstat k) : ¬ nonPending o := by
  intro hnp
  rcases pstat_pending k with h' | h' <;> simp [nonPending, h, h'] at hnp

/-- `ChainP` asks nothing of a report that reaches an order with a request pending -/
theorem pending_benign {o : Order} {k : String} (h : o.status = pstat k) (r : Report) :
    nonPending o → benign o.clordId r :=
  fun hn => absurd hn (pending_not_nonPending h)

theorem truthy_some {x : Str} (h : x ≠ []) : truthy (some x) = true := by
  cases x with
  | nil => exact absurd rfl h
  | cons a l => rfl

theorem feed_rej_pending (o : Order) (cl x : Str) (orig : Option Str) (st : String) (unk : Bool)
    {k : String} (hp : o.status = pstat k) (hst : st ∈ bases) (ho : o.origClordId = some x) (hx : x ≠ []) :
    feed o (cxlRej cl orig st unk) =
      ({ (if st = "8" then { o with leavesQty := 0 } else o) with
          clordId := x, origClordId := none, status := st }, .ok true) := by
  rw [feed_cxlRej]
  have hcur : o.status ∈ ["6", "E"] := by rcases hp ▸ pstat_pending k with h | h <;> simp [h]
  rw [cs9_pending _ hcur _ hst]
  simp only
  have hsv := (bases_sv _ hst).1
  by_cases h8 : st = "8"
  · simp [h8, revertId, ho, truthy_some hx, setStatus, h8 ▸ hsv]
  · simp [h8, revertId, ho, truthy_some hx, setStatus, hsv]

def EmitOk (o : Order) (c' : List Msg) (r : Exch × List Report) : Prop :=
  ChainP o r.2 ∧ Sync0 (drain o r.2) c' r.1

theorem emit_noop {o : Order} {c : List Msg} {e : Exch} (h : Sync0 o c e) : EmitOk o c (e, []) :=
  ⟨trivial, h⟩

theorem emit_cons {o o' : Order} {c : List Msg} {e' : Exch} {r : Report} {rs : List Report} {b : Bool}
    (hf : feed o r = (o', .ok b)) (hben : nonPending o → benign o.clordId r) (hrest : EmitOk o' c (e', rs)) :
    EmitOk o c (e', r :: rs) :=
  ⟨⟨⟨b, by rw [hf]⟩, hben, by rw [hf]; exact hrest.1⟩, by simp only [drain]; rw [hf]; exact hrest.2⟩

theorem emit_one {o o' : Order} {c : List Msg} {e' : Exch} {r : Report} {b : Bool}
    (hf : feed o r = (o', .ok b)) (hben : nonPending o → benign o.clordId r) (hs : Sync0 o' c e') :
    EmitOk o c (e', [r]) :=
  emit_cons hf hben (emit_noop hs)

theorem sync_pending {o : Order} {c : List Msg} {e : Exch} {p : PReq} (h : Sync0 o c e)
    (hp : e.pending = some p) : c = [] ∧ SPend o e p := by
  cases h with
  | reqPending p' h =>
    cases h.pend.symm.trans hp
    exact ⟨rfl, h⟩
  | created h => exact nomatch h.pend.symm.trans hp
  | newSent m oo h => exact nomatch h.pend.symm.trans hp
  | idle h => exact nomatch h.pend.symm.trans hp
  | reqSent m k pr qr h => exact nomatch h.pend.symm.trans hp

theorem sync_known_false {o : Order} {c : List Msg} {e : Exch} (h : Sync0 o c e) (hk : e.known = false) :
    e.pending = none := by
  cases hp : e.pending with
  | none => rfl
  | some p => exact nomatch (sync_pending h hp).2.known.symm.trans hk

/-- an OrderCancelReject that reports the exchange's state brings an order with a request pending
back to its previous id and in sync (`Sync0.idle`) -/
theorem rej_ok {o : Order} {e' : Exch} {k : String} (cl : Str) (ocl : Option Str)
    (status : o.status = pstat k) (orig : o.origClordId = some e'.liveId) (livene : e'.liveId ≠ [])
    (known : e'.known = true) (pend : e'.pending = none) (base : e'.base ∈ bases)
    (rej0 : e'.base = "8" → e'.leaves = 0) (nums : Nums o e') :
    EmitOk o [] (e', [cxlRej cl ocl e'.base]) := by
  refine emit_one (feed_rej_pending o cl e'.liveId ocl e'.base false status base orig livene) (pending_benign status _)
    (Sync0.idle ⟨known, pend, rfl, base, rfl, livene, fun _ => rfl, rej0, ?_⟩)
  by_cases h8 : e'.base = "8"
  · simp only [h8, if_true]
    exact ⟨nums.cum, (rej0 h8).symm, nums.price, nums.qty⟩
  · simp only [h8, if_false]
    exact ⟨nums.cum, nums.leaves, nums.price, nums.qty⟩

theorem idleTrans_facts : ∀ t ∈ idleTrans, t.2.1 ≠ "5" ∧ t.2.2 ∈ bases ∧ t.2.2 ≠ "4" ∧ t.1 ≠ "4" := by
  decide

/-- a transition the exchange makes on its own: one of `idleTrans`, reported as `x`; what a request
refers to (live id, price, quantity, the request held) stays -/
structure IdleStep (e e' : Exch) (x : String) : Prop where
  known : e.known = true
  known' : e'.known = true
  liveId : e'.liveId = e.liveId
  price : e'.price = e.price
  qty : e'.qty = e.qty
  pend : e'.pending = e.pending
  trans : (e.base, x, e'.base) ∈ idleTrans
  rej0 : e'.base = "8" → e'.leaves = 0

theorem idle_emit (o : Order) (c : List Msg) (e e' : Exch) (x : String) (hs : IdleStep e e' x)
    (keep : e.pending ≠ none → live e.base = true → live e'.base = true)
    (hsync : Sync0 o c e) : EmitOk o c (e', [e'.execRep e.liveId x none]) := by
  obtain ⟨hx5, hb', hb4', hb4⟩ := idleTrans_facts _ hs.trans
  simp only at hx5 hb' hb4' hb4
  have nums : ∀ o' : Order, o'.cumQty = e'.cum → o'.leavesQty = e'.leaves → o'.price = o.price →
      o'.qty = o.qty → Nums o e → Nums o' e' :=
    fun o' h1 h2 h3 h4 n => ⟨h1, h2, h3.trans (n.price.trans hs.price.symm), h4.trans (n.qty.trans hs.qty.symm)⟩
  cases hsync with
  | created h => exact nomatch hs.known.symm.trans h.known
  | newSent m oo h => exact nomatch hs.known.symm.trans h.known
  | idle h =>
    have hp' : e'.pending = none := hs.pend.trans h.pend
    have hrep : e'.reported = e'.base := reported_of_pending_none hp'
    have hres : changeStatus spec o.status "8" x e'.reported false = .to e'.reported := by
      rw [hrep, h.status]; exact cs8_idle _ hs.trans
    exact emit_one (feed_go o e' e.liveId x none (Or.inl h.clord.symm) hx5 hres (hrep ▸ hb'))
      (fun _ => ⟨e', x, by rw [h.clord], hx5, hp', hb', hb4'⟩)
      (Sync0.idle ⟨hs.known', hp', hrep, hb', h.clord.trans hs.liveId.symm, hs.liveId ▸ h.livene,
        fun _ => h.orig hb4, hs.rej0, nums _ rfl rfl rfl rfl h.nums⟩)
  | reqSent m k pr qr h =>
    have hp' : e'.pending = none := hs.pend.trans h.pend
    have hrep : e'.reported = e'.base := reported_of_pending_none hp'
    exact emit_one (feed_pending o e' e.liveId x none h.status (Or.inr h.orig.symm) hx5
        (hrep ▸ hb4'))
      (pending_benign h.status _)
      (Sync0.reqSent m k pr qr ⟨hs.known', hp', hb', h.kind, hs.liveId ▸ h.req, hs.liveId ▸ h.orig,
        hs.liveId ▸ h.livene, h.clne, h.status, hs.rej0, nums _ rfl rfl rfl rfl h.nums⟩)
  | reqPending p h =>
    have hp' : e'.pending = some p := hs.pend.trans h.pend
    have hrep : e'.reported = pstat p.kind := reported_of_pending_some hp'
    exact emit_one (feed_pending o e' e.liveId x none h.status (Or.inr h.orig.symm) hx5
        (hrep ▸ pstat_ne4 _))
      (pending_benign h.status _)
      (Sync0.reqPending p ⟨hs.known', hp', h.kind, h.pcl, hs.liveId ▸ h.orig, hs.liveId ▸ h.livene,
        h.clne, h.status, keep (by rw [h.pend]; simp) h.live, nums _ rfl rfl rfl rfl h.nums⟩)

/-- the order reaches Filled / Expired: with a request acknowledged as pending the reject follows at once -/
theorem finish_ok {o : Order} {c : List Msg} {e e1 : Exch} {x : String} (h : Sync0 o c e)
    (hs : IdleStep e e1 x) (hb : e1.base = "2" ∨ e1.base = "C") : EmitOk o c (e1.finish x) := by
  unfold Exch.finish
  cases hpe : e1.pending with
  | none =>
    simp only
    rw [hs.liveId]
    exact idle_emit o c e e1 x hs (fun hp _ => absurd (hs.pend ▸ hpe) hp) h
  | some p =>
    simp only
    obtain ⟨hx5, _, _, _⟩ := idleTrans_facts _ hs.trans
    simp only at hx5
    obtain ⟨rfl, hp⟩ := sync_pending h (hs.pend ▸ hpe)
    obtain ⟨hbb, h8, h4⟩ : e1.base ∈ bases ∧ e1.base ≠ "8" ∧ e1.base ≠ "4" := by
      rcases hb with h' | h' <;> rw [h'] <;> decide
    have hf1 := feed_pending o { e1 with pending := none } e1.liveId x none hp.status
      (Or.inr (by rw [hs.liveId]; exact hp.orig.symm)) hx5
      (show e1.base ≠ "4" from h4)
    exact emit_cons hf1 (pending_benign hp.status _)
      (rej_ok (e' := { e1 with pending := none }) p.clOrdId _ (status := hp.status)
        (orig := hs.liveId ▸ hp.orig) (livene := hs.liveId ▸ hp.livene) (known := hs.known') (pend := rfl)
        (base := hbb) (rej0 := fun h8' => absurd h8' h8)
        (nums := ⟨rfl, rfl, hp.nums.price.trans hs.price.symm, hp.nums.qty.trans hs.qty.symm⟩))

/-- what an action the exchange takes on its own does: nothing; one transition, reported under the live
id, that leaves an order with a request held live; or one that finishes the order (`Exch.finish`) -/
inductive Unsol (e : Exch) : Exch × List Report → Prop
  | noop : Unsol e (e, [])
  | move {e' : Exch} {x : String} (h : IdleStep e e' x)
      (keep : e.pending ≠ none → live e.base = true → live e'.base = true) :
      Unsol e (e', [e'.execRep e.liveId x none])
  | done {e1 : Exch} {x : String} (h : IdleStep e e1 x) (hb : e1.base = "2" ∨ e1.base = "C") :
      Unsol e (e1.finish x)

theorem Unsol.ok {o : Order} {c : List Msg} {e : Exch} {r : Exch × List Report} (hu : Unsol e r)
    (h : Sync0 o c e) : EmitOk o c r := by
  cases hu with
  | noop => exact emit_noop h
  | move hs keep => exact idle_emit o c e _ _ hs keep h
  | done hs hb => exact finish_ok h hs hb

theorem Unsol.unknown {e : Exch} {r : Exch × List Report} (hu : Unsol e r) (hk : e.known = false) : r = (e, []) := by
  cases hu with
  | noop => rfl
  | move hs => exact nomatch hs.known.symm.trans hk
  | done hs => exact nomatch hs.known.symm.trans hk

/-- every operation of this kind does nothing to an order it does not know, or while its guard `g` holds -/
theorem Unsol.guarded {e : Exch} {g : Bool} {r : Exch × List Report}
    (hr : e.known = true → g = false → Unsol e r) : Unsol e (if !e.known || g then (e, []) else r) := by
  cases hk : e.known <;> cases hg : g
  · exact .noop
  · exact .noop
  · exact hr hk hg
  · exact .noop

theorem working_iff {s : String} : working s = true ↔ s = "0" ∨ s = "1" := by simp [working]

theorem live_iff {s : String} : Exchange.live s = true ↔ s = "0" ∨ s = "1" ∨ s = "9" := by
  simp [Exchange.live, or_assoc]

theorem ack_unsol (e : Exch) : Unsol e e.ack := by
  unfold Exch.ack
  refine .guarded fun hk hg => ?_
  have hb : e.base = "A" := by simpa using hg
  exact .move (e' := { e with base := "0" })
    ⟨hk, hk, rfl, rfl, rfl, rfl, by simp [hb, idleTrans], fun h8 => by simp at h8⟩ fun _ _ => rfl

theorem rejectNew_unsol (e : Exch) : Unsol e e.rejectNew := by
  unfold Exch.rejectNew
  refine .guarded fun hk hg => ?_
  have hb : e.base = "A" := by simpa using hg
  -- an order still Pending New is not live, so no request is held
  exact .move (e' := { e with base := "8", leaves := 0 })
    ⟨hk, hk, rfl, rfl, rfl, rfl, by simp [hb, idleTrans], fun _ => rfl⟩
    fun _ hl => by rw [hb] at hl; exact absurd hl (by decide)

theorem suspend_unsol (e : Exch) : Unsol e e.suspend := by
  unfold Exch.suspend
  refine .guarded fun hk hg => ?_
  have hb : e.base = "0" ∨ e.base = "1" := working_iff.mp (by simpa using hg)
  exact .move (e' := { e with base := "9" })
    ⟨hk, hk, rfl, rfl, rfl, rfl, by rcases hb with h' | h' <;> simp [h', idleTrans], fun h8 => by simp at h8⟩
    fun _ _ => rfl

theorem resume_unsol (e : Exch) : Unsol e e.resume := by
  unfold Exch.resume
  refine .guarded fun hk hg => ?_
  have hb : e.base = "9" := by simpa using hg
  by_cases hc : e.cum > 0
  · simp only [hc, if_true]
    exact .move (e' := { e with base := "1" })
      ⟨hk, hk, rfl, rfl, rfl, rfl, by simp [hb, idleTrans], fun h8 => by simp at h8⟩ fun _ _ => rfl
  · simp only [hc, if_false]
    exact .move (e' := { e with base := "0" })
      ⟨hk, hk, rfl, rfl, rfl, rfl, by simp [hb, idleTrans], fun h8 => by simp at h8⟩ fun _ _ => rfl

theorem fill_unsol (e : Exch) (q px : Int) : Unsol e (e.fill q px) := by
  unfold Exch.fill
  rw [Bool.or_assoc, Bool.or_assoc]
  refine .guarded fun hk hg => ?_
  have hb : e.base = "0" ∨ e.base = "1" := working_iff.mp (by simpa using (Bool.or_eq_false_iff.mp hg).1)
  simp only
  split
  · exact .done (x := "F")
      ⟨hk, hk, rfl, rfl, rfl, rfl, by rcases hb with h' | h' <;> simp [h', idleTrans], fun h8 => by simp at h8⟩
      (Or.inl rfl)
  · exact .move (e' := { e with cum := e.cum + q, leaves := e.leaves - q, avgPx := px, base := "1" }) (x := "F")
      ⟨hk, hk, rfl, rfl, rfl, rfl, by rcases hb with h' | h' <;> simp [h', idleTrans], fun h8 => by simp at h8⟩
      fun _ _ => rfl

/-- expiry – of an order that is not suspended (known finding C17-suspended-expire-ignored) -/
theorem expire_unsol (e : Exch) (hns : e.known = true → e.base ≠ "9") : Unsol e e.expire := by
  unfold Exch.expire
  refine .guarded fun hk hg => ?_
  have hb : e.base = "0" ∨ e.base = "1" :=
    (live_iff.mp (by simpa using hg)).imp_right fun h' => h'.resolve_right (hns hk)
  exact .done (x := "C")
    ⟨hk, hk, rfl, rfl, rfl, rfl, by rcases hb with h' | h' <;> simp [h', idleTrans], fun h8 => by simp at h8⟩
    (Or.inr rfl)

/-- no emitted report is a Replaced report with OrdStatus Suspended -/
def noSuspReplace (rs : List Report) : Prop :=
  ∀ r ∈ rs, ¬ (r.execType = some "5" ∧ r.ordStatus = some "9")

theorem live_bases {s : String} (h : Exchange.live s = true) : s ∈ bases ∧ s ≠ "8" ∧ s ≠ "4" := by
  rcases live_iff.mp h with rfl | rfl | rfl <;> decide

/-- exchange state after the replace request `p` it held was accepted: live under the request's id at its price,
quantity `nq`, LeavesQty `lv`, state `b` -/
def replacedEx (e : Exch) (p : PReq) (nq lv : Int) (b : String) : Exch :=
  { e with pending := none, liveId := p.clOrdId, price := p.price, qty := nq, leaves := lv, base := b }

theorem decide_none {e : Exch} (d : Decision) (h : e.pending = none) : e.decide d = (e, []) := by
  simp [Exch.decide, h]

theorem decide_ok {o : Order} {c : List Msg} {e : Exch} (d : Decision) (h : Sync0 o c e)
    (hnsr : noSuspReplace (e.decide d).2) : EmitOk o c (e.decide d) := by
  cases hpe : e.pending with
  | none => rw [decide_none d hpe]; exact emit_noop h
  | some p =>
    unfold Exch.decide at hnsr ⊢
    simp only [hpe] at hnsr ⊢
    obtain ⟨rfl, hp⟩ := sync_pending h hpe
    obtain ⟨hbb, hb8, hb4⟩ := live_bases hp.live
    have hben := pending_benign hp.status
    by_cases hd : d = .reject
    · simp only [hd, if_true]
      exact rej_ok (e' := { e with pending := none }) _ _ (status := hp.status) (orig := hp.orig)
        (livene := hp.livene) (known := hp.known) (pend := rfl) (base := hbb) (rej0 := fun h8 => absurd h8 hb8)
        (nums := ⟨hp.nums.cum, hp.nums.leaves, hp.nums.price, hp.nums.qty⟩)
    · simp only [hd, if_false] at hnsr ⊢
      by_cases hk : p.kind = "F"
      · simp only [hk, if_true]
        have hst6 : o.status = "6" := by rw [hp.status, hk]; rfl
        exact emit_one
          (feed_go o { e with pending := none, liveId := p.clOrdId, base := "4", leaves := 0 }
            p.clOrdId "4" (some e.liveId) (Or.inl hp.pcl) (by decide)
            (by rw [hst6]; exact cs8_cancelled) (by show "4" ∈ bases; decide))
          (hben _)
          (Sync0.idle ⟨hp.known, rfl, rfl, (by show "4" ∈ bases; decide), hp.pcl.symm, hp.pcl ▸ hp.clne,
            fun h4 => absurd rfl h4, fun h8 => by simp at h8, ⟨rfl, rfl, hp.nums.price, hp.nums.qty⟩⟩)
      · have hkG : p.kind = "G" := hp.kind.resolve_left hk
        simp only [hk, if_false] at hnsr ⊢
        have hstE : o.status = "E" := by rw [hp.status, hkG]; rfl
        generalize (if p.qty - e.cum < 0 then (0 : Int) else p.qty - e.cum) = lv at hnsr ⊢
        generalize hb : (if lv = 0 then "2" else if e.base = "9" then "9" else if e.cum > 0 then "1" else "0") = b
          at hnsr ⊢
        generalize (if p.qty < e.cum then e.cum else p.qty) = nq at hnsr ⊢
        have hb9 : b ≠ "9" := fun h9 =>
          hnsr _ (List.mem_singleton.mpr rfl) (by simp [Exch.execRep, Exch.reported, h9])
        have hbm : b ∈ ["0", "1", "2"] := by
          rw [← hb] at hb9 ⊢
          by_cases h0 : lv = 0
          · rw [if_pos h0]; decide
          · rw [if_neg h0] at hb9 ⊢
            by_cases h9 : e.base = "9"
            · rw [if_pos h9] at hb9; exact absurd rfl hb9
            · rw [if_neg h9]; by_cases hc : e.cum > 0 <;> simp [hc]
        have hb3 : b ∈ bases ∧ b ≠ "8" := by revert hbm; generalize b = b'; revert b'; decide
        have hfe := feed_execRep o (replacedEx e p nq lv b) p.clOrdId "5" (some e.liveId) (Or.inl hp.pcl)
        rw [show (replacedEx e p nq lv b).reported = b from rfl, hstE, cs8_replaced b hbm] at hfe
        simp only [execApply, if_true, finishExec_to _ (bases_sv b hb3.1)] at hfe
        exact emit_one hfe (hben _) (Sync0.idle ⟨hp.known, rfl, rfl, hb3.1, hp.pcl.symm, hp.pcl ▸ hp.clne,
          fun _ => rfl, fun h8 => absurd h8 hb3.2, ⟨rfl, rfl, rfl, rfl⟩⟩)

/-- exchange state right after it took the NewOrderSingle of `o` -/
def newEx (e : Exch) (o : Order) (b : String) (lv : Int) : Exch :=
  { e with known := true, liveId := o.clordId, price := o.price, qty := o.qty, cum := 0, avgPx := 0, base := b, leaves := lv }

theorem recv_new_ok {o : Order} {e : Exch} {m : Msg} {oo : Option Str} (d : Decision) (h : SNew o e m oo) :
    EmitOk o [] (e.recv (Req.ofMsg m) d) := by
  rw [h.req]
  -- the three answers: New, Pending New, Rejected
  have key : ∀ (b : String) (lv : Int), b ∈ ["0", "A", "8"] → (b = "8" → lv = 0) →
      EmitOk o [] (newEx e o b lv, [(newEx e o b lv).execRep o.clordId b none]) := by
    intro b lv hb h8
    obtain ⟨hbb, hb4, hb5, hcell⟩ := (by decide : ∀ b ∈ ["0", "A", "8"],
      b ∈ bases ∧ b ≠ "4" ∧ b ≠ "5" ∧ (b = "A" ∨ ("A", b, b) ∈ idleTrans)) b hb
    have hrep : (newEx e o b lv).reported = b := by simp [Exch.reported, newEx, h.pend]
    have hben : benign o.clordId ((newEx e o b lv).execRep o.clordId b none) :=
      ⟨_, b, rfl, hb5, h.pend, hbb, hb4⟩
    rcases hcell with rfl | htr
    · exact emit_one (feed_stay o (newEx e o "A" lv) o.clordId "A" none (Or.inl rfl) hb5
          (by rw [hrep, h.status]; exact cs8_pendnew))
        (fun _ => hben)
        (Sync0.idle ⟨rfl, h.pend, h.status, hbb, rfl, h.clne, fun _ => h.orig, h8, ⟨rfl, rfl, rfl, rfl⟩⟩)
    · exact emit_one (feed_go o (newEx e o b lv) o.clordId b none (Or.inl rfl) hb5
          (by rw [hrep, h.status]; exact cs8_idle _ htr) (by rw [hrep]; exact hbb))
        (fun _ => hben)
        (Sync0.idle ⟨rfl, h.pend, hrep, hbb, rfl, h.clne, fun _ => h.orig, h8, ⟨rfl, rfl, rfl, rfl⟩⟩)
  unfold Exch.recv
  simp only [h.known, Bool.false_eq_true, if_false, if_true, Option.getD_some]
  by_cases hbad : badPQ (some o.price) (some o.qty) = true
  · simp only [hbad, if_true]
    exact key "8" 0 (by decide) (fun _ => rfl)
  · simp only [hbad]
    cases d with
    | accept => exact key "0" o.qty (by decide) (fun h8 => by simp at h8)
    | pend => exact key "A" o.qty (by decide) (fun h8 => by simp at h8)
    | reject => exact key "8" 0 (by decide) (fun _ => rfl)

/-- exchange state holding the request -/
def holdEx (e : Exch) (k : String) (cl : Str) (np nq : Int) : Exch :=
  { e with pending := some ⟨k, cl, np, nq⟩ }

theorem hold_sync {o : Order} {e : Exch} {m : Msg} {k : String} {pr qr : Option Int} (np nq : Int)
    (h : SSent o e m k pr qr) (hl : Exchange.live e.base = true) :
    Sync0 o [] (holdEx e k o.clordId np nq) :=
  Sync0.reqPending ⟨k, o.clordId, np, nq⟩
    ⟨h.known, rfl, h.kind, rfl, h.orig, h.livene, h.clne, h.status, hl, ⟨h.nums.cum, h.nums.leaves, h.nums.price, h.nums.qty⟩⟩

theorem recv_pend_ok {o : Order} {e : Exch} {m : Msg} {k : String} {pr qr : Option Int} (np nq : Int) (x : String)
    (hx : x = "6" ∨ x = "E") (h : SSent o e m k pr qr) (hl : Exchange.live e.base = true) :
    EmitOk o [] (holdEx e k o.clordId np nq, [(holdEx e k o.clordId np nq).execRep o.clordId x (some e.liveId)]) := by
  have hex : x ≠ "5" := by rcases hx with rfl | rfl <;> decide
  exact emit_one
    (feed_pending o (holdEx e k o.clordId np nq) o.clordId x (some e.liveId) h.status
      (Or.inl rfl) hex (show pstat k ≠ "4" from pstat_ne4 k))
    (pending_benign h.status _)
    (Sync0.reqPending ⟨k, o.clordId, np, nq⟩
      ⟨h.known, rfl, h.kind, rfl, h.orig, h.livene, h.clne, h.status, hl, ⟨rfl, rfl, h.nums.price, h.nums.qty⟩⟩)

theorem recv_request (e : Exch) {k : String} (hk : k = "F" ∨ k = "G") (cl : Str) (pr qr : Option Int)
    (d : Decision) (hknown : e.known = true) (hpend : e.pending = none) :
    e.recv ⟨k, some cl, some e.liveId, pr, qr⟩ d = (e, [cxlRej cl (some e.liveId) e.base]) ∨
    Exchange.live e.base = true ∧ ∃ np nq, e.recv ⟨k, some cl, some e.liveId, pr, qr⟩ d =
      if d = .pend then
        (holdEx e k cl np nq, [(holdEx e k cl np nq).execRep cl (pstat k) (some e.liveId)])
      else (holdEx e k cl np nq).decide .accept := by
  have hkD : k ≠ "D" := by rcases hk with rfl | rfl <;> decide
  unfold Exch.recv
  simp only [hkD, hk, hknown, hpend, if_false, if_true, Bool.not_true, bne_self_eq_false,
    Option.isSome_none, Bool.or_self, Bool.false_eq_true]
  by_cases hl : Exchange.live e.base = true
  · simp only [hl, Bool.not_true, Bool.false_eq_true, if_false]
    by_cases hbad : k = "G" ∧ badPQ (if k = "G" then pr else some e.price) (if k = "G" then qr else some e.qty) = true
    · exact Or.inl (by rw [if_pos hbad])
    · rw [if_neg hbad]
      by_cases hd : d = .reject
      · exact Or.inl (by rw [if_pos hd])
      · rw [if_neg hd]
        exact Or.inr ⟨trivial, (if k = "G" then pr else some e.price).getD 0,
          (if k = "G" then qr else some e.qty).getD 0, by simp only [holdEx, pstat, hknown]⟩
  · exact Or.inl (by simp [hl])

theorem recv_req_ok {o : Order} {e : Exch} {m : Msg} {k : String} {pr qr : Option Int} (d : Decision)
    (h : SSent o e m k pr qr) (hnsr : noSuspReplace (e.recv (Req.ofMsg m) d).2) :
    EmitOk o [] (e.recv (Req.ofMsg m) d) := by
  rw [h.req] at hnsr ⊢
  rcases recv_request e h.kind o.clordId pr qr d h.known h.pend with hr | ⟨hl, np, nq, hr⟩ <;> rw [hr] at hnsr ⊢
  · exact rej_ok _ _ (status := h.status) (orig := h.orig) (livene := h.livene) (known := h.known) (pend := h.pend)
      (base := h.base) (rej0 := h.rej0) (nums := h.nums)
  · by_cases hp : d = .pend
    · rw [if_pos hp]; exact recv_pend_ok np nq (pstat k) (pstat_pending k) h hl
    · rw [if_neg hp] at hnsr ⊢
      exact decide_ok .accept (hold_sync np nq h hl) hnsr

end AsyncFix.Model.OrderLink
