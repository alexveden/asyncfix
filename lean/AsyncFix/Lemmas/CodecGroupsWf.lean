/-
Destructuring lemmas for the well-formedness predicates of CodecSpec.lean
(`wfNode / wfItems / wfItem / wfNodes`), shared by the group, encoder-shape and bridge proofs.
-/
import AsyncFix.Lemmas.CodecSpec
namespace AsyncFix.Model.Codec

/-- the membership test `wfNodes` applies to every entry tag -/
def inMs (ms? : Option (List Tag)) (t : Tag) : Bool :=
  match ms? with
  | some ms => ms.contains t
  | none => true

theorem wfNode_group {tbl : Tbl} {g : Tag} {items : List (List Node)}
    (h : wfNode tbl (.group g items) = true) :
    ∃ ms, tbl.members? g = some ms ∧ okTag g = true ∧ items ≠ [] ∧ wfItems tbl ms items = true := by
  simp only [wfNode, Bool.and_eq_true] at h
  cases hm : tbl.members? g with
  | none => simp [hm] at h
  | some ms =>
    simp only [hm, Bool.and_eq_true, Bool.not_eq_true', List.isEmpty_eq_false_iff] at h
    exact ⟨ms, rfl, h.1, h.2.1, h.2.2⟩

theorem wfItem_wfNodes {tbl : Tbl} {ms : List Tag} {it : List Node} (h : wfItem tbl ms it = true) :
    wfNodes tbl (some ms) [] it = true := by
  cases it with
  | nil => unfold wfItem at h; cases h
  | cons n rest =>
    cases n with
    | leaf t v => unfold wfItem at h; exact h
    | err t => unfold wfItem at h; cases h
    | group g items => unfold wfItem at h; cases h

/-- `wfNodes` on a non-empty container, in one equation for both shapes of the rest -/
theorem wfNodes_cons (tbl : Tbl) (ms? : Option (List Tag)) (seen : List Tag) (n : Node) (rest : List Node) :
    wfNodes tbl ms? seen (n :: rest) =
      (wfNode tbl n && !seen.contains n.tag && inMs ms? n.tag &&
        (match rest with | [] => true | m :: _ => notOpen m.tag (openMembersNode tbl n)) &&
        wfNodes tbl ms? (n.tag :: seen) rest) := by
  cases rest <;> cases ms? <;> simp [wfNodes, inMs]

theorem wfNodes_head {tbl : Tbl} {ms? : Option (List Tag)} {seen : List Tag} {n : Node}
    {rest : List Node} (h : wfNodes tbl ms? seen (n :: rest) = true) :
    wfNode tbl n = true ∧ seen.contains n.tag = false ∧ inMs ms? n.tag = true := by
  simp only [wfNodes_cons, Bool.and_eq_true, Bool.not_eq_true'] at h
  exact ⟨h.1.1.1.1, h.1.1.1.2, h.1.1.2⟩

theorem wfNodes_cons2 {tbl : Tbl} {ms? : Option (List Tag)} {seen : List Tag} {n m : Node}
    {rest : List Node} (h : wfNodes tbl ms? seen (n :: m :: rest) = true) :
    notOpen m.tag (openMembersNode tbl n) = true ∧
      wfNodes tbl ms? (n.tag :: seen) (m :: rest) = true := by
  rw [wfNodes_cons] at h
  simp only [Bool.and_eq_true] at h
  exact ⟨h.1.2, h.2⟩

theorem wfNodes_tail {tbl : Tbl} {ms? : Option (List Tag)} {seen : List Tag} {n : Node}
    {rest : List Node} (h : wfNodes tbl ms? seen (n :: rest) = true) :
    wfNodes tbl ms? (n.tag :: seen) rest = true := by
  rw [wfNodes_cons] at h
  simp only [Bool.and_eq_true] at h
  exact h.2

theorem wfItem_leaf_head {tbl : Tbl} {ms : List Tag} {t v : Bytes} {rest : List Node}
    (h : wfItem tbl ms (.leaf t v :: rest) = true) :
    ms.contains t = true ∧ tbl.members? t = none := by
  have h1 := wfNodes_head (wfItem_wfNodes h)
  simp only [wfNode, Node.tag, Bool.and_eq_true, Option.isNone_iff_eq_none, inMs] at h1
  exact ⟨h1.2.2, h1.1.2⟩

theorem wfItems_head {tbl : Tbl} {ms : List Tag} {it : List Node} {rest : List (List Node)}
    (h : wfItems tbl ms (it :: rest) = true) : wfItem tbl ms it = true := by
  cases rest with
  | nil => unfold wfItems at h; exact h
  | cons r rs =>
    unfold wfItems at h
    simp only [Bool.and_eq_true] at h
    exact h.1.1

theorem wfItems_cons2 {tbl : Tbl} {ms : List Tag} {it nxt : List Node} {rest : List (List Node)}
    (h : wfItems tbl ms (it :: nxt :: rest) = true) :
    wfItems tbl ms (nxt :: rest) = true ∧
      ∃ t v nrest, nxt = .leaf t v :: nrest ∧ (contTags it).contains t = true ∧
        notOpen t (openMembersCont tbl it) = true := by
  unfold wfItems at h
  simp only [Bool.and_eq_true] at h
  refine ⟨h.2, ?_⟩
  have h2 := h.1.2
  cases nxt with
  | nil => cases h2
  | cons n nrest =>
    cases n with
    | leaf t v =>
      simp only [Bool.and_eq_true] at h2
      exact ⟨t, v, nrest, rfl, h2.1, h2.2⟩
    | err t => cases h2
    | group g items => cases h2

theorem has_eq_contTags (c : List Node) (t : Tag) : Cont.has c t = (contTags c).contains t := by
  induction c with
  | nil => rfl
  | cons n r ih =>
    rw [Cont.has] at ih ⊢
    simp only [contTags, List.map_cons, List.contains_cons, List.any_cons] at ih ⊢
    rw [ih, Bool.beq_comm]

theorem wfItems_tail {tbl : Tbl} {ms : List Tag} {it : List Node} {rest : List (List Node)}
    (h : wfItems tbl ms (it :: rest) = true) : wfItems tbl ms rest = true := by
  cases rest with
  | nil => unfold wfItems; rfl
  | cons r rs => exact (wfItems_cons2 h).1

theorem wfNodes_mem_inMs {tbl : Tbl} {ms? : Option (List Tag)} {seen : List Tag} {c : List Node}
    (h : wfNodes tbl ms? seen c = true) : ∀ n ∈ c, inMs ms? n.tag = true := by
  induction c generalizing seen with
  | nil => intro n hn; cases hn
  | cons m rest ih =>
    intro n hn
    rcases List.mem_cons.mp hn with rfl | hn
    · exact (wfNodes_head h).2.2
    · exact ih (wfNodes_tail h) n hn

theorem wfTop_iff {tbl : Tbl} {c : Cont} : wfTop tbl c = true ↔
    wfNodes tbl none [] c = true ∧ notOpen tag10 (openMembersCont tbl c) = true ∧
      (contTags c).contains tag10 = false ∧ tbl.members? tag10 = none := by
  simp only [wfTop, Bool.and_eq_true, Bool.not_eq_true', Option.isNone_iff_eq_none, and_assoc]

theorem wfTop_nodes {tbl : Tbl} {c : Cont} (h : wfTop tbl c = true) : wfNodes tbl none [] c = true :=
  (wfTop_iff.1 h).1

theorem wfNodes_drop {tbl : Tbl} {ms? : Option (List Tag)} (xs : List Node) :
    ∀ {seen : List Tag} {ys : List Node}, wfNodes tbl ms? seen (xs ++ ys) = true →
      ∃ seen', wfNodes tbl ms? seen' ys = true := by
  induction xs with
  | nil => intro seen ys h; exact ⟨seen, h⟩
  | cons x xs ih => intro seen ys h; exact ih (wfNodes_tail h)

end AsyncFix.Model.Codec
