/-
Repeating-group reconstruction: feeding the wire-order fields of a well-formed container,
followed by the CheckSum field, to the decoder's field loop rebuilds exactly that container
(same entries, same order, same group nesting / item count / item order), with no group left open.
No bound on sizes or nesting depth: a mutual induction over entries / items / containers shows that
the wire order of a well-formed entry (container, item list) appends exactly that entry to the
current container, up to the chain of frames that the entry leaves open (`ClosesTo`).
-/
import AsyncFix.Lemmas.CodecGroupsCore
import AsyncFix.Lemmas.CodecGroupsWf
namespace AsyncFix.Model.Codec

/-- the enclosing group's member list (`none` at message level) agrees with the decoder state -/
def fits (ms? : Option (List Tag)) (s : DS) : Prop :=
  ∀ t, inMs ms? t = true → accepts s t = true

theorem flatCont_head (n : Node) (rest : List Node) :
    ∃ x tl, flatCont (n :: rest) = ⟨n.tag, x⟩ :: tl := by
  cases n <;> exact ⟨_, _, rfl⟩

/-- a field that none of the groups left open lists is handled from the state they close to -/
theorem coreAll_closesTo {tbl : Tbl} {oms : List (List Tag)} {s s'' : DS} {t : Tag} {x : Bytes}
    {tl : List Fld} (h : ClosesTo oms s s'') (hn : notOpen t oms = true) :
    coreAll tbl s (⟨t, x⟩ :: tl) = coreAll tbl s'' (⟨t, x⟩ :: tl) := by
  simp only [coreAll, stepCore, closeWhile_closesTo h hn]

mutual
theorem node_ok (tbl : Tbl) : (n : Node) → (s : DS) → wfNode tbl n = true →
    accepts s n.tag = true → (cur s).has n.tag = false →
    ∃ s', coreAll tbl s (flatNode n) = .ok s' ∧
      ClosesTo (openMembersNode tbl n) s' (setCur s (cur s ++ [n]))
  | .leaf t v, s, hw, ha, hh => by
    simp only [wfNode, Bool.and_eq_true, Option.isNone_iff_eq_none] at hw
    simp only [Node.tag] at ha hh
    refine ⟨setCur s (cur s ++ [.leaf t v]), ?_, ?_⟩
    · simp only [flatNode, coreAll, stepCore_leaf v ha hw.2 hh]
    · simp only [openMembersNode, ClosesTo]
  | .err t, s, hw, _, _ => by simp [wfNode] at hw
  | .group g items, s, hw, ha, hh => by
    obtain ⟨ms, hm, -, hne, hwi⟩ := wfNode_group hw
    simp only [Node.tag] at ha hh
    obtain ⟨s', h1, h2⟩ := items_ok tbl items s g ms (cur s) [] hwi hne hh rfl
    refine ⟨s', ?_, ?_⟩
    · simp only [flatNode, coreAll, stepCore_accepts _ ha, afterClose, hm, h1]
    · simp only [List.nil_append, addItemsTo_ne _ _ hne] at h2
      simpa only [openMembersNode, hm, Option.getD_some] using h2
theorem items_ok (tbl : Tbl) : (items : List (List Node)) → (s0 : DS) → (g : Tag) →
    (ms : List Tag) → (P : Cont) → (done : List (List Node)) →
    wfItems tbl ms items = true → items ≠ [] → P.has g = false → cur s0 = addItemsTo P g done →
    ∃ s', coreAll tbl (push ⟨g, ms, []⟩ s0) (flatItems items) = .ok s' ∧
      ClosesTo (ms :: openMembersItems tbl items) s' (setCur s0 (addItemsTo P g (done ++ items)))
  | [], _, _, _, _, _, _, hne, _, _ => absurd rfl hne
  | [it], s0, g, ms, P, done, hw, _, hg, hc => by
    obtain ⟨s', h1, h2⟩ := cont_ok tbl it (push ⟨g, ms, []⟩ s0) (some ms) []
      (wfItem_wfNodes (wfItems_head hw))
      (fun t ht => ht) (fun t ht => by simp [Cont.has] at ht)
    refine ⟨s', ?_, ?_⟩
    · simp only [flatItems, List.append_nil, h1]
    · refine ⟨⟨g, ms, it⟩, s0, ?_, rfl, ?_⟩
      · simpa only [cur_push, List.nil_append, setCur_push, openMembersItems] using h2
      · rw [closeTop_push, hc, addGroup_addItemsTo done it hg]
  | it :: (nxt :: rest), s0, g, ms, P, done, hw, _, hg, hc => by
    obtain ⟨hw3, t, v, nrest, hnx, hw2a, hw2b⟩ := wfItems_cons2 hw
    obtain ⟨s', h1, h2⟩ := cont_ok tbl it (push ⟨g, ms, []⟩ s0) (some ms) []
      (wfItem_wfNodes (wfItems_head hw)) (fun t ht => ht) (fun t ht => by simp [Cont.has] at ht)
    simp only [cur_push, List.nil_append, setCur_push] at h2
    -- the next item starts with a plain field that the previous item already has
    have hitem : wfItem tbl ms (.leaf t v :: nrest) = true := hnx ▸ wfItems_head hw3
    obtain ⟨hmem, hnone⟩ := wfItem_leaf_head hitem
    have hadd := addGroup_addItemsTo done it hg
    rw [← hc] at hadd
    have hstep : ∀ tl, coreAll tbl s' (⟨t, v⟩ :: tl) =
        coreAll tbl (push ⟨g, ms, []⟩ (setCur s0 (addItemsTo P g (done ++ [it])))) (⟨t, v⟩ :: tl) := by
      intro tl
      rw [coreAll_closesTo h2 hw2b]
      have e1 := stepCore_next (tbl := tbl) (s0 := s0) (f := ⟨g, ms, it⟩) v hmem hnone
        (by rw [has_eq_contTags]; exact hw2a) hadd
      have e2 := stepCore_leaf (tbl := tbl)
        (s := push ⟨g, ms, []⟩ (setCur s0 (addItemsTo P g (done ++ [it])))) v
        (by simpa using hmem) hnone (by simp [Cont.has])
      simp only [coreAll, e1, e2, cur_push, List.nil_append, setCur_push]
    obtain ⟨s'', h3, h4⟩ := items_ok tbl (nxt :: rest)
      (setCur s0 (addItemsTo P g (done ++ [it]))) g ms P (done ++ [it]) hw3 (by simp) hg (by simp)
    refine ⟨s'', ?_, ?_⟩
    · have hfl : flatItems (nxt :: rest) = ⟨t, v⟩ :: (flatCont nrest ++ flatItems rest) := by
        rw [hnx]
        simp only [flatItems, flatCont, flatNode, List.cons_append, List.nil_append]
      rw [flatItems, coreAll_append, h1]
      simp only
      rw [hfl, hstep, ← hfl, h3]
    · simpa only [openMembersItems, setCur_setCur, List.append_assoc, List.cons_append,
        List.nil_append] using h4
theorem cont_ok (tbl : Tbl) : (ns : List Node) → (s : DS) → (ms? : Option (List Tag)) →
    (seen : List Tag) → wfNodes tbl ms? seen ns = true → fits ms? s →
    (∀ t, (cur s).has t = true → seen.contains t = true) →
    ∃ s', coreAll tbl s (flatCont ns) = .ok s' ∧
      ClosesTo (openMembersCont tbl ns) s' (setCur s (cur s ++ ns))
  | [], s, _, _, _, _, _ => ⟨s, rfl, by simp [openMembersCont, ClosesTo]⟩
  | [n], s, ms?, seen, hw, hf, hs => by
    obtain ⟨hn, hseen, hmem⟩ := wfNodes_head hw
    have hh : (cur s).has n.tag = false :=
      Bool.eq_false_iff.mpr fun h => by rw [hs _ h] at hseen; cases hseen
    obtain ⟨s', h1, h2⟩ := node_ok tbl n s hn (hf _ hmem) hh
    exact ⟨s', by simpa only [flatCont, List.append_nil] using h1,
      by simpa only [openMembersCont] using h2⟩
  | n :: (m :: rest), s, ms?, seen, hw, hf, hs => by
    obtain ⟨hn, hseen, hmem⟩ := wfNodes_head hw
    obtain ⟨hopen, hrest⟩ := wfNodes_cons2 hw
    have hh : (cur s).has n.tag = false :=
      Bool.eq_false_iff.mpr fun h => by rw [hs _ h] at hseen; cases hseen
    obtain ⟨s1, h1, h2⟩ := node_ok tbl n s hn (hf _ hmem) hh
    obtain ⟨s', h3, h4⟩ := cont_ok tbl (m :: rest) (setCur s (cur s ++ [n])) ms? (n.tag :: seen)
      hrest (fun t ht => by simpa using hf t ht) (by
        intro t ht
        simp only [cur_setCur, Cont.has, List.any_append, List.any_cons, List.any_nil,
          Bool.or_false, Bool.or_eq_true] at ht
        simp only [List.contains_cons, Bool.or_eq_true]
        rcases ht with ht | ht
        · exact Or.inr (hs t (by simpa [Cont.has] using ht))
        · exact Or.inl (by have := eq_of_beq ht; simp [this]))
    refine ⟨s', ?_, ?_⟩
    · obtain ⟨x, tl, hhd⟩ := flatCont_head m rest
      rw [flatCont, coreAll_append, h1]
      simp only
      rw [hhd, coreAll_closesTo h2 hopen, ← hhd, h3]
    · simpa only [openMembersCont, cur_setCur, setCur_setCur, List.append_assoc, List.cons_append,
        List.nil_append] using h4
end

theorem coreAll_wfTop (tbl : Tbl) (c : Cont) (v : Bytes) (h : wfTop tbl c = true) :
    coreAll tbl ([], []) (flatCont c ++ [⟨tag10, v⟩]) = .ok (c ++ [.leaf tag10 v], []) := by
  obtain ⟨hw, hopen, hnot, hnone⟩ := wfTop_iff.1 h
  obtain ⟨s', h1, h2⟩ := cont_ok tbl c ([], []) none [] hw (fun _ _ => rfl)
    (fun t ht => by simp [cur, Cont.has] at ht)
  have h2' : ClosesTo (openMembersCont tbl c) s' (c, []) := by
    simpa only [cur, setCur, List.nil_append] using h2
  have hhas : Cont.has c tag10 = false := by rw [has_eq_contTags]; exact hnot
  rw [coreAll_append, h1]
  simp only
  rw [coreAll_closesTo h2' hopen]
  have e := stepCore_leaf (tbl := tbl) (s := (c, [])) v rfl hnone hhas
  simp only [coreAll, e, cur, setCur]

/-- the field loop on the wire order of a well-formed container followed by CheckSum: the property C01 rests on -/
theorem stepAll_wfTop (tbl : Tbl) (ck : Nat) (c : Cont) (v : Bytes) (h : wfTop tbl c = true) :
    stepAll tbl ck {} (flatCont c ++ [⟨tag10, v⟩]) =
      .ok { top := c ++ [.leaf tag10 v], stack := [],
            mtype := lastMtype (flatCont c),
            ckPassed := (ckParse v == some ck) } := by
  rw [stepAll_eq]
  have hc := coreAll_wfTop tbl c v h
  simp only at hc ⊢
  rw [hc]
  simp only [bkAll_snd_tag10, bkAll_fst]
  congr 2
  -- the CheckSum field is not tagged 35
  simp [lastMtype, List.foldl_append, tag10, tag35]

/-! ### non-vacuity: a message with a 2-item group whose first item holds a nested 2-item group -/

def exTbl : Tbl :=
  [([52, 53, 51], [[52, 52, 56], [52, 52, 55], [56, 48, 50]]), ([56, 48, 50], [[53, 50, 51]])]

/-- `35=D | 453=2 | 448=a 802=2 [523=x] [523=y] | 448=b 447=D | 58=t` -/
def exCont : Cont :=
  [.leaf [51, 53] [68],
   .group [52, 53, 51]
     [[.leaf [52, 52, 56] [97],
       .group [56, 48, 50] [[.leaf [53, 50, 51] [120]], [.leaf [53, 50, 51] [121]]]],
      [.leaf [52, 52, 56] [98], .leaf [52, 52, 55] [68]]],
   .leaf [53, 56] [116]]

theorem exCont_wfTop : wfTop exTbl exCont = true := by
  -- table lookups first, then the recursion by its equations; a closed Boolean term is left
  have hg1 : exTbl.members? [52, 53, 51] = some [[52, 52, 56], [52, 52, 55], [56, 48, 50]] := rfl
  have hg2 : exTbl.members? [56, 48, 50] = some [[53, 50, 51]] := rfl
  have hl : ∀ t ∈ [[51, 53], [52, 52, 56], [52, 52, 55], [53, 50, 51], [53, 56], tag10],
      exTbl.members? t = none := by decide
  simp only [List.forall_mem_cons, List.not_mem_nil, false_imp_iff, implies_true, and_true, tag10] at hl
  obtain ⟨h1, h2, h3, h4, h5, h6⟩ := hl
  simp only [wfTop, exCont, wfNodes, wfNode, wfItems, wfItem, hg1, hg2, h1, h2, h3, h4, h5, h6, notOpen,
    openMembersNode, openMembersItems, openMembersCont, contTags, Node.tag, tag10, Option.getD_some, List.map]
  decide

example (ck : Nat) (v : Bytes) :
    stepAll exTbl ck {} (flatCont exCont ++ [⟨tag10, v⟩]) =
      .ok { top := exCont ++ [.leaf tag10 v], stack := [], mtype := lastMtype (flatCont exCont),
            ckPassed := (ckParse v == some ck) } :=
  stepAll_wfTop exTbl ck exCont v exCont_wfTop

end AsyncFix.Model.Codec
