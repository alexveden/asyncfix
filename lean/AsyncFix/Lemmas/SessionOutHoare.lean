import AsyncFix.Lemmas.SessionOutDefs
import AsyncFix.Lemmas.SessionHandlers

/-!
C05 proof machinery: `Hold sr U X c x Q`, a Hoare triple about ONE start connection `c` – `x` ends
(normally or by raising) in a connection related to `c` by `Good`, and with `Q` when it ends normally.
Statements that leave the connection alone are passed without a new connection variable (`Hold.bind_ret`).
-/
namespace AsyncFix.Session

open AsyncFix.Generated AsyncFix.Generated.ConnEnum

section run
variable {α β γ : Type}

theorem run_bind_throw (ex : Exc) (f : α → M β) (c : Conn) :
    ((M.throw ex : M α) >>= f) c = ⟨.error ex, c, []⟩ :=
  M.throw_bind_apply ex f c

end run

variable {sr : Msg → Bool} {U X : Prop} {α β : Type}

def Hold (sr : Msg → Bool) (U X : Prop) (c : Conn) (x : M α) (Q : α → Conn → Prop) : Prop :=
  Good sr U X c (x c).conn (x c).eff ∧ ∀ a, (x c).res = .ok a → Q a (x c).conn

theorem M.pure_eq (a : α) : (pure a : M α) = M.pure' a := M.pure_def a

/-- not in a disconnected state -/
def Live (c : Conn) : Prop := st_DISCONNECTED_BROKEN_CONN < c.state

theorem Hold.congr {c : Conn} {x y : M α} {Q : α → Conn → Prop} (h : x c = y c)
    (hy : Hold sr U X c y Q) : Hold sr U X c x Q := by
  unfold Hold at *; rw [h]; exact hy

theorem Hold.true_of {c : Conn} {x : M α} {Q : α → Conn → Prop} (hx : Hold sr U X c x Q) :
    Hold sr U X c x (fun _ _ => True) := ⟨hx.1, fun _ _ => trivial⟩

theorem Hold.pure {c : Conn} {a : α} {Q : α → Conn → Prop} (hI : OutInv c) (hQ : Q a c) :
    Hold sr U X c (pure a) Q :=
  ⟨Good.refl hI, fun b hb => by cases hb; exact hQ⟩

theorem Hold.throw {c : Conn} {ex : Exc} {Q : α → Conn → Prop} (hI : OutInv c) :
    Hold sr U X c (M.throw ex) Q :=
  ⟨Good.refl hI, fun b hb => by cases hb⟩

theorem Hold.liftE {c : Conn} {x : Except Exc α} {Q : α → Conn → Prop} (hI : OutInv c)
    (hQ : ∀ a, x = .ok a → Q a c) : Hold sr U X c (M.liftE x) Q :=
  ⟨Good.refl hI, fun a ha => hQ a ha⟩

theorem Hold.assert {c : Conn} {b : Bool} {Q : Unit → Conn → Prop} (hI : OutInv c)
    (hQ : b = true → Q () c) : Hold sr U X c (M.assert b) Q := by
  cases b
  · exact Hold.throw hI
  · exact Hold.pure hI (hQ rfl)

theorem Hold.int {c : Conn} {s : String} {Q : Int → Conn → Prop} (hI : OutInv c)
    (hQ : ∀ n, pyInt s = some n → Q n c) : Hold sr U X c (M.int s) Q := by
  unfold M.int
  split
  · rename_i n hn; exact Hold.pure hI (hQ n hn)
  · exact Hold.throw hI

theorem Hold.modify {c : Conn} {g : Conn → Conn} {Q : Unit → Conn → Prop} (hI : OutInv (g c))
    (he : OutEq c (g c)) (hQ : Q () (g c)) : Hold sr U X c (M.modify g) Q :=
  ⟨Good.of_outEq hI he rfl, fun _ _ => hQ⟩

def Effect.isWrite : Effect → Bool
  | .write _ => true
  | _ => false

theorem Good.emit {c : Conn} (e : Effect) (h : e.isWrite = false) (hI : OutInv c) :
    Good sr U X c c [e] :=
  Good.of_outEq hI (OutEq.refl c) (by cases e <;> first | rfl | cases h)

theorem Hold.emit {c : Conn} {e : Effect} {Q : Unit → Conn → Prop} (h : e.isWrite = false)
    (hI : OutInv c) (hQ : Q () c) : Hold sr U X c (M.emit e) Q :=
  ⟨Good.emit e h hI, fun _ _ => hQ⟩

theorem Hold.bind {c : Conn} {x : M α} {f : α → M β} {Q : α → Conn → Prop} {Q' : β → Conn → Prop}
    (hx : Hold sr U X c x Q)
    (hf : ∀ a c1, OutInv c1 → Q a c1 → Hold sr U X c1 (f a) Q') :
    Hold sr U X c (x >>= f) Q' := by
  obtain ⟨hg, hq⟩ := hx
  unfold Hold
  rcases hxc : x c with ⟨_ | a, c1, e1⟩ <;> rw [hxc] at hg hq
  · rw [M.bind_err hxc]; exact ⟨hg, fun a ha => by cases ha⟩
  · rw [M.bind_ok hxc]
    have h2 := hf a c1 hg.inv (hq a rfl)
    exact ⟨hg.trans h2.1, h2.2⟩

theorem Hold.tryCatch {c : Conn} {x : M α} {h : Exc → M α} {Q : α → Conn → Prop}
    (hx : Hold sr U X c x Q) (hh : ∀ ex c1, OutInv c1 → Hold sr U X c1 (h ex) Q) :
    Hold sr U X c (M.tryCatch x h) Q := by
  obtain ⟨hg, hq⟩ := hx
  unfold Hold
  rcases hxc : x c with ⟨ex | a, c1, e1⟩ <;> rw [hxc] at hg hq
  · rw [M.tryCatch_err hxc]
    have h2 := hh ex c1 hg.inv
    exact ⟨hg.trans h2.1, h2.2⟩
  · rw [M.tryCatch_ok hxc]; exact ⟨hg, hq⟩

theorem Hold.ite {c : Conn} {p : Prop} [Decidable p] {x y : M α} {Q : α → Conn → Prop}
    (hx : p → Hold sr U X c x Q) (hy : ¬p → Hold sr U X c y Q) :
    Hold sr U X c (if p then x else y) Q := by
  split
  · exact hx ‹_›
  · exact hy ‹_›

/-- top-level entry point: the escaping exception is one more (non-write) effect -/
theorem Hold.run {c : Conn} {x : M α} {Q : α → Conn → Prop} (hx : Hold sr U X c x Q) :
    Good sr U X c (x.run c).1 (x.run c).2 := by
  unfold M.run
  obtain ⟨hg, _⟩ := hx
  rcases hxc : x c with ⟨ex | a, c1, e1⟩ <;> rw [hxc] at hg
  · exact hg.trans (Good.emit (.raised ex) rfl hg.inv)
  · exact hg

theorem Hold.bind_ret {c : Conn} {x : M α} {a : α} {f : α → M β} {Q : β → Conn → Prop}
    (h : x c = ⟨.ok a, c, []⟩) (hf : Hold sr U X c (f a) Q) : Hold sr U X c (x >>= f) Q :=
  Hold.congr (M.bind_pre h) hf

theorem Hold.bind_raise {c : Conn} {x : M α} {ex : Exc} {f : α → M β} {Q : β → Conn → Prop}
    (h : x c = ⟨.error ex, c, []⟩) (hI : OutInv c) : Hold sr U X c (x >>= f) Q :=
  Hold.congr (y := M.throw ex) (M.bind_err h) (Hold.throw hI)

theorem Hold.bind_get {c : Conn} {f : Conn → M β} {Q : β → Conn → Prop}
    (hf : Hold sr U X c (f c) Q) : Hold sr U X c (M.get >>= f) Q :=
  Hold.bind_ret rfl hf

theorem Hold.get {c : Conn} {f : Conn → M β} {Q' : β → Conn → Prop}
    (hf : OutInv c → Hold sr U X c (f c) Q') (hI : OutInv c) :
    Hold sr U X c (M.get >>= f) Q' :=
  Hold.bind_get (hf hI)

theorem Hold.bind_pure {c : Conn} {a : α} {f : α → M β} {Q : β → Conn → Prop}
    (hf : Hold sr U X c (f a) Q) : Hold sr U X c ((Pure.pure a : M α) >>= f) Q :=
  Hold.bind_ret rfl hf

theorem Hold.bind_assert {c : Conn} {b : Bool} {f : Unit → M β} {Q : β → Conn → Prop}
    (hI : OutInv c) (hf : b = true → Hold sr U X c (f ()) Q) :
    Hold sr U X c (M.assert b >>= f) Q := by
  cases b
  · exact Hold.bind_raise rfl hI
  · exact Hold.bind_ret rfl (hf rfl)

theorem Hold.bind_liftE {c : Conn} {x : Except Exc α} {f : α → M β} {Q : β → Conn → Prop}
    (hI : OutInv c) (hf : ∀ a, x = .ok a → Hold sr U X c (f a) Q) :
    Hold sr U X c (M.liftE x >>= f) Q := by
  cases x
  · exact Hold.bind_raise rfl hI
  · exact Hold.bind_ret rfl (hf _ rfl)

theorem Hold.bind_int {c : Conn} {s : String} {f : Int → M β} {Q : β → Conn → Prop}
    (hI : OutInv c) (hf : ∀ n, pyInt s = some n → Hold sr U X c (f n) Q) :
    Hold sr U X c (M.int s >>= f) Q := by
  cases h : pyInt s with
  | none => exact Hold.bind_raise (by rw [M.int_apply, h]) hI
  | some n => exact Hold.bind_ret (M.int_apply_of h c) (hf n h)

theorem Hold.bind_emit {c : Conn} {e : Effect} {f : Unit → M β} {Q : β → Conn → Prop}
    (h : e.isWrite = false) (hI : OutInv c) (hf : Hold sr U X c (f ()) Q) :
    Hold sr U X c (M.emit e >>= f) Q :=
  Hold.bind (Hold.emit (Q := fun _ c' => c' = c) h hI rfl) (fun _ _ _ e => e ▸ hf)

theorem Hold.bind_modify {c : Conn} {g : Conn → Conn} {f : Unit → M β} {Q : β → Conn → Prop}
    (hI : OutInv c) (he : OutEq c (g c)) (hst : (g c).state = c.state) (hsk : (g c).sock = c.sock)
    (hf : OutInv (g c) → Hold sr U X (g c) (f ()) Q) :
    Hold sr U X c (M.modify g >>= f) Q :=
  have hI' : OutInv (g c) := hI.of_outEq he (by rw [hst, hsk]; exact hI.sock)
  Hold.bind (Hold.modify (Q := fun _ c' => c' = g c) hI' he rfl) (fun _ _ _ e => e ▸ hf hI')

theorem Hold.swallow {c : Conn} {x : M α} {d : α} {Q : α → Conn → Prop}
    (hx : Hold sr U X c x Q) (hd : ∀ c1, OutInv c1 → Q d c1) :
    Hold sr U X c (swallow d x) Q :=
  Hold.tryCatch hx fun _ c1 hI => Hold.bind_emit rfl hI (Hold.pure hI (hd c1 hI))

/-! ### statements about every outcome, whatever is returned

From a connection satisfying the invariant the step relation is closed under sequencing, because `Good` ends in
the invariant.  A handler whose callees need nothing but the invariant, and of whose result nothing is needed, is
covered by `M.Rel (GoodFrom sr U X)`; the Hoare walks take such a callee through `Hold.of_rel`. -/

def GoodFrom (sr : Msg → Bool) (U X : Prop) (c c' : Conn) (e : List Effect) : Prop :=
  OutInv c → Good sr U X c c' e

instance : Compositional (GoodFrom sr U X) where
  refl _ := fun hI => Good.refl hI
  trans h1 h2 := fun hI => (h1 hI).trans (h2 (h1 hI).inv)

theorem Hold.of_rel {c : Conn} {x : M α} (hI : OutInv c) (h : M.Rel (GoodFrom sr U X) x) :
    Hold sr U X c x (fun _ _ => True) := ⟨h.out c hI, fun _ _ => trivial⟩

theorem GoodFrom.of_hold {x : M α} {Q : Conn → α → Conn → Prop}
    (h : ∀ c, OutInv c → Hold sr U X c x (Q c)) : M.Rel (GoodFrom sr U X) x := ⟨fun c hI => (h c hI).1⟩

/-- one structural step of the Hoare logic.  Every rule is matched syntactically (`with_reducible`: a rule
that does not apply must fail at the head symbol, not after unfolding the handler body). -/
macro "hstep" : tactic => `(tactic| with_reducible first
  | (refine Hold.bind_liftE (by assumption) ?_; intro _ _)
  | refine Hold.bind_get ?_
  | (refine Hold.ite ?_ ?_ <;> intro _ <;> try contradiction)
  | (refine Hold.bind_int (by assumption) ?_; intro _ _)
  | (refine Hold.bind_assert (by assumption) ?_; intro _)
  | refine Hold.bind_pure ?_
  | exact Hold.pure (by assumption) (by first | trivial | assumption | rfl)
  | refine Hold.bind_emit rfl (by assumption) ?_
  | exact Hold.throw (by assumption)
  | exact Hold.emit rfl (by assumption) trivial)

end AsyncFix.Session
