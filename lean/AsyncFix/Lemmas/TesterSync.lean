import AsyncFix.Lemmas.TesterLock
import AsyncFix.Lemmas.TesterOps

/-!
C20 helper lemmas: `AccEq` (tester's acceptor vs a real one: equal except for the outbound half of the
journal) and `Sync` (an established, synchronised pair), and how the closed forms preserve them.
-/
namespace AsyncFix.Tester
open AsyncFix.Session AsyncFix.Generated AsyncFix.Generated.ConnEnum

/-- equal except for `journal.out` / `journal.outSeq` -/
structure AccEq (t l : Conn) : Prop where
  state : t.state = l.state
  role : t.role = l.role
  was : t.wasActive = l.wasActive
  sess : t.sess = l.sess
  maxResend : t.maxResend = l.maxResend
  req : t.testReqId = l.testReqId
  last : t.lastTime = l.lastTime
  hb : t.hb = l.hb
  sock : t.sock = l.sock
  inb : t.journal.inb = l.journal.inb
  inSeq : t.journal.inSeq = l.journal.inSeq

theorem AccEq.frame {t l : Conn} (h : AccEq t l) (env : Env) (m : Msg) : sentFrame t env m = sentFrame l env m := by
  simp [sentFrame, h.sess]

theorem accEq_afterIn {t l : Conn} (h : AccEq t l) (env : Env) (f : Msg) : AccEq (afterIn t env f) (afterIn l env f) :=
  ⟨h.state, h.role, h.was, by rw [afterIn_sess, afterIn_sess, h.sess], h.maxResend, h.req, rfl, h.hb, h.sock,
   by rw [afterIn_journal, afterIn_journal, jIn_inb, jIn_inb, h.inb, h.sess],
   by rw [afterIn_journal, afterIn_journal, jIn_inSeq, jIn_inSeq, h.inb, h.sess, h.inSeq]⟩

theorem accEq_afterSend {t l : Conn} (h : AccEq t l) (env : Env) (m : Msg) :
    AccEq (afterSend t env m) (afterSend l env m) :=
  ⟨h.state, h.role, h.was, by rw [afterSend_sess, afterSend_sess, h.sess], h.maxResend, h.req, h.last, h.hb, h.sock,
   by rw [afterSend_journal, afterSend_journal, jOut_inb, jOut_inb, h.inb],
   by rw [afterSend_journal, afterSend_journal, jOut_inSeq, jOut_inSeq, h.inSeq]⟩

/-- what `reply` leaves behind vs what `send_msg` leaves behind -/
theorem accEq_reply {t l : Conn} (h : AccEq t l) (env : Env) (m : Msg) : AccEq (afterReply t) (afterSend l env m) :=
  ⟨h.state, h.role, h.was, by rw [afterReply_sess, afterSend_sess, h.sess], h.maxResend, h.req, h.last, h.hb, h.sock,
   by rw [afterReply_journal, afterSend_journal, jOut_inb, h.inb],
   by rw [afterReply_journal, afterSend_journal, jOut_inSeq, h.inSeq]⟩

theorem est_afterReply {c : Conn} (h : Est c) : Est (afterReply c) :=
  ⟨h.st, h.was, h.sock, h.noreq, h.posIn,
   ⟨fun p hp => by have := h.fresh.out p hp; rw [afterReply_nextOut]; omega, h.fresh.inb⟩, h.latinS, h.latinT⟩

structure Sync (ci ca : Conn) : Prop where
  i : Est ci
  a : Est ca
  peer : Peer ci ca

theorem peer_send_in {a b : Conn} (h : Peer a b) (env : Env) (m f : Msg) : Peer (afterSend a env m) (afterIn b env f) :=
  ⟨h.st, h.ts, by rw [afterIn_nextIn, afterSend_nextOut, h.oi], h.io⟩

theorem peer_in_send {a b : Conn} (h : Peer a b) (env : Env) (m f : Msg) : Peer (afterIn a env f) (afterSend b env m) :=
  (peer_send_in h.symm env m f).symm

/-- `Peer` only looks at the sessions: after a round trip (each side sent one frame and took one) the pair is
synchronised again -/
theorem peer_round {a b a' b' : Conn} (h : Peer a b)
    (ha : a'.sess = { a.sess with nextIn := a.sess.nextIn + 1, nextOut := a.sess.nextOut + 1 })
    (hb : b'.sess = { b.sess with nextIn := b.sess.nextIn + 1, nextOut := b.sess.nextOut + 1 }) : Peer a' b' := by
  constructor <;> simp [ha, hb, h.st, h.ts, h.oi, h.io]

theorem peer_in_reply {a b : Conn} (h : Peer a b) (env : Env) (f : Msg) : Peer (afterIn a env f) (afterReply b) :=
  ⟨h.st, h.ts, h.oi, by rw [afterIn_nextIn, afterReply_nextOut, h.io]⟩

end AsyncFix.Tester
