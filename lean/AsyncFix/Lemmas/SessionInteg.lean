import AsyncFix.Lemmas.SessionPlain
import AsyncFix.Lemmas.SessionData

/-!
Session family: what happens to a frame with an integrity defect (C11), evaluated.
-/
namespace AsyncFix.Session

open AsyncFix.Generated AsyncFix.Generated.ConnEnum

/-- `_process_message` on a first frame that is not a Logon (acceptor side) / not Logon or Logout
(initiator before the Logon reply), integrity good: the connection is dropped without a reply; counters
and journal are untouched. -/
theorem processMessage_first_frame_dropped (env : Env) (sr : Msg → Bool) (m : Msg) (c : Conn)
    (hs : (c.state = st_NETWORK_CONN_ESTABLISHED ∧ m.mtype ≠ mLogon) ∨
      (c.state = st_LOGON_INITIAL_SENT ∧ m.mtype ≠ mLogon ∧ m.mtype ≠ mLogout))
    (hi : integrityOf c m = .ok .good) :
    processMessage env sr m c =
      ⟨.ok (), (discTail (discReset c) st_DISCONNECTED_BROKEN_CONN).1,
        (discTail (discReset c) st_DISCONNECTED_BROKEN_CONN).2⟩ := by
  have hh : processHead env m c = ⟨.ok none, (discTail (discReset c) st_DISCONNECTED_BROKEN_CONN).1,
      (discTail (discReset c) st_DISCONNECTED_BROKEN_CONN).2⟩ := by
    rcases hs with ⟨h1, h2⟩ | ⟨h1, h2, h3⟩
    · exact processHead_conn_drop env h1 h2
    · exact processHead_sent_drop env h1 h2 h3
  exact processMessage_of_head_none sr (validateIntegrity_of hi) (by rw [swallow_apply, hh])

/-- CompIDs missing: dropped without a Logout (the counterparty is not identifiable) -/
theorem processMessage_critical (env : Env) (sr : Msg → Bool) (m : Msg) (c : Conn)
    (hc : isDisc c.state = false) (hi : integrityOf c m = .ok .critical) :
    processMessage env sr m c =
      ⟨.ok (), (discTail (discReset c) st_DISCONNECTED_BROKEN_CONN).1,
        (discTail (discReset c) st_DISCONNECTED_BROKEN_CONN).2⟩ := by
  rw [processMessage, M.bind_ok (validateIntegrity_of hi)]
  simp [disconnect_none env (isDisc_lt hc) (Nat.le_refl _)]

/-- the frame of the Logout sent by `disconnect` from connection `c` -/
def logoutFrame (env : Env) (c : Conn) (text : String) : Msg :=
  buildFrame c.sess env.stamp (logoutMsg text) c.sess.nextOut

/-- the connection after that Logout went out (before the socket is closed): what the state checks of `send_msg`
leave (`afterGate`), the number consumed, the frame journaled -/
def afterLogout (c : Conn) (j : Journal) : Conn := sent (afterGate c) j

/-- the frame depends on the session's CompIDs only -/
theorem buildFrame_nextOut (s : Session) (n : Int) (stamp : String) (m : Msg) (q : Int) :
    buildFrame { s with nextOut := n } stamp m q = buildFrame s stamp m q :=
  buildFrame_sess _ _ _ _ _ rfl rfl

theorem sendMsg_logout_eval (env : Env) (text : String) (c : Conn) (j : Journal)
    (h6 : st_NETWORK_CONN_ESTABLISHED ≤ c.state) (hsock : c.sock = true)
    (hl : frameLatin1 (logoutFrame env c text) = true)
    (hp : c.journal.persist .outbound c.sess.nextOut (logoutFrame env c text) = some j) :
    sendMsg env (logoutMsg text) c =
      ⟨.ok (), afterLogout c j,
        (if c.state = st_NETWORK_CONN_ESTABLISHED then [Effect.onState st_LOGON_INITIAL_SENT] else [])
          ++ [.write (logoutFrame env c text)]⟩ := by
  have h2 : (mLogout == mTestRequest) = false := by decide
  obtain ⟨h4, hpd⟩ := logoutMsg_plain text
  have hg : gateRefuses c (logoutMsg text) = false := by simp [gateRefuses, logoutMsg_mtype, Nat.not_lt.mpr h6]
  unfold logoutFrame at hl hp ⊢
  rw [sendMsg_eq, hg, sendCore_fresh env h4 hpd, afterGate_sess, afterGate_journal, afterGate_sock]
  simp only [logoutMsg_mtype, h2, Bool.false_and, Bool.false_eq_true, if_false, hl, Bool.not_true, hp, hsock]
  unfold gateEff
  split <;> simp_all [Out.pre, afterLogout, sent]

/-- a defect with a reason, from a state in which `send_msg` accepts a Logout, with a transport, a
single-byte frame and a free journal slot: the Logout goes out, then the connection is dropped -/
theorem processMessage_reason_eval (env : Env) (sr : Msg → Bool) (m : Msg) (c : Conn) (text : String)
    (j : Journal) (hi : integrityOf c m = .ok (.reason text))
    (h6 : st_NETWORK_CONN_ESTABLISHED ≤ c.state) (hsock : c.sock = true)
    (hl : frameLatin1 (logoutFrame env c text) = true)
    (hp : c.journal.persist .outbound c.sess.nextOut (logoutFrame env c text) = some j) :
    processMessage env sr m c =
      ⟨.ok (), (discTail (afterLogout (discReset c) j) st_DISCONNECTED_BROKEN_CONN).1,
        ((if c.state = st_NETWORK_CONN_ESTABLISHED then [Effect.onState st_LOGON_INITIAL_SENT] else [])
          ++ [.write (logoutFrame env c text)])
          ++ (discTail (afterLogout (discReset c) j) st_DISCONNECTED_BROKEN_CONN).2⟩ := by
  have h3 : st_DISCONNECTED_BROKEN_CONN < c.state := by
    simp only [st_DISCONNECTED_BROKEN_CONN, st_NETWORK_CONN_ESTABLISHED] at h6 ⊢; omega
  rw [processMessage_of_reason env sr (validateIntegrity_of hi), disconnect_logout env h3 (Nat.le_refl _)
    (sendMsg_logout_eval env text (discReset c) j h6 hsock hl hp)]
  simp only [caught, List.append_nil]
  rfl

/-- dropped without a Logout: what is left of the connection, and what the application sees -/
theorem dropped_eq (c : Conn) :
    discTail (discReset c) st_DISCONNECTED_BROKEN_CONN =
      ({ c with testReqId := none, lastTime := 0, maxResend := 0, sock := false,
                state := st_DISCONNECTED_BROKEN_CONN },
       (if c.sock then [Effect.closeSocket] else []) ++
         [.onState st_DISCONNECTED_BROKEN_CONN, .onDisconnect]) := by
  cases hk : c.sock <;> simp [discTail, discReset, hk, st_DISCONNECTED_BROKEN_CONN, st_ACTIVE]

theorem nDisc_discTail (c : Conn) (d : Nat) : nDisc (discTail c d).2 = 1 := by
  cases hs : c.sock <;> simp [discTail, hs, nDisc]

theorem not_deliver_discTail (c : Conn) (d : Nat) : ∀ e ∈ (discTail c d).2, ∀ x, e ≠ .deliver x := by
  intro e he x hx
  rcases mem_discTail he with h | h | h <;> rw [h] at hx <;> cases hx

theorem integrity_begin_string (c : Conn) (m : Msg) (bs : String) (h8 : m.get? tBeginString = some bs)
    (hne : bs ≠ Proto.beginString) :
    integrityOf c m = .ok (.reason
      ("Protocol BeginString(8) mismatch, expected " ++ Proto.beginString ++ ", got " ++ bs)) := by
  simp [integrityOf, validateIntegrity, bind, M.bind', Msg.get, h8, hne]

theorem integrity_compid_missing (c : Conn) (m : Msg) (h8 : m.get? tBeginString = some Proto.beginString)
    (h : m.has tSenderCompID = false ∨ m.has tTargetCompID = false) :
    integrityOf c m = .ok .critical := by
  rcases h with h | h <;> simp [integrityOf, validateIntegrity, bind, M.bind', Msg.get, h8, h]

theorem integrity_compid_wrong (c : Conn) (m : Msg) (s49 s56 : String)
    (h8 : m.get? tBeginString = some Proto.beginString)
    (h49 : m.get? tSenderCompID = some s49) (h56 : m.get? tTargetCompID = some s56)
    (h : ¬ (c.sess.sender = s56 ∧ c.sess.target = s49)) :
    integrityOf c m = .ok (.reason "TargetCompID / SenderCompID mismatch") := by
  have a : m.has tSenderCompID = true := by simp [Msg.has, h49]
  have b : m.has tTargetCompID = true := by simp [Msg.has, h56]
  have h' : ¬c.sess.sender = s56 ∨ ¬c.sess.target = s49 := by
    by_cases hx : c.sess.sender = s56
    · right; intro hy; exact h ⟨hx, hy⟩
    · left; exact hx
  simp [integrityOf, validateIntegrity, bind, M.bind', Msg.get, h8, h49, h56, a, b, h']

/-- header fields in order: BeginString, both CompIDs present and matching the session -/
structure HeaderOk (c : Conn) (m : Msg) : Prop where
  h8 : m.get? tBeginString = some Proto.beginString
  h49 : m.get? tSenderCompID = some c.sess.target
  h56 : m.get? tTargetCompID = some c.sess.sender

theorem integrity_seq_missing (c : Conn) (m : Msg) (hh : HeaderOk c m) (h34 : m.has tMsgSeqNum = false) :
    integrityOf c m = .ok (.reason "MsgSeqNum(34) tag is missing") := by
  have a : m.has tSenderCompID = true := by simp [Msg.has, hh.h49]
  have b : m.has tTargetCompID = true := by simp [Msg.has, hh.h56]
  simp [integrityOf, validateIntegrity, bind, M.bind', Msg.get, hh.h8, hh.h49, hh.h56, a, b, h34]

theorem integrity_seq_garbled (c : Conn) (m : Msg) (hh : HeaderOk c m) (v : String)
    (h34 : m.get? tMsgSeqNum = some v) (hv : pyInt v = none) :
    integrityOf c m = .ok (.reason "MsgSeqNum(34) is not a number") := by
  have a : m.has tSenderCompID = true := by simp [Msg.has, hh.h49]
  have b : m.has tTargetCompID = true := by simp [Msg.has, hh.h56]
  have d : m.has tMsgSeqNum = true := by simp [Msg.has, h34]
  simp [integrityOf, validateIntegrity, bind, M.bind', Msg.get, hh.h8, hh.h49, hh.h56, a, b, d, h34, hv]

/-- too low: below the expected number; tolerated only for a SequenceReset and for a PossDupFlag=Y
frame while RESENDREQ_AWAITING (the code's deliberate, documented tolerance) -/
theorem integrity_seq_too_low (c : Conn) (m : Msg) (hh : HeaderOk c m) (v : String) (n : Int)
    (h34 : m.get? tMsgSeqNum = some v) (hv : pyInt v = some n) (hlow : n < c.sess.nextIn)
    (hnr : m.mtype ≠ mSequenceReset)
    (hna : ¬ (c.state = st_RESENDREQ_AWAITING ∧ m.get? tPossDupFlag = some "Y")) :
    integrityOf c m = .ok (.reason
      ("MsgSeqNum is too low, expected " ++ pyStr c.sess.nextIn ++ ", got " ++ pyStr n)) := by
  refine congrArg Out.res (validateIntegrity_tooLow hh.h8 hh.h49 hh.h56 h34 hv hlow hnr fun ⟨h1, h2⟩ => hna ⟨h1, ?_⟩)
  cases hg : m.get? tPossDupFlag with
  | none => rw [hg] at h2; exact absurd h2 (by decide)
  | some w => rw [hg] at h2; exact congrArg some h2

end AsyncFix.Session
