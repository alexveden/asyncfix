/-
Shared statement shapes of the codec proofs (C01 / C03): what `decode` does on a structurally
valid frame, expressed through the field loop.  The framing layer (`decode_mkFrame`, proved in
Lemmas/CodecFrame.lean) and the field/group layer (Lemmas/CodecGroupsCore.lean, CodecGroups.lean) meet here.
-/
import AsyncFix.Model.Codec.Decode
import AsyncFix.Model.Codec.Frame
namespace AsyncFix.Model.Codec

/-- everything of `mkFrame bs fs` in front of the CheckSum field -/
def framePre (bs : Bytes) (fs : List Fld) : Bytes :=
  headBytes bs (bodyBytes fs).length ++ bodyBytes fs

/-- the CheckSum value of `mkFrame bs fs` -/
def frameCk (bs : Bytes) (fs : List Fld) : Nat := sum (framePre bs fs) % 256

theorem mkFrame_eq (bs : Bytes) (fs : List Fld) :
    mkFrame bs fs = framePre bs fs ++ fieldBytes [49, 48] (dec3 (frameCk bs fs)) ++ [SOH] := rfl

/-- the SOH-separated fields of `mkFrame bs fs`, as the decoder's loop sees them -/
def frameFields (bs : Bytes) (fs : List Fld) : List Bytes :=
  fieldBytes [56] bs :: fieldBytes [57] (natToDec (bodyBytes fs).length) ::
    (fs.map (fun f => fieldBytes f.tag f.val) ++ [fieldBytes [49, 48] (dec3 (frameCk bs fs))])

/-- what `decode` returns on `mkFrame bs fs` once the framing checks have passed -/
def decodeViaLoop (bs : Bytes) (tbl : Tbl) (fs : List Fld) : DecRes :=
  match fieldLoop tbl (frameCk bs fs) {} (frameFields bs fs) with
  | .error k => .raised k
  | .ok none => .none (mkFrame bs fs).length
  | .ok (some s) =>
    if s.ckPassed then .msg { mtype := s.mtype, body := s.top } (mkFrame bs fs).length (mkFrame bs fs)
    else .none (mkFrame bs fs).length

mutual
/-- wire order of one dict entry (what `_addTag` appends), as `Fld`s -/
def flatNode : Node → List Fld
  | .leaf t v => [⟨t, v⟩]
  | .err t => [⟨t, []⟩]                      -- not encodable; excluded by `wfNode`
  | .group g items => ⟨g, natToDec items.length⟩ :: flatItems items
def flatItems : List (List Node) → List Fld
  | [] => []
  | it :: rest => flatCont it ++ flatItems rest
def flatCont : List Node → List Fld
  | [] => []
  | n :: rest => flatNode n ++ flatCont rest
end

/-- the field loop on already split fields -/
def stepAll (tbl : Tbl) (ck : Nat) : DState → List Fld → Except Kind DState
  | s, [] => .ok s
  | s, f :: rest =>
    match stepField tbl ck s f.tag f.val with
    | .error k => .error k
    | .ok s' => stepAll tbl ck s' rest

/-- `fieldLoop` on structured fields: no guards left -/
def fieldLoopF (tbl : Tbl) (ck : Nat) : DState → List Fld → Except Kind (Option DState)
  | s, [] => pure (some s)
  | s, f :: rest => do
    let s' ← stepField tbl ck s f.tag f.val
    fieldLoopF tbl ck s' rest

mutual
/-- member lists of the groups a node leaves open in the decoder when its last field has been read
(outermost first): the group itself, then what the last node of its last item leaves open -/
def openMembersNode (tbl : Tbl) : Node → List (List Tag)
  | .group g items => (tbl.members? g).getD [] :: openMembersItems tbl items
  | _ => []
def openMembersItems (tbl : Tbl) : List (List Node) → List (List Tag)
  | [] => []
  | [it] => openMembersCont tbl it
  | _ :: it :: rest => openMembersItems tbl (it :: rest)
def openMembersCont (tbl : Tbl) : List Node → List (List Tag)
  | [] => []
  | [n] => openMembersNode tbl n
  | _ :: n :: rest => openMembersCont tbl (n :: rest)
end

def notOpen (t : Tag) (open_ : List (List Tag)) : Bool := open_.all fun ms => !ms.contains t

def contTags (c : List Node) : List Tag := c.map Node.tag

mutual
/-- well-formedness of one entry with respect to the group table:
a tag is a group iff it is a key of `tbl`; values are SOH-free; groups have ≥ 1 item -/
def wfNode (tbl : Tbl) : Node → Bool
  | .leaf t v => okTag t && !v.contains SOH && (tbl.members? t).isNone
  | .err _ => false
  | .group g items =>
    okTag g && (match tbl.members? g with
      | none => false
      | some ms => !items.isEmpty && wfItems tbl ms items)
/-- items of a group with member list `ms`: every item is a well-formed container over `ms`
that starts with a plain tag; the first tag of the next item occurs in the previous one (that is
how the decoder recognises an item boundary) and is not a member of a group the previous item
leaves open -/
def wfItems (tbl : Tbl) (ms : List Tag) : List (List Node) → Bool
  | [] => true
  | [it] => wfItem tbl ms it
  | it :: nxt :: rest =>
    wfItem tbl ms it &&
      (match nxt with
       | .leaf t _ :: _ => (contTags it).contains t && notOpen t (openMembersCont tbl it)
       | _ => false) &&
      wfItems tbl ms (nxt :: rest)
def wfItem (tbl : Tbl) (ms : List Tag) : List Node → Bool
  | [] => false
  | .leaf t v :: rest => wfNodes tbl (some ms) [] (.leaf t v :: rest)
  | _ => false
/-- entries of one container: each well-formed, tags pairwise distinct (`seen`), each a member of
the enclosing group (`ms? = some ms`), and the tag following a group is not a member of any
group that group leaves open -/
def wfNodes (tbl : Tbl) (ms? : Option (List Tag)) (seen : List Tag) : List Node → Bool
  | [] => true
  | [n] => wfNode tbl n && !seen.contains n.tag && (match ms? with | some ms => ms.contains n.tag | none => true)
  | n :: m :: rest =>
    wfNode tbl n && !seen.contains n.tag && (match ms? with | some ms => ms.contains n.tag | none => true) &&
      notOpen m.tag (openMembersNode tbl n) && wfNodes tbl ms? (n.tag :: seen) (m :: rest)
end

/-- well-formed top-level container: additionally CheckSum(10) closes every group left open -/
def wfTop (tbl : Tbl) (c : Cont) : Bool :=
  wfNodes tbl none [] c && notOpen tag10 (openMembersCont tbl c) && !(contTags c).contains tag10 &&
    (tbl.members? tag10).isNone

/-- the message type the decoder reports: the value of the LAST field with tag 35 it scans
(at any nesting level), `"UNKNOWN"` when there is none -/
def lastMtype (fs : List Fld) : Bytes :=
  fs.foldl (fun acc f => if f.tag == tag35 then f.val else acc) [85, 78, 75, 78, 79, 87, 78]

end AsyncFix.Model.Codec
