/-
Finite-abstraction lemma for the table interpreter: evaluating the table on
arbitrary strings equals evaluating it on the strings normalised to
`keys ∪ {fresh}` (`cellOf_norm`).  Every theorem of Props/C16 that depends on the
content of the table is reduced by it (`checkAll_spec`) to a finite check that the
kernel evaluates on the *generated* table.
-/
import AsyncFix.Model.OrderTable
namespace AsyncFix.Model.OrderTable

def norm (keys : List String) (fresh k : String) : String :=
  if k ∈ keys then k else fresh

theorem norm_of_mem {keys : List String} {fresh k : String} (h : k ∈ keys) :
    norm keys fresh k = k := by simp [norm, h]

theorem norm_range (keys : List String) (fresh k : String) : norm keys fresh k ∈ fresh :: keys := by
  unfold norm; split <;> simp [*]

theorem lookup_eq_none_iff {α : Type} {k : String} {l : List (String × α)} :
    lookup k l = none ↔ k ∉ l.map Prod.fst := by
  induction l with
  | nil => simp [lookup]
  | cons p rest ih =>
    obtain ⟨k', v⟩ := p
    by_cases hk : k = k' <;> simp [lookup, hk, ih]

theorem lookup_norm {α : Type} (keys : List String) (fresh k : String) (l : List (String × α))
    (hsub : ∀ x ∈ l.map Prod.fst, x ∈ keys) (hf : fresh ∉ keys) :
    lookup (norm keys fresh k) l = lookup k l := by
  unfold norm
  split
  · rfl
  · rename_i hk
    have h1 : k ∉ l.map Prod.fst := fun h => hk (hsub _ h)
    have h2 : fresh ∉ l.map Prod.fst := fun h => hf (hsub _ h)
    rw [lookup_eq_none_iff.mpr h1, lookup_eq_none_iff.mpr h2]

def keysIn {α : Type} (l : List (String × α)) (keys : List String) : Bool :=
  l.all fun p => keys.contains p.1

theorem keysIn_sub {α : Type} {l : List (String × α)} {keys : List String}
    (h : keysIn l keys = true) : ∀ x ∈ l.map Prod.fst, x ∈ keys := by
  intro x hx
  simp only [List.mem_map] at hx
  obtain ⟨p, hp, rfl⟩ := hx
  simp only [keysIn, List.all_eq_true] at h
  simpa using h p hp

def Row.ok (r : Row) (R : List String) : Bool := keysIn r.cells R

def RowSpec.ok (rs : RowSpec) (E R : List String) : Bool :=
  match rs with
  | .plain r => r.ok R
  | .byExec subs d => keysIn subs E && subs.all (fun p => p.2.ok R) && d.ok R

def Table.ok (t : Table) (S E R : List String) : Bool :=
  keysIn t.rows S && t.rows.all (fun p => p.2.ok E R) && t.dflt.ok E R

/-- Side condition, decided on the generated table: the key universes cover every
key that occurs, and `fresh` is none of them. -/
def Spec.ok (sp : Spec) (K S E R : List String) (fresh : String) : Bool :=
  keysIn sp K && sp.all (fun p => p.2.ok S E R) &&
  !K.contains fresh && !S.contains fresh && !E.contains fresh && !R.contains fresh

theorem lookup_mem {α : Type} {k : String} {l : List (String × α)} {v : α}
    (h : lookup k l = some v) : (k, v) ∈ l := by
  induction l with
  | nil => simp [lookup] at h
  | cons p rest ih =>
    obtain ⟨k', v'⟩ := p
    unfold lookup at h
    split at h
    · rename_i hk; cases h; subst hk; simp
    · exact List.mem_cons_of_mem _ (ih h)

theorem Row.eval_norm (r : Row) (R : List String) (f ms : String)
    (hok : r.ok R = true) (hf : f ∉ R) : r.eval (norm R f ms) = r.eval ms := by
  unfold Row.eval
  rw [lookup_norm R f ms r.cells (keysIn_sub hok) hf]

theorem RowSpec.row_norm (rs : RowSpec) (E R : List String) (f ex : String)
    (hok : rs.ok E R = true) (hf : f ∉ E) : rs.row (norm E f ex) = rs.row ex := by
  cases rs with
  | plain r => rfl
  | byExec subs d =>
    simp only [RowSpec.ok, Bool.and_eq_true] at hok
    simp only [RowSpec.row]
    rw [lookup_norm E f ex subs (keysIn_sub hok.1.1) hf]

theorem RowSpec.row_ok (rs : RowSpec) (E R : List String) (ex : String)
    (hok : rs.ok E R = true) : (rs.row ex).ok R = true := by
  cases rs with
  | plain r => simpa [RowSpec.ok, RowSpec.row] using hok
  | byExec subs d =>
    simp only [RowSpec.ok, Bool.and_eq_true, List.all_eq_true] at hok
    simp only [RowSpec.row]
    cases h : lookup ex subs with
    | none => simpa using hok.2
    | some r => simpa using hok.1.2 _ (lookup_mem h)

theorem Table.eval_norm (t : Table) (S E R : List String) (f st ex ms : String)
    (hok : t.ok S E R = true) (hS : f ∉ S) (hE : f ∉ E) (hR : f ∉ R) :
    t.eval (norm S f st) (norm E f ex) (norm R f ms) = t.eval st ex ms := by
  simp only [Table.ok, Bool.and_eq_true, List.all_eq_true] at hok
  unfold Table.eval
  rw [lookup_norm S f st t.rows (keysIn_sub hok.1.1) hS]
  have hrs : ((lookup st t.rows).getD t.dflt).ok E R = true := by
    cases h : lookup st t.rows with
    | none => simpa using hok.2
    | some rs => simpa using hok.1.2 _ (lookup_mem h)
  rw [RowSpec.row_norm _ E R f ex hrs hE]
  exact Row.eval_norm _ R f ms (RowSpec.row_ok _ E R ex hrs) hR

theorem Spec.fresh_notin {sp : Spec} {K S E R : List String} {f : String}
    (hok : sp.ok K S E R f = true) : f ∉ K ∧ f ∉ S ∧ f ∉ E ∧ f ∉ R := by
  simp only [Spec.ok, Bool.and_eq_true, Bool.not_eq_true'] at hok
  obtain ⟨⟨⟨⟨_, fK⟩, fS⟩, fE⟩, fR⟩ := hok
  exact ⟨by simpa using fK, by simpa using fS, by simpa using fE, by simpa using fR⟩

theorem cellOf_norm (sp : Spec) (K S E R : List String) (f : String)
    (hok : sp.ok K S E R f = true) (kind st ex ms : String) :
    cellOf sp kind st ex ms =
      cellOf sp (norm K f kind) (norm S f st) (norm E f ex) (norm R f ms) := by
  obtain ⟨nK, nS, nE, nR⟩ := Spec.fresh_notin hok
  simp only [Spec.ok, Bool.and_eq_true, List.all_eq_true] at hok
  unfold cellOf
  rw [lookup_norm K f kind sp (keysIn_sub hok.1.1.1.1.1) nK]
  cases h : lookup kind sp with
  | none => rfl
  | some t =>
    simp only
    rw [Table.eval_norm t S E R f st ex ms (hok.1.1.1.1.2 _ (lookup_mem h)) nS nE nR]

/-! The keys that occur in a table, per coordinate, and the four key universes of a sweep: `Props.C16.U` is built from
these, so that it follows the generated table. -/

def Row.keys (r : Row) : List String := r.cells.map (·.1)
def RowSpec.execKeys : RowSpec → List String
  | .plain _ => []
  | .byExec subs _ => subs.map (·.1)
def RowSpec.repKeys : RowSpec → List String
  | .plain r => r.keys
  | .byExec subs d => subs.flatMap (·.2.keys) ++ d.keys
def Table.statusKeys (t : Table) : List String := t.rows.map (·.1)
def Table.execKeys (t : Table) : List String := t.rows.flatMap (·.2.execKeys) ++ t.dflt.execKeys
def Table.repKeys (t : Table) : List String := t.rows.flatMap (·.2.repKeys) ++ t.dflt.repKeys

structure Universe where
  K : List String
  S : List String
  E : List String
  R : List String
  fresh : String

def checkAll (sp : Spec) (u : Universe) (P : String → String → String → String → Out → Prop)
    [∀ k s e r o, Decidable (P k s e r o)] : Bool :=
  (u.fresh :: u.K).all fun k => (u.fresh :: u.S).all fun s =>
  (u.fresh :: u.E).all fun e => (u.fresh :: u.R).all fun r => decide (P k s e r (cellOf sp k s e r))

theorem checkAll_spec {sp : Spec} {u : Universe} {P : String → String → String → String → Out → Prop}
    [∀ k s e r o, Decidable (P k s e r o)]
    (hok : sp.ok u.K u.S u.E u.R u.fresh = true) (h : checkAll sp u P = true) (k s e r : String) :
    P (norm u.K u.fresh k) (norm u.S u.fresh s) (norm u.E u.fresh e) (norm u.R u.fresh r)
      (cellOf sp k s e r) := by
  simp only [checkAll, List.all_eq_true, decide_eq_true_eq] at h
  rw [cellOf_norm sp u.K u.S u.E u.R u.fresh hok k s e r]
  exact h _ (norm_range _ _ _) _ (norm_range _ _ _) _ (norm_range _ _ _) _ (norm_range _ _ _)

theorem checkAll_mono {sp : Spec} {u : Universe} {P Q : String → String → String → String → Out → Prop}
    [∀ k s e r o, Decidable (P k s e r o)] [∀ k s e r o, Decidable (Q k s e r o)]
    (h : ∀ k s e r o, P k s e r o → Q k s e r o) (hP : checkAll sp u P = true) : checkAll sp u Q = true := by
  simp only [checkAll, List.all_eq_true, decide_eq_true_eq] at hP ⊢
  exact fun k hk s hs e he r hr => h _ _ _ _ _ (hP k hk s hs e he r hr)

theorem norm_mem_iff {U L : List String} {f : String} (hsub : ∀ x ∈ L, x ∈ U) (hf : f ∉ U)
    (x : String) : norm U f x ∈ L ↔ x ∈ L := by
  unfold norm
  split
  · rfl
  · rename_i hx
    exact ⟨fun h => absurd (hsub _ h) hf, fun h => absurd (hsub _ h) hx⟩

theorem norm_eq_iff {U : List String} {f c : String} (hc : c ∈ U) (hf : f ∉ U)
    (x : String) : norm U f x = c ↔ x = c := by
  simpa using norm_mem_iff (L := [c]) (by simpa using hc) hf x

theorem changeStatus_eq_to {sp : Spec} {status kind exec rep x : String} {raise : Bool} :
    changeStatus sp status kind exec rep raise = .to x ↔
      x = rep ∧ cellOf sp kind status exec rep = .cell .go := by
  unfold changeStatus
  cases cellOf sp kind status exec rep with
  | noTable => simp
  | cell c => cases c <;> cases raise <;> simp [eq_comm]

end AsyncFix.Model.OrderTable
