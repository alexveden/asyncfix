/-
What the inner loop of `socket_read_task` can do.  `Reads` lists the three things that happen: the decoder says "no
message"; a message is handed over and processing raises; a message is handed over and the loop goes on.  The model's
two defensive exits (`raised`, `stalled`) are not among them (`decode_ne_raised`, `decode_msg_range`).  `readLoopP` does
what `Reads` says (`readLoopP_reads`), and `readLoop` is the loop whose processing never raises (`readLoopP_false`).
-/
import AsyncFix.Lemmas.CodecDecodeOutcome
import AsyncFix.Model.Codec.ReaderProc
namespace AsyncFix.Model.Codec

inductive Reads (bs : Bytes) (tbl : Tbl) (proc : Msg → Bytes → Bool) :
    Bytes → List (Msg × Bytes) → ReadOutP → Prop
  | stop {buf acc n} : decode bs tbl buf = .none n →
      Reads bs tbl proc buf acc { buf := buf.drop n, delivered := acc }
  | procRaised {buf acc m n raw} : decode bs tbl buf = .msg m n raw → 0 < n → proc m raw = true →
      Reads bs tbl proc buf acc { buf := buf.drop n, delivered := acc ++ [(m, raw)], procRaised := true }
  | step {buf acc m n raw r} : decode bs tbl buf = .msg m n raw → 0 < n → proc m raw = false →
      Reads bs tbl proc (buf.drop n) (acc ++ [(m, raw)]) r → Reads bs tbl proc buf acc r

theorem readLoopP_reads (bs : Bytes) (tbl : Tbl) (proc : Msg → Bytes → Bool) (buf : Bytes)
    (acc : List (Msg × Bytes)) : Reads bs tbl proc buf acc (readLoopP bs tbl proc buf acc) := by
  fun_induction readLoopP bs tbl proc buf acc with
  | case1 buf acc k hd => exact absurd hd (decode_ne_raised bs tbl buf k)
  | case2 buf acc n hd => exact .stop hd
  | case3 buf acc m n raw hd hg hp => exact .procRaised hd hg.1 hp
  | case4 buf acc m n raw hd hg hp ih => exact .step hd hg.1 (by simpa using hp) ih
  | case5 buf acc m n raw hd hg => exact absurd (decode_msg_range hd) hg

theorem readLoopP_false (bs : Bytes) (tbl : Tbl) (buf : Bytes) (acc : List (Msg × Bytes)) :
    readLoopP bs tbl (fun _ _ => false) buf acc =
      { buf := (readLoop bs tbl buf acc).buf, delivered := (readLoop bs tbl buf acc).delivered,
        raised := (readLoop bs tbl buf acc).raised, stalled := (readLoop bs tbl buf acc).stalled } := by
  fun_induction readLoop bs tbl buf acc with
  | case1 buf acc k hd => rw [readLoopP]; simp [hd]
  | case2 buf acc n hd => rw [readLoopP]; simp [hd]
  | case3 buf acc m n raw hd hg ih => rw [readLoopP]; simp [hd, hg]; exact ih
  | case4 buf acc m n raw hd hg => rw [readLoopP]; simp [hd, hg]

theorem Reads.ok {bs : Bytes} {tbl : Tbl} {proc : Msg → Bytes → Bool} {buf : Bytes} {acc : List (Msg × Bytes)}
    {r : ReadOutP} (h : Reads bs tbl proc buf acc r) : r.stalled = false ∧ r.raised = none ∧ r.buf <:+ buf := by
  induction h with
  | stop _ => exact ⟨rfl, rfl, List.drop_suffix _ _⟩
  | procRaised _ _ _ => exact ⟨rfl, rfl, List.drop_suffix _ _⟩
  | step _ _ _ _ ih => exact ⟨ih.1, ih.2.1, ih.2.2.trans (List.drop_suffix _ _)⟩

theorem readLoop_ok (bs : Bytes) (tbl : Tbl) (buf : Bytes) (acc : List (Msg × Bytes)) :
    (readLoop bs tbl buf acc).stalled = false ∧ (readLoop bs tbl buf acc).raised = none ∧
      (readLoop bs tbl buf acc).buf <:+ buf := by
  have h := (readLoopP_reads bs tbl (fun _ _ => false) buf acc).ok
  rwa [readLoopP_false] at h

theorem Reads.resume {bs : Bytes} {tbl : Tbl} {proc : Msg → Bytes → Bool} {buf : Bytes}
    {acc : List (Msg × Bytes)} {r : ReadOutP} (h : Reads bs tbl proc buf acc r) :
    readLoop bs tbl r.buf r.delivered = readLoop bs tbl buf acc ∨
    (r.procRaised = false ∧ r.buf = (readLoop bs tbl buf acc).buf ∧
      r.delivered = (readLoop bs tbl buf acc).delivered) := by
  induction h with
  | stop hd => right; rw [readLoop_eq, hd]; exact ⟨rfl, rfl, rfl⟩
  | procRaised hd _ _ => left; conv => rhs; rw [readLoop_eq, hd]
  | @step buf acc _ _ _ _ hd _ _ _ ih => rw [readLoop_eq bs tbl buf acc, hd]; exact ih

end AsyncFix.Model.Codec
