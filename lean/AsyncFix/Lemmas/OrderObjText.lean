/-
ClOrdID texts `<prefix>--<counter>`: the decimal rendering `dec` is injective and made of `\d`
characters; a text has at most one split `<anything>--<digit run>` (`chain_split_unique`), which gives
both that chained ids with different counters differ and that the regex model `clordRoot` – sound by
construction – recovers exactly what stands before the last `--<digits>`.
-/
import AsyncFix.Model.OrderObj
import AsyncFix.Lemmas.Decimal
namespace AsyncFix.Model.OrderObj

theorem isNd_ascii {c : Nat} (h1 : 48 ≤ c) (h2 : c ≤ 57) : isNd c = true := by
  have hr : AsyncFix.Generated.UnicodeNd.ranges =
      (48, 57) :: AsyncFix.Generated.UnicodeNd.ranges.tail := by decide +kernel
  unfold isNd
  rw [hr, List.any_cons]
  simp [h1, h2]

theorem isNd_45 : isNd 45 = false := by decide +kernel

theorem decAux_fuel : ∀ (n f g : Nat), n < f → n < g → decAux f n = decAux g n := by
  intro n
  induction n using Nat.strongRecOn with
  | _ n ih =>
    intro f g hf hg
    cases f with
    | zero => omega
    | succ f =>
      cases g with
      | zero => omega
      | succ g =>
        simp only [decAux]
        split
        · rfl
        · rw [ih (n / 10) (by omega) f g (by omega) (by omega)]

theorem dec_eq (n : Nat) : dec n = if n < 10 then [48 + n] else dec (n / 10) ++ [48 + n % 10] := by
  have h : decAux (n + 1) n = if n < 10 then [48 + n] else decAux n (n / 10) ++ [48 + n % 10] := rfl
  show decAux (n + 1) n = if n < 10 then [48 + n] else decAux (n / 10 + 1) (n / 10) ++ [48 + n % 10]
  rw [h]
  split
  · rfl
  · rw [decAux_fuel (n / 10) n (n / 10 + 1) (by omega) (by omega)]

theorem dec_renders : Dec.Renders dec := dec_eq

theorem dec_ne_nil (n : Nat) : dec n ≠ [] := dec_renders.ne_nil n

theorem dec_isNd (n : Nat) : ∀ c ∈ dec n, isNd c = true := fun c hc =>
  isNd_ascii (dec_renders.digit n c hc).1 (dec_renders.digit n c hc).2

theorem dec_injective {j k : Nat} (h : dec j = dec k) : j = k := dec_renders.inj h

def digitsSuffix (s : Str) : Str := (s.reverse.takeWhile isNd).reverse

theorem digitsSuffix_chain (p d : Str) (hd : ∀ c ∈ d, isNd c = true) :
    digitsSuffix (p ++ [45, 45] ++ d) = d := by
  unfold digitsSuffix
  have : (p ++ [45, 45] ++ d).reverse = d.reverse ++ 45 :: (45 :: p.reverse) := by simp
  rw [this, List.takeWhile_append_of_pos (fun c hc => hd c (by simpa using hc)),
    List.takeWhile_cons_of_neg (by simp [isNd_45])]
  simp

/-- a text splits in at most one way into `<anything>--<digit run>`: the run is the maximal run of
`\d` at the end, because `-` is no digit -/
theorem chain_split_unique {x y d d' : Str} (hd : ∀ c ∈ d, isNd c = true) (hd' : ∀ c ∈ d', isNd c = true)
    (h : x ++ [45, 45] ++ d = y ++ [45, 45] ++ d') : x = y ∧ d = d' := by
  have h1 := congrArg digitsSuffix h
  rw [digitsSuffix_chain _ _ hd, digitsSuffix_chain _ _ hd'] at h1
  subst h1
  exact ⟨List.append_cancel_right (List.append_cancel_right h), rfl⟩

theorem chain_id_inj {x y : Str} {j k : Nat}
    (h : x ++ [45, 45] ++ dec j = y ++ [45, 45] ++ dec k) : j = k :=
  dec_injective (chain_split_unique (dec_isNd j) (dec_isNd k) h).2

theorem chain_id_root_inj {x y : Str} {j k : Nat}
    (h : x ++ [45, 45] ++ dec j = y ++ [45, 45] ++ dec k) : x = y :=
  (chain_split_unique (dec_isNd j) (dec_isNd k) h).1

/-- `s` has the shape `<group 1>--<digits>` with a non-empty group 1 and a non-empty digit run -/
def ChainForm (s : Str) : Prop :=
  ∃ a d : Str, a ≠ [] ∧ d ≠ [] ∧ (∀ c ∈ d, isNd c = true) ∧ s = a ++ [45, 45] ++ d

theorem tailMatches_chain (d : Str) (hd : d ≠ []) (hn : ∀ c ∈ d, isNd c = true) :
    tailMatches (45 :: 45 :: d) = true := by
  have hrun : d.takeWhile isNd = d := by simpa using List.takeWhile_append_of_pos (l₂ := []) hn
  cases d with
  | nil => exact absurd rfl hd
  | cons c cs => simp [tailMatches, hrun, digitsThenEnd, atEnd]

theorem tryDot_sound (s : Str) : ∀ n g, tryDot s n = some g →
    ∃ k, 0 < k ∧ g = s.take k ∧ tailMatches (s.drop k) = true := by
  intro n
  induction n with
  | zero => intro g h; simp [tryDot] at h
  | succ n ih =>
    intro g h
    rw [tryDot] at h
    split at h
    · rename_i ht
      cases h
      exact ⟨n + 1, by omega, rfl, ht⟩
    · exact ih g h

theorem digitsThenEnd_sound (r : Str) : ∀ n, digitsThenEnd r n = true →
    ∃ j, 0 < j ∧ j ≤ n ∧ atEnd (r.drop j) = true := by
  intro n
  induction n with
  | zero => intro h; simp [digitsThenEnd] at h
  | succ n ih =>
    intro h
    rw [digitsThenEnd, Bool.or_eq_true] at h
    rcases h with h | h
    · exact ⟨n + 1, by omega, Nat.le_refl _, h⟩
    · obtain ⟨j, h1, h2, h3⟩ := ih h
      exact ⟨j, h1, by omega, h3⟩

theorem take_of_le_takeWhile {p : Nat → Bool} (l : Str) (j : Nat) (h : j ≤ (l.takeWhile p).length) :
    ∀ c ∈ l.take j, p c = true := by
  obtain ⟨t, ht⟩ := List.takeWhile_prefix p (l := l)
  intro c hc
  rw [← ht, List.take_append_of_le_length h] at hc
  exact List.all_eq_true.mp List.all_takeWhile c (List.mem_of_mem_take hc)

theorem tailMatches_sound : ∀ {t : Str}, tailMatches t = true →
    ∃ d, d ≠ [] ∧ (∀ c ∈ d, isNd c = true) ∧ t = 45 :: 45 :: d
  | [], h => by simp [tailMatches] at h
  | [_], h => by simp [tailMatches] at h
  | x :: y :: r, h => by
    simp only [tailMatches, Bool.and_eq_true, beq_iff_eq] at h
    obtain ⟨⟨rfl, rfl⟩, hde⟩ := h
    obtain ⟨j, hj, hjle, heol⟩ := digitsThenEnd_sound r _ hde
    have hdrop : r.drop j = [] := by
      match hrd : r.drop j, heol with
      | [], _ => rfl
    have hrt : r.take j = r := by simpa [hdrop] using List.take_append_drop j r
    refine ⟨r, ?_, ?_, rfl⟩
    · intro hnil; subst hnil; simp at hjle; omega
    · rw [← hrt]; exact take_of_le_takeWhile r j hjle

theorem reMatchRoot_chainForm (s g : Str) (h : reMatchRoot s = some g) :
    ∃ d, d ≠ [] ∧ (∀ c ∈ d, isNd c = true) ∧ g ≠ [] ∧ s = g ++ [45, 45] ++ d := by
  obtain ⟨k, hk, rfl, ht⟩ := tryDot_sound s _ g h
  obtain ⟨d, hd, hn, hdk⟩ := tailMatches_sound ht
  have hsplit := List.take_append_drop k s
  rw [hdk] at hsplit
  refine ⟨d, hd, hn, fun hnil => ?_, by simpa using hsplit.symm⟩
  rcases List.take_eq_nil_iff.mp hnil with h0 | h0
  · omega
  · rw [h0] at hdk; simp at hdk

theorem tryDot_isSome (s : Str) {k : Nat} (hk : 0 < k) (ht : tailMatches (s.drop k) = true) :
    ∀ n, k ≤ n → (tryDot s n).isSome = true := by
  intro n
  induction n with
  | zero => intro h; omega
  | succ n ih =>
    intro hkn
    rw [tryDot]
    by_cases hm : tailMatches (s.drop (n + 1)) = true
    · rw [if_pos hm]; rfl
    · rw [if_neg hm]
      rcases Nat.lt_or_eq_of_le hkn with h | h
      · exact ih (by omega)
      · rw [h] at ht; exact absurd ht hm

/-- Holds also when `a` itself ends in a chaining suffix (the greedy `.+` takes the last one) or
contains line breaks.  The tail matches right after `a`, so there is a match; a match is a chain
split; the split is unique. -/
theorem clordRoot_chain (a d : Str) (ha : a ≠ []) (hd : d ≠ [])
    (hn : ∀ c ∈ d, isNd c = true) : clordRoot (a ++ [45, 45] ++ d) = a := by
  have ht : tailMatches ((a ++ [45, 45] ++ d).drop a.length) = true := by
    rw [List.append_assoc, List.drop_left]; exact tailMatches_chain d hd hn
  have hsome := tryDot_isSome _ (List.length_pos_iff.mpr ha) ht (a ++ [45, 45] ++ d).length (by simp)
  unfold clordRoot
  cases hg : reMatchRoot (a ++ [45, 45] ++ d) with
  | none => rw [reMatchRoot] at hg; rw [hg] at hsome; cases hsome
  | some g =>
    obtain ⟨d', _, hn', _, hsplit⟩ := reMatchRoot_chainForm _ g hg
    exact (chain_split_unique hn hn' hsplit).1.symm

theorem clordRoot_chain_dec (root : Str) (k : Nat) (h0 : root ≠ []) :
    clordRoot (root ++ [45, 45] ++ dec k) = root :=
  clordRoot_chain root (dec k) h0 (dec_ne_nil k) (dec_isNd k)

theorem clordRoot_bare (s : Str) (hc : ¬ ChainForm s) : clordRoot s = s := by
  unfold clordRoot
  cases h : reMatchRoot s with
  | none => rfl
  | some g =>
    exfalso; apply hc
    obtain ⟨d, h1, h2, h3, h4⟩ := reMatchRoot_chainForm s g h
    exact ⟨g, d, h3, h1, h2, h4⟩

/-- with `clordRoot_bare`: `clordRoot s = s` exactly when `s` does not have the chain form -/
theorem clordRoot_cut (s : Str) (hc : ChainForm s) : clordRoot s ≠ s := by
  obtain ⟨a, d, ha, hd, hn, rfl⟩ := hc
  rw [clordRoot_chain a d ha hd hn]
  intro h
  have := congrArg List.length h
  simp at this

end AsyncFix.Model.OrderObj
