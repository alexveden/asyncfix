import AsyncFix.Lemmas.SessionData

/-!
The messages the session layer composes itself, and the one question `Codec.encode` asks of a message: does it take the
next outbound number (`Plain`, as a Bool `isNew`) or does it carry its own (SequenceReset, PossDupFlag=Y).
Each own message is `Msg.mk' type tags` with a literal tag list, so what a family needs of it – its type, that it is
`Plain`, a tag it does not carry – is `rfl` or an instance of `plain_mk'`; the families' own names for these messages
(`Watchdog.testReqMsg`, `Tester.testReqOut`, `rrMsg`, `Watchdog.resendReqMsg`, `Watchdog.echoMsg`) unfold to them.
-/
namespace AsyncFix.Session

open AsyncFix.Generated

/-- a message that `Codec.encode` numbers with the next outbound number: the two hypotheses of `encodeSeq_fresh` -/
def Plain (m : Msg) : Prop :=
  m.mtype ≠ mSequenceReset ∧ (m.get? tPossDupFlag).getD "N" ≠ "Y"

/-- a NEW message: not a SequenceReset and no PossDupFlag(43)=Y – exactly the messages for which
`Codec.encode` calls `allocate_next_num_out()` (`encodeSeq`). -/
def isNew (f : Msg) : Bool :=
  !(f.mtype == mSequenceReset) && !((f.get? tPossDupFlag).getD "N" == "Y")

theorem isNew_iff (m : Msg) : isNew m = true ↔ Plain m := by
  simp [isNew, Plain]

theorem Plain.isNew {m : Msg} (h : Plain m) : isNew m = true := (isNew_iff m).2 h

theorem buildFrame_isNew (s : Session) (stamp : String) (m : Msg) (seq : Int) :
    isNew (buildFrame s stamp m seq) = isNew m := by
  simp [isNew, buildFrame_get_possdup, buildFrame_mtype]

theorem mtype_mk' (ty : String) (tags : List (Nat × String)) : (Msg.mk' ty tags).mtype = ty := rfl

theorem plain_mk' {ty : String} {tags : List (Nat × String)} (h1 : (ty == mSequenceReset) = false)
    (h2 : Msg.lookup tPossDupFlag tags = none) : Plain (Msg.mk' ty tags) :=
  ⟨fun h => by rw [mtype_mk'] at h; simp [h] at h1,
    by simp [Msg.mk', Msg.get?, h2]⟩

/-- `send_test_req`: TestRequest with the clock's seconds as id -/
abbrev testRequestMsg (env : Env) : Msg := Msg.mk' mTestRequest [(tTestReqID, pyStr env.secs)]

/-- `_check_seqnum_gaps`: ResendRequest from `b` on -/
abbrev resendRequestMsg (b : Int) : Msg := Msg.mk' mResendRequest [(tBeginSeqNo, pyStr b), (tEndSeqNo, "0")]

/-- `_process_testrequest`: Heartbeat echoing the id -/
abbrev heartbeatMsg (id : String) : Msg := Msg.mk' mHeartbeat [(tTestReqID, id)]

/-- `_process_logon`: the acceptor's Logon, copying EncryptMethod and HeartBtInt -/
abbrev logonReplyMsg (e h : String) : Msg := Msg.mk' mLogon [(tEncryptMethod, e), (tHeartBtInt, h)]

theorem testRequestMsg_plain (env : Env) : Plain (testRequestMsg env) := plain_mk' (by decide) rfl
theorem resendRequestMsg_plain (b : Int) : Plain (resendRequestMsg b) := plain_mk' (by decide) rfl
theorem heartbeatMsg_plain (id : String) : Plain (heartbeatMsg id) := plain_mk' (by decide) rfl
theorem logonReplyMsg_plain (e h : String) : Plain (logonReplyMsg e h) := plain_mk' (by decide) rfl

theorem logoutMsg_mtype (text : String) : (logoutMsg text).mtype = mLogout := rfl

theorem logoutMsg_get43 (text : String) : (logoutMsg text).get? tPossDupFlag = none := by
  unfold logoutMsg
  split <;> rfl

theorem logoutMsg_plain (text : String) : Plain (logoutMsg text) :=
  ⟨by show mLogout ≠ mSequenceReset; decide, by rw [logoutMsg_get43]; decide⟩

end AsyncFix.Session
