import AsyncFix.Lemmas.SessionEstablished
import AsyncFix.Lemmas.SessionData

/-!
C12, base: what `send_msg`, `disconnect(DISCONNECTED_BROKEN_CONN)`, `send_test_req` and ONE iteration of the
watchdog (`tick`) do on a logged-on connection with a transport, as equations about the model's own
functions.

Time is in milliseconds (`Env.now`), the heartbeat interval `hb` and the TestReqID in seconds, as in
the model: `TestReqID = now / 1000` (`int(time.time())`).
-/
namespace AsyncFix.Session.Watchdog

open AsyncFix.Generated AsyncFix.Generated.ConnEnum

/-- the two effects of a transport teardown -/
def isDisc : Effect → Bool
  | .closeSocket => true
  | .onDisconnect => true
  | _ => false

def writes : List Effect → List Msg
  | [] => []
  | .write f :: r => f :: writes r
  | _ :: r => writes r

theorem writes_append (a b : List Effect) : writes (a ++ b) = writes a ++ writes b := by
  induction a with
  | nil => rfl
  | cons e r ih => cases e <;> simp [writes, ih]

def NoDisc (es : List Effect) : Prop := ∀ e ∈ es, isDisc e = false

theorem NoDisc.nil : NoDisc [] := by intro e he; cases he

/-- a literal list: `NoDisc.cons rfl (… NoDisc.nil)`, the kind of each effect read off by `rfl` -/
theorem NoDisc.cons {e : Effect} {es : List Effect} (he : isDisc e = false) (h : NoDisc es) : NoDisc (e :: es) := by
  intro x hx
  rcases List.mem_cons.mp hx with rfl | hx
  · exact he
  · exact h x hx

theorem NoDisc.append {a b : List Effect} (ha : NoDisc a) (hb : NoDisc b) : NoDisc (a ++ b) := by
  intro e he
  rcases List.mem_append.mp he with h | h
  · exact ha e h
  · exact hb e h

def Writes (P : Msg → Prop) (es : List Effect) : Prop := ∀ f ∈ writes es, P f

theorem Writes.of_nil {P : Msg → Prop} {es : List Effect} (h : writes es = []) : Writes P es := by
  intro f hf; rw [h] at hf; cases hf

theorem Writes.nil {P : Msg → Prop} : Writes P [] := Writes.of_nil rfl

theorem Writes.one {P : Msg → Prop} {f : Msg} (h : P f) : Writes P [.write f] := by
  intro g hg; cases List.mem_singleton.mp hg; exact h

theorem Writes.append {P : Msg → Prop} {a b : List Effect} (ha : Writes P a) (hb : Writes P b) :
    Writes P (a ++ b) := by
  intro f hf
  rw [writes_append] at hf
  rcases List.mem_append.mp hf with h | h
  · exact ha f h
  · exact hb f h

theorem Writes.mono {P Q : Msg → Prop} {es : List Effect} (h : ∀ f, P f → Q f) (hp : Writes P es) :
    Writes Q es := fun f hf => h f (hp f hf)

theorem throw_bind {α β : Type} (ex : Exc) (f : α → M β) (c : Conn) :
    ((M.throw ex : M α) >>= f) c = ⟨.error ex, c, []⟩ :=
  M.bind_err (x := (M.throw ex : M α)) rfl

theorem pure_run {α : Type} (a : α) (c : Conn) : (pure a : M α) c = ⟨.ok a, c, []⟩ := rfl
theorem throw_run {α : Type} (ex : Exc) (c : Conn) : (M.throw ex : M α) c = ⟨.error ex, c, []⟩ := rfl
theorem modify_run (g : Conn → Conn) (c : Conn) : M.modify g c = ⟨.ok (), g c, []⟩ := rfl
theorem emit_run (e : Effect) (c : Conn) : M.emit e c = ⟨.ok (), c, [e]⟩ := rfl
theorem get_run (c : Conn) : M.get c = ⟨.ok c, c, []⟩ := rfl
theorem liftE_run {α : Type} (x : Except Exc α) (c : Conn) : M.liftE x c = ⟨x, c, []⟩ := rfl

theorem assert_true : M.assert true = pure () := rfl

theorem caught_noDisc {α : Type} : (r : Except Exc α) → NoDisc (caught r)
  | .ok _ => NoDisc.nil
  | .error _ => NoDisc.cons rfl NoDisc.nil

theorem caught_writes {α : Type} (r : Except Exc α) : writes (caught r) = [] := by
  cases r <;> rfl

/-- the frame `send_msg` writes for a message that takes the next outbound number -/
def frameOf (env : Env) (c : Conn) (m : Msg) : Msg := buildFrame c.sess env.stamp m c.sess.nextOut

theorem active_ge8 {c : Conn} (ha : c.state = st_ACTIVE) : 8 ≤ c.state := by rw [ha]; decide

theorem sendGate_active (m : Msg) (c : Conn) (ha : c.state = st_ACTIVE) :
    sendGate m c = ⟨.ok (), c, []⟩ := sendGate_pass (gate_on m (active_ge8 ha)).1 (gate_on m (active_ge8 ha)).2

/-- `Session.sendMsg_on` with the frame under the name the statements of this family use -/
theorem sendMsg_on_frame (env : Env) (c : Conn) (m : Msg) (h8 : 8 ≤ c.state) (hs : c.sock = true)
    (hp : Plain m) (ht : (m.mtype == mTestRequest && c.testReqId.isNone) = false) :
    sendMsg env m c =
      if frameLatin1 (frameOf env c m) = false then ⟨.error .encoding, c, []⟩
      else match c.journal.persist .outbound c.sess.nextOut (frameOf env c m) with
        | none => ⟨.error .duplicateSeqNo, bump c, []⟩
        | some j => ⟨.ok (), sent c j, [.write (frameOf env c m)]⟩ :=
  Session.sendMsg_on env c m h8 hs hp ht

theorem sendMsg_on_quiet (env : Env) (c : Conn) (m : Msg) (h8 : 8 ≤ c.state) (hs : c.sock = true)
    (hp : Plain m) (ht : (m.mtype == mTestRequest && c.testReqId.isNone) = false) :
    OutboundOnly c (sendMsg env m c).conn ∧ NoDisc (sendMsg env m c).eff ∧
    Writes (· = frameOf env c m) (sendMsg env m c).eff := by
  obtain ⟨k, e | e⟩ := Session.sendMsg_on_only env c m h8 hs hp ht <;> rw [e]
  · exact ⟨k, NoDisc.nil, Writes.nil⟩
  · exact ⟨k, NoDisc.cons rfl NoDisc.nil, Writes.one rfl⟩

theorem frameOf_mtype (env : Env) (c : Conn) (m : Msg) : (frameOf env c m).mtype = m.mtype := rfl

/-- the encoder copies every field it does not write itself: the two the watchdog path reads back, TestReqID(112)
and Text(58), are found in the frame as in the message -/
theorem frameOf_testReqId (env : Env) (c : Conn) (mt v : String) :
    (frameOf env c (Msg.mk' mt [(tTestReqID, v)])).get? tTestReqID = some v :=
  buildFrame_get?_other c.sess env.stamp _ c.sess.nextOut (by decide)

theorem frameOf_text (env : Env) (c : Conn) (mt v : String) :
    (frameOf env c (Msg.mk' mt [(tText, v)])).get? tText = some v :=
  buildFrame_get?_other c.sess env.stamp _ c.sess.nextOut (by decide)

/-- connection after `disconnect(DISCONNECTED_BROKEN_CONN)` from a connected state -/
def dropped (c : Conn) : Conn :=
  { c with testReqId := none, lastTime := 0, maxResend := 0, sock := false,
           state := st_DISCONNECTED_BROKEN_CONN }

/-- its effects: socket closed, `on_state_change`, `on_disconnect` -/
def dropEff : List Effect := [.closeSocket, .onState st_DISCONNECTED_BROKEN_CONN, .onDisconnect]

/-- the TestRequest `send_test_req` builds at time `env` -/
def testReqMsg (env : Env) : Msg := Msg.mk' mTestRequest [(tTestReqID, pyStr env.secs)]

def armed (env : Env) (c : Conn) : Conn := { c with testReqId := some env.secs }

theorem sendTestReq_none (env : Env) (c : Conn) (hn : c.testReqId = none) :
    sendTestReq env c = sendMsg env (testReqMsg env) (armed env c) := by
  rw [sendTestReq_apply, hn]; rfl

theorem tick_nosock (env : Env) (c : Conn) (hs : c.sock = false) : tick env c = (c, []) := by
  simp [tick, M.run, tickBody_eq, hs, M.get_bind_apply]

/-- `do`-notation copies the rest of a body into every branch of a nested `if`; when one of the conditions
fails what remains is the rest -/
theorem ite3_skip {α : Type} {p q r : Prop} [Decidable p] [Decidable q] [Decidable r] (h : ¬ p ∨ ¬ q ∨ ¬ r)
    (x y : α) : (if p then if q then if r then x else y else y else y) = y := by
  rcases h with h | h | h <;> simp [h]

/-- The iteration whenever the probe branch is not taken – the connection is not ACTIVE (RESENDREQ_AWAITING,
RESENDREQ_HANDLING, RECV_SEQNUM_TOO_HIGH, …), or the last frame is recent, or a (truthy) TestReqID is
outstanding (after fix e3d9663): it writes nothing; it disconnects iff `now − lastTime > 2·hb·1000` and
(`lastTime ≠ 0`, the "message last time" test, or the id is older than `2·hb·1000` too, the TestRequest test);
otherwise nothing at all happens. -/
theorem tick_no_probe (env : Env) (c : Conn) (hs : c.sock = true) (h3 : c.state > st_DISCONNECTED_BROKEN_CONN)
    (hq : c.state ≠ st_ACTIVE ∨ ¬ (c.hb - 1) * 1000 < env.now - c.lastTime ∨ c.testReqId.getD 0 ≠ 0) :
    tick env c =
      if c.hb * 2 * 1000 < env.now - c.lastTime ∧
          (c.lastTime ≠ 0 ∨ (c.testReqId.getD 0 ≠ 0 ∧ c.hb * 2 * 1000 < env.now - c.testReqId.getD 0 * 1000)) then
        (dropped c, dropEff)
      else (c, []) := by
  have hd : disconnect env st_DISCONNECTED_BROKEN_CONN none c = ⟨.ok (), dropped c, dropEff⟩ := by
    rw [disconnect_none env h3 (Nat.le_refl _)]
    simp [discTail, discReset, hs, dropped, dropEff, st_DISCONNECTED_BROKEN_CONN, st_ACTIVE]
  have hq' : ¬ (c.state == st_ACTIVE) = true ∨ ¬ env.now - c.lastTime > (c.hb - 1) * 1000 ∨
      ¬ (c.testReqId.getD 0 == 0) = true := by simpa using hq
  unfold tick
  rw [tickBody_eq]
  simp only [M.run, M.get_bind_apply, hs, Bool.not_true, Bool.false_eq_true, if_false]
  rw [ite3_skip hq']
  unfold tickLate tickLate2
  simp only [M.get_bind_apply]
  -- what is left are the two timeout tests
  by_cases hA : c.hb * 2 * 1000 < env.now - c.lastTime
  · by_cases hL : c.lastTime = 0
    · by_cases hX : c.testReqId.getD 0 ≠ 0 ∧ c.hb * 2 * 1000 < env.now - c.testReqId.getD 0 * 1000
      · have hA0 : c.hb * 2 * 1000 < env.now := by omega
        simp [hL, hX.1, hX.2, hA0, M.get_bind_apply]
        rw [hd]
      · have hX' : ¬ (¬ c.testReqId.getD 0 = 0 ∧ c.hb * 2 * 1000 < env.now - c.testReqId.getD 0 * 1000) := hX
        simp [hL, hX', M.get_bind_apply]
    · simp [hA, hL]
      rw [M.bind_pre hd]
      simp [dropped, M.get_bind_apply]
  · simp [hA, M.get_bind_apply]

theorem tick_quiet (env : Env) (c : Conn) (hs : c.sock = true) (ha : c.state = st_ACTIVE) (hh : 1 ≤ c.hb) (h1 : env.now - c.lastTime ≤ (c.hb - 1) * 1000) :
    tick env c = (c, []) := by
  rw [tick_no_probe env c hs (by rw [ha]; decide) (Or.inr (Or.inl (by omega))),
    if_neg (fun hc => by have := hc.1; omega)]

theorem tick_outstanding (env : Env) (c : Conn) (id : Int) (hs : c.sock = true) (ha : c.state = st_ACTIVE)
    (hid : c.testReqId = some id) (h0 : id ≠ 0) :
    tick env c =
      if c.hb * 2 * 1000 < env.now - c.lastTime ∧ (c.lastTime ≠ 0 ∨ c.hb * 2 * 1000 < env.now - id * 1000) then
        (dropped c, dropEff)
      else (c, []) := by
  have hg : c.testReqId.getD 0 = id := by rw [hid]; rfl
  rw [tick_no_probe env c hs (by rw [ha]; decide) (Or.inr (Or.inr (by rw [hg]; exact h0))), hg]
  simp only [ne_eq, h0, not_false_eq_true, true_and]

/-- the TestRequest frame a tick at `env` writes -/
def testReqFrame (env : Env) (c : Conn) : Msg := frameOf env (armed env c) (testReqMsg env)

/-- ACTIVE, nothing outstanding, idle threshold exceeded: `send_test_req()`, and `lastTime := now` when it
returns; when the send raises (frame not latin-1 / journal row exists) the iteration is aborted before
`lastTime` is refreshed.  The id `now / 1000` is recorded in every case.  No outcome disconnects (the fresh
id is less than a second old). -/
theorem tick_probe (env : Env) (c : Conn) (hs : c.sock = true) (ha : c.state = st_ACTIVE)
    (hn : c.testReqId = none) (hh : 1 ≤ c.hb) (h1 : (c.hb - 1) * 1000 < env.now - c.lastTime) :
    tick env c =
      match (sendMsg env (testReqMsg env) (armed env c)).res with
      | .error ex => ((sendMsg env (testReqMsg env) (armed env c)).conn,
          (sendMsg env (testReqMsg env) (armed env c)).eff ++ [.raised ex])
      | .ok _ => ({ (sendMsg env (testReqMsg env) (armed env c)).conn with lastTime := env.now },
          (sendMsg env (testReqMsg env) (armed env c)).eff) := by
  obtain ⟨k, _, _⟩ := sendMsg_on_quiet env (armed env c) (testReqMsg env) (active_ge8 ha) hs
    (testRequestMsg_plain env) (by simp [armed])
  have hz : ¬ (c.hb * 2 * 1000 < 0) := by omega
  have hfresh : ¬ (c.hb * 2 * 1000 < env.now - env.now / 1000 * 1000) := by omega
  simp only [tick, M.run, tickBody_eq, tickLate, tickLate2, M.get_bind_apply, hs, ha, hn, h1, Bool.not_true, Bool.false_eq_true, if_false,
    beq_self_eq_true, if_true, Option.getD_none]
  rcases hx : sendMsg env (testReqMsg env) (armed env c) with ⟨ex | _, c1, e1⟩
  · rw [M.bind_err ((sendTestReq_none env c hn).trans hx)]
  · rw [hx] at k
    have e1' := k.hb; have e2' := k.testReqId
    simp only [] at e1' e2'
    rw [M.bind_pre ((sendTestReq_none env c hn).trans hx)]
    simp [e1', e2', armed, Env.secs, hz, hfresh, M.get_bind_apply, M.modify_bind_apply]

/-- … written out: when the send raises nothing is written; otherwise exactly the TestRequest is written -/
theorem tick_none_idle (env : Env) (c : Conn) (hs : c.sock = true) (ha : c.state = st_ACTIVE)
    (hn : c.testReqId = none) (hh : 1 ≤ c.hb) (h1 : (c.hb - 1) * 1000 < env.now - c.lastTime) :
    tick env c =
      if frameLatin1 (testReqFrame env c) = false then (armed env c, [.raised .encoding])
      else match c.journal.persist .outbound c.sess.nextOut (testReqFrame env c) with
        | none => (bump (armed env c), [.raised .duplicateSeqNo])
        | some j => ({ sent (armed env c) j with lastTime := env.now }, [.write (testReqFrame env c)]) := by
  rw [tick_probe env c hs ha hn hh h1,
    sendMsg_on_frame env (armed env c) (testReqMsg env) (active_ge8 ha) hs (testRequestMsg_plain env) (by simp [armed])]
  have e1 : (armed env c).journal = c.journal := rfl
  have e2 : (armed env c).sess = c.sess := rfl
  rw [e1, e2]
  unfold testReqFrame
  cases frameLatin1 (frameOf env (armed env c) (testReqMsg env))
  · rfl
  · cases c.journal.persist Dir.outbound c.sess.nextOut (frameOf env (armed env c) (testReqMsg env)) <;> rfl

end AsyncFix.Session.Watchdog
