import AsyncFix.Lemmas.RestartRel
import AsyncFix.Lemmas.SessionFoot

/-!
The stored-equals-live invariant (`Quiet`: `OutOk`, and `InExact` up to the SequenceReset lag `lagBy` of D13), the step
relation `Good om` that every handler keeps on runs without exceptions, and the relations that hold of all outcomes
(`Quietly ⊂ Frame ⊂ RResend ⊂ InSameR ⊂ JIR`).
-/
namespace AsyncFix.Restart

open AsyncFix.Session AsyncFix.Generated AsyncFix.Generated.ConnEnum

/-- `int(msg[34])` as the journal reads it (`find_seq_no`) -/
def seqOf (m : Msg) : Option Int := (m.get? tMsgSeqNum).bind pyInt
/-- `int(msg[36])` -/
def newSeqOf (m : Msg) : Option Int := (m.get? tNewSeqNo).bind pyInt

def OutOk (c : Conn) : Prop := c.journal.outSeq + 1 = c.sess.nextOut
def InExact (c : Conn) : Prop := c.journal.inSeq + 1 = c.sess.nextIn

instance (c : Conn) : Decidable (OutOk c) := by unfold OutOk; infer_instance
instance (c : Conn) : Decidable (InExact c) := by unfold InExact; infer_instance

/-- the stored inbound counter is the MsgSeqNum of the journaled SequenceReset `m`, the live counter its
NewSeqNo -/
def lagBy (m : Msg) (c : Conn) : Bool :=
  m.mtype == mSequenceReset && c.journal.inb.find c.journal.inSeq == some m
    && seqOf m == some c.journal.inSeq && newSeqOf m == some c.sess.nextIn

def inLag (c : Conn) : Bool :=
  match c.journal.inb.find c.journal.inSeq with
  | some m => lagBy m c
  | none => false

/-- stored = live, up to the SequenceReset lag (D13); the inbound counter is positive -/
def Quiet (c : Conn) : Prop := OutOk c ∧ 0 < c.sess.nextIn ∧ (InExact c ∨ inLag c = true)

theorem Quiet.out {c : Conn} (h : Quiet c) : OutOk c := h.1
theorem Quiet.pos {c : Conn} (h : Quiet c) : 0 < c.sess.nextIn := h.2.1
theorem Quiet.inb {c : Conn} (h : Quiet c) : InExact c ∨ inLag c = true := h.2.2

def StoredEqLive (c : Conn) : Prop := OutOk c ∧ InExact c

instance (c : Conn) : Decidable (Quiet c) := by unfold Quiet; infer_instance
instance (c : Conn) : Decidable (StoredEqLive c) := by unfold StoredEqLive; infer_instance

/-- the inbound side (live counter, stored counter, rows) is untouched -/
def InSame (c c' : Conn) : Prop :=
  c'.sess.nextIn = c.sess.nextIn ∧ c'.journal.inSeq = c.journal.inSeq ∧ c'.journal.inb = c.journal.inb

theorem InSame.refl (c : Conn) : InSame c c := ⟨rfl, rfl, rfl⟩
theorem InSame.trans {a b c : Conn} (h1 : InSame a b) (h2 : InSame b c) : InSame a c :=
  ⟨h2.1.trans h1.1, h2.2.1.trans h1.2.1, h2.2.2.trans h1.2.2⟩

theorem InExact.of_same {c c' : Conn} (h : InSame c c') (hc : InExact c) : InExact c' := by
  unfold InExact at *; rw [h.1, h.2.1]; exact hc

theorem lagBy_of_same {c c' : Conn} (m : Msg) (h : InSame c c') : lagBy m c' = lagBy m c := by
  unfold lagBy; rw [h.1, h.2.1, h.2.2]

theorem inLag_of_same {c c' : Conn} (h : InSame c c') : inLag c' = inLag c := by
  unfold inLag; rw [h.2.1, h.2.2]
  split <;> simp [lagBy_of_same _ h]

/-- the lag, spelled out: the inbound row stored under the stored counter is a SequenceReset whose own number is
the stored counter and whose NewSeqNo is the live one -/
theorem inLag_iff {c : Conn} : inLag c = true ↔
    ∃ m, c.journal.inb.find c.journal.inSeq = some m ∧ m.mtype = mSequenceReset ∧
      seqOf m = some c.journal.inSeq ∧ newSeqOf m = some c.sess.nextIn := by
  unfold inLag
  cases hm : c.journal.inb.find c.journal.inSeq with
  | none => simp
  | some m =>
    simp only [lagBy, hm, Bool.and_eq_true, beq_iff_eq, Option.some.injEq, exists_eq_left', and_true]
    exact ⟨fun ⟨⟨h1, h2⟩, h3⟩ => ⟨h1, h2, h3⟩, fun ⟨h1, h2, h3⟩ => ⟨⟨h1, h2⟩, h3⟩⟩

theorem inLag_of_lagBy {m : Msg} {c : Conn} (h : lagBy m c = true) : inLag c = true := by
  simp only [lagBy, Bool.and_eq_true, beq_iff_eq] at h
  exact inLag_iff.2 ⟨m, h.1.1.2, h.1.1.1, h.1.2, h.2⟩

/-- a frame that takes a NEW number in `Codec.encode` (not a SequenceReset, not PossDupFlag=Y) -/
def isNewFrame (f : Msg) : Bool :=
  !(f.mtype == mSequenceReset) && !((f.get? tPossDupFlag).getD "N" == "Y")

/-- the encoder's own test: does the message carry its own MsgSeqNum -/
def ownSeq (m : Msg) : Bool := m.mtype == mSequenceReset || (m.get? tPossDupFlag).getD "N" == "Y"

theorem isNewFrame_eq (f : Msg) : isNewFrame f = Session.isNew f := rfl

theorem ownSeq_eq (m : Msg) : ownSeq m = !Session.isNew m := by
  simp [ownSeq, Session.isNew]

/-- every new frame written in `e` carries a number below `b` -/
def NewWritesBelow (e : List Effect) (b : Int) : Prop :=
  ∀ f n, Effect.write f ∈ e → isNewFrame f = true → f.get? tMsgSeqNum = some (pyStr n) → n < b

theorem NewWritesBelow.nil (b : Int) : NewWritesBelow [] b := fun _ _ h => by cases h
theorem NewWritesBelow.mono {e : List Effect} {b b' : Int} (h : NewWritesBelow e b) (hb : b ≤ b') :
    NewWritesBelow e b' := fun f n hf hn hs => Int.lt_of_lt_of_le (h f n hf hn hs) hb
theorem NewWritesBelow.append {e1 e2 : List Effect} {b : Int} (h1 : NewWritesBelow e1 b)
    (h2 : NewWritesBelow e2 b) : NewWritesBelow (e1 ++ e2) b := fun f n hf hn hs => by
  rcases List.mem_append.mp hf with h | h
  · exact h1 f n h hn hs
  · exact h2 f n h hn hs

def NoNewWrites (e : List Effect) : Prop := ∀ f, Effect.write f ∈ e → isNewFrame f = false

theorem NoNewWrites.below {e : List Effect} (h : NoNewWrites e) (b : Int) : NewWritesBelow e b :=
  fun f _ hf hn _ => by rw [h f hf] at hn; cases hn

theorem NoNewWrites.nil : NoNewWrites [] := fun _ h => by cases h

theorem NoNewWrites.single {e : Effect} (h : ∀ f, e ≠ .write f) : NoNewWrites [e] := by
  intro f hf
  simp only [List.mem_singleton] at hf
  exact absurd hf.symm (h f)

theorem NoNewWrites.append {a b : List Effect} (ha : NoNewWrites a) (hb : NoNewWrites b) :
    NoNewWrites (a ++ b) := fun f hf => by
  rcases List.mem_append.mp hf with h | h
  · exact ha f h
  · exact hb f h

/-- NewSeqNo of the SequenceReset being processed is already the live counter -/
def ResetCaughtUp (m : Msg) (c : Conn) : Prop := m.mtype = mSequenceReset → newSeqOf m = some c.sess.nextIn

structure Good (om : Option Msg) (c c' : Conn) (e : List Effect) : Prop where
  out : OutOk c → OutOk c'
  mono : c.sess.nextOut ≤ c'.sess.nextOut
  writes : NewWritesBelow e c'.sess.nextOut
  inb : InSame c c' ∨ InExact c' ∨ (∃ m, om = some m ∧ lagBy m c' = true)
  ids : c'.sess.sender = c.sess.sender ∧ c'.sess.target = c.sess.target ∧ c'.hb = c.hb
  pos : 0 < c.sess.nextIn → 0 < c'.sess.nextIn

instance (om : Option Msg) : Compositional (Good om) where
  refl := fun c => ⟨id, Int.le_refl _, NewWritesBelow.nil _, Or.inl (InSame.refl c), ⟨rfl, rfl, rfl⟩, id⟩
  trans := by
    intro c c1 c2 e1 e2 h1 h2
    refine ⟨fun h => h2.out (h1.out h), Int.le_trans h1.mono h2.mono,
      NewWritesBelow.append (h1.writes.mono h2.mono) h2.writes, ?_,
      ⟨h2.ids.1.trans h1.ids.1, h2.ids.2.1.trans h1.ids.2.1, h2.ids.2.2.trans h1.ids.2.2⟩,
      fun h => h2.pos (h1.pos h)⟩
    rcases h2.inb with hs | hb | hc
    · rcases h1.inb with hs1 | hb1 | ⟨m, hm, hl⟩
      · exact Or.inl (hs1.trans hs)
      · exact Or.inr (Or.inl (hb1.of_same hs))
      · exact Or.inr (Or.inr ⟨m, hm, by rw [lagBy_of_same m hs]; exact hl⟩)
    · exact Or.inr (Or.inl hb)
    · exact Or.inr (Or.inr hc)

theorem Good.quiet {om : Option Msg} {c c' : Conn} {e : List Effect} (h : Good om c c' e) (hq : Quiet c) :
    Quiet c' := by
  refine ⟨h.out hq.out, h.pos hq.pos, ?_⟩
  rcases h.inb with hs | hb | ⟨m, _, hl⟩
  · rcases hq.inb with hi | hl
    · exact Or.inl (hi.of_same hs)
    · exact Or.inr (by rw [inLag_of_same hs]; exact hl)
  · exact Or.inl hb
  · exact Or.inr (inLag_of_lagBy hl)

/-- history-level relation (forgets which frame was being processed) -/
structure GoodH (c c' : Conn) (e : List Effect) : Prop where
  quiet : Quiet c → Quiet c'
  mono : c.sess.nextOut ≤ c'.sess.nextOut
  writes : NewWritesBelow e c'.sess.nextOut
  ids : c'.sess.sender = c.sess.sender ∧ c'.sess.target = c.sess.target ∧ c'.hb = c.hb

theorem Good.toH {om : Option Msg} {c c' : Conn} {e : List Effect} (h : Good om c c' e) : GoodH c c' e :=
  ⟨h.quiet, h.mono, h.writes, h.ids⟩

instance : Compositional GoodH where
  refl := fun _ => ⟨id, Int.le_refl _, NewWritesBelow.nil _, rfl, rfl, rfl⟩
  trans := fun h1 h2 => ⟨fun h => h2.quiet (h1.quiet h), Int.le_trans h1.mono h2.mono,
    NewWritesBelow.append (h1.writes.mono h2.mono) h2.writes,
    h2.ids.1.trans h1.ids.1, h2.ids.2.1.trans h1.ids.2.1, h2.ids.2.2.trans h1.ids.2.2⟩

/-! Relations that hold of ALL outcomes of a handler (raising runs included), strongest first:
`Quietly ⊂ Frame ⊂ RResend ⊂ InSameR ⊂ JIR`, and `Frame ⊂ Good om`.  No handler is walked for `Frame`: it is what
`Quietly` hands to `Good` and `RResend`.  `InSameR` and `JIR` hold of a handler by the kinds of step it can take
(`insame_adm`, `jir_adm` with the footprints of `SessionFoot`); `Quietly` and `RResend` are walked, since the footprints
do not tell the gate from the send, nor a frame with its own number from a new one. -/

/-- all outcomes: journal and session object untouched, nothing written -/
structure Quietly (c c' : Conn) (e : List Effect) : Prop where
  journal : c'.journal = c.journal
  sess : c'.sess = c.sess
  hb : c'.hb = c.hb
  nw : ∀ f, Effect.write f ∉ e

instance : Compositional Quietly where
  refl := fun _ => ⟨rfl, rfl, rfl, fun _ h => by cases h⟩
  trans := fun h1 h2 => ⟨h2.journal.trans h1.journal, h2.sess.trans h1.sess, h2.hb.trans h1.hb,
    fun f hf => by
      rcases List.mem_append.mp hf with h | h
      · exact h1.nw f h
      · exact h2.nw f h⟩

theorem Quietly.modify {f : Conn → Conn}
    (h : ∀ c, (f c).sess = c.sess ∧ (f c).journal = c.journal ∧ (f c).hb = c.hb) :
    M.Rel Quietly (M.modify f) :=
  ⟨fun c => ⟨(h c).2.1, (h c).1, (h c).2.2, fun _ hf => by cases hf⟩⟩

theorem Quietly.emit {e : Effect} (h : ∀ f, e ≠ .write f) : M.Rel Quietly (M.emit e) :=
  ⟨fun _ => ⟨rfl, rfl, rfl, fun f hf => h f (List.mem_singleton.mp hf).symm⟩⟩

/-- nothing the invariant mentions changed and no frame taking a new number was written -/
structure Frame (c c' : Conn) (e : List Effect) : Prop where
  sess : c'.sess = c.sess
  journal : c'.journal = c.journal
  hb : c'.hb = c.hb
  nw : NoNewWrites e

theorem Quietly.frame {c c' : Conn} {e : List Effect} (h : Quietly c c' e) : Frame c c' e :=
  ⟨h.sess, h.journal, h.hb, fun f hf => absurd hf (h.nw f)⟩

theorem Frame.good {om : Option Msg} {c c' : Conn} {e : List Effect} (h : Frame c c' e) : Good om c c' e :=
  ⟨fun ho => by unfold OutOk at *; rw [h.sess, h.journal]; exact ho, by rw [h.sess]; exact Int.le_refl _,
   h.nw.below _, Or.inl ⟨by rw [h.sess], by rw [h.journal], by rw [h.journal]⟩,
   by rw [h.sess]; exact ⟨rfl, rfl, h.hb⟩, by rw [h.sess]; exact id⟩

/-- resend servicing: counters of the session object, the inbound side of the journal and the heartbeat
period are untouched (outbound rows may be re-journaled), and no frame taking a new number is written -/
structure RResend (c c' : Conn) (e : List Effect) : Prop where
  sess : c'.sess = c.sess
  inSeq : c'.journal.inSeq = c.journal.inSeq
  inb : c'.journal.inb = c.journal.inb
  hb : c'.hb = c.hb
  nw : NoNewWrites e

instance : Compositional RResend where
  refl := fun _ => ⟨rfl, rfl, rfl, rfl, NoNewWrites.nil⟩
  trans := fun h1 h2 => ⟨h2.sess.trans h1.sess, h2.inSeq.trans h1.inSeq, h2.inb.trans h1.inb,
    h2.hb.trans h1.hb, h1.nw.append h2.nw⟩

theorem Frame.resend {c c' : Conn} {e : List Effect} (h : Frame c c' e) : RResend c c' e :=
  ⟨h.sess, by rw [h.journal], by rw [h.journal], h.hb, h.nw⟩

/-- whatever is sent: the inbound side is untouched -/
def InSameR (c c' : Conn) (_ : List Effect) : Prop := InSame c c'

instance : Compositional InSameR where
  refl := fun c => InSame.refl c
  trans := fun h1 h2 => InSame.trans h1 h2

theorem RResend.insame {c c' : Conn} {e : List Effect} (h : RResend c c' e) : InSameR c c' e :=
  ⟨by rw [h.sess], h.inSeq, h.inb⟩

theorem Quietly.insame {c c' : Conn} {e : List Effect} (h : Quietly c c' e) : InSameR c c' e :=
  h.frame.resend.insame

theorem InSameR.emit (e : Effect) : M.Rel InSameR (M.emit e) := ⟨fun c => InSame.refl c⟩

/-- the inbound side of the JOURNAL is untouched (the live counter may move) -/
def JIR (c c' : Conn) (_ : List Effect) : Prop :=
  c'.journal.inSeq = c.journal.inSeq ∧ c'.journal.inb = c.journal.inb

instance : Compositional JIR where
  refl := fun _ => ⟨rfl, rfl⟩
  trans := fun h1 h2 => ⟨h2.1.trans h1.1, h2.2.trans h1.2⟩

theorem InSameR.jir {c c' : Conn} {e : List Effect} (h : InSameR c c' e) : JIR c c' e := ⟨h.2.1, h.2.2⟩

/-- every kind of step but those on the inbound side: the expected number, the inbound rows and counter, `set_seq_num` -/
def inSameK : Foot
  | .inn | .jin | .setSeq => false
  | _ => true

theorem insame_adm : ∀ k, inSameK k = true → ∀ c c' e, k.sem c c' e → InSameR c c' e := by
  intro k hk c c' e h
  cases k with
  | st s => rw [h.1]; exact ⟨rfl, rfl, rfl⟩
  | roleI | roleA | out | jout | wd | up | fail => rw [h.2]; exact ⟨rfl, rfl, rfl⟩
  | write | caught | logon | logout | deliver | close | onConn | raised => rw [h.1]; exact InSame.refl c
  | drop => obtain ⟨_, d, _, rfl, _⟩ := h; exact ⟨rfl, rfl, rfl⟩
  | _ => cases hk

def jirK : Foot
  | .jin | .setSeq => false
  | _ => true

theorem jir_adm : ∀ k, jirK k = true → ∀ c c' e, k.sem c c' e → JIR c c' e := by
  intro k hk c c' e h
  cases k with
  | inn => rw [h.2]; exact ⟨rfl, rfl⟩
  | jin | setSeq => cases hk
  | _ => exact (insame_adm _ rfl c c' e h).jir

end AsyncFix.Restart
