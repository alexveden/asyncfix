import AsyncFix.Lemmas.BridgeRender
import AsyncFix.Lemmas.CodecEncodeShape
import AsyncFix.Lemmas.CodecFlat
import AsyncFix.Props.C02

/-!
Bridge between the two model families, frame level: **the session model's abstract frame IS the codec's
byte frame**.

* `buildFrame_flds` / `render_buildFrame`: the fields of `Session.buildFrame` are, one for one, the
  fields of the codec's `mkFrame` for the wire fields `sessFlds` (35, 49, 56, 34, 52, then the
  message's own tags minus 34/52/49/56): BodyLength computed from `fieldLen` is the byte count,
  CheckSum computed from `fieldSum` is the byte sum.
* `bodyOf_toCodec`: the session model's tag filter is the codec's `bodyOf` (`skipTags`).
* `render_buildFrame_assemble` / `render_buildFrame_encode`: hence the codec encoder, run on the
  corresponding codec message / session, returns exactly `render (buildFrame …)`.
* `buildFrame_refframe`, `render_lt_256`: the rendered frame is a `RefFrame` of single bytes.
-/
namespace AsyncFix.Bridge

open AsyncFix.Model AsyncFix.Generated
open AsyncFix.Model.Codec (Bytes SOH EQS natToDec intToDec dec3 Fld fieldBytes bodyBytes mkFrame
  Node skipTags tag34 tag49 tag52 tag56 tag43 tag35 bodyOf hdrFlds assemble encode selectSeq)

/-- the wire fields between BodyLength and CheckSum of the frame `buildFrame` describes -/
def sessFlds (s : Session.Session) (stamp : String) (m : Session.Msg) (seq : Int) : List Fld :=
  ((Session.tMsgType, m.mtype) :: Session.bodyFields s stamp m seq).map toFld

theorem natToDec_small :
    natToDec 8 = [56] ∧ natToDec 9 = [57] ∧ natToDec 10 = [49, 48] ∧ natToDec 34 = tag34 ∧
    natToDec 35 = tag35 ∧ natToDec 49 = tag49 ∧ natToDec 52 = tag52 ∧ natToDec 56 = tag56 ∧
    natToDec 43 = tag43 := by
  decide +kernel

/-- BodyLength as `buildFrame` computes it -/
def blenOf (s : Session.Session) (stamp : String) (m : Session.Msg) (seq : Int) : Nat :=
  ((Session.bodyFields s stamp m seq).map Session.fieldLen).sum + Session.fieldLen (Session.tMsgType, m.mtype)

/-- the frame's fields in front of CheckSum: everything the checksum covers -/
def preTags (s : Session.Session) (stamp : String) (m : Session.Msg) (seq : Int) : List (Nat × String) :=
  [(Session.tBeginString, Proto.beginString), (Session.tBodyLength, toString (blenOf s stamp m seq)),
   (Session.tMsgType, m.mtype)] ++ Session.bodyFields s stamp m seq

/-- CheckSum as `buildFrame` computes it -/
def ckOf (s : Session.Session) (stamp : String) (m : Session.Msg) (seq : Int) : Nat :=
  ((preTags s stamp m seq).map Session.fieldSum).sum % 256

theorem buildFrame_tags (s : Session.Session) (stamp : String) (m : Session.Msg) (seq : Int) :
    (Session.buildFrame s stamp m seq).tags =
      preTags s stamp m seq ++ [(Session.tCheckSum, Session.pad3 (ckOf s stamp m seq))] := rfl

theorem length_sessFlds (s : Session.Session) (stamp : String) (m : Session.Msg) (seq : Int) :
    (bodyBytes (sessFlds s stamp m seq)).length = blenOf s stamp m seq := by
  rw [sessFlds, length_bodyBytes_toFld, List.map_cons, List.sum_cons, blenOf]; omega

theorem preFlds_sessFlds (s : Session.Session) (stamp : String) (m : Session.Msg) (seq : Int) :
    Codec.preFlds Proto.beginStringBytes (sessFlds s stamp m seq) = (preTags s stamp m seq).map toFld := by
  obtain ⟨h8, h9, -⟩ := natToDec_small
  rw [Codec.preFlds, length_sessFlds]
  simp only [preTags, sessFlds, List.map_cons, List.cons_append, List.nil_append, toFld,
    Session.tBeginString, Session.tBodyLength, h8, h9, beginString_agree, cps_toString_nat]

theorem frameCk_sessFlds (s : Session.Session) (stamp : String) (m : Session.Msg) (seq : Int) :
    Codec.frameCk Proto.beginStringBytes (sessFlds s stamp m seq) = ckOf s stamp m seq := by
  rw [Codec.frameCk, Codec.framePre_eq, preFlds_sessFlds, sum_bodyBytes_toFld, ckOf]

/-- **the fields of the session model's frame are the fields of the codec's `mkFrame`** -/
theorem buildFrame_flds (s : Session.Session) (stamp : String) (m : Session.Msg) (seq : Int) :
    (Session.buildFrame s stamp m seq).tags.map toFld =
      Codec.frameFlds Proto.beginStringBytes (sessFlds s stamp m seq) := by
  obtain ⟨-, -, h10, -⟩ := natToDec_small
  have hpad : cps (Session.pad3 (ckOf s stamp m seq)) = dec3 (ckOf s stamp m seq) :=
    cps_pad3 _ (by unfold ckOf; omega)
  rw [Codec.frameFlds, preFlds_sessFlds, Codec.ckFld, frameCk_sessFlds, buildFrame_tags]
  simp only [List.map_append, List.map_cons, List.map_nil, toFld, Session.tCheckSum, h10, hpad]

/-- **Bridge, frame level**: the wire bytes of the session model's frame are the codec's `mkFrame`
of the protocol's BeginString and the wire fields. -/
theorem render_buildFrame (s : Session.Session) (stamp : String) (m : Session.Msg) (seq : Int) :
    render (Session.buildFrame s stamp m seq) =
      mkFrame Proto.beginStringBytes (sessFlds s stamp m seq) := by
  rw [render, flatten_render_eq_bodyBytes, buildFrame_flds, Codec.mkFrame_eq_bodyBytes']

def keepTag (t : Nat) : Bool :=
  decide (t ≠ Session.tMsgSeqNum) && decide (t ≠ Session.tSendingTime) &&
    decide (t ≠ Session.tSenderCompID) && decide (t ≠ Session.tTargetCompID)

theorem keepTag_iff (t : Nat) : keepTag t = true ↔ t ≠ 34 ∧ t ≠ 52 ∧ t ≠ 49 ∧ t ≠ 56 := by
  unfold keepTag
  rw [Bool.and_eq_true, Bool.and_eq_true, Bool.and_eq_true, and_assoc, and_assoc]
  exact and_congr decide_eq_true_iff (and_congr decide_eq_true_iff
    (and_congr decide_eq_true_iff decide_eq_true_iff))

theorem skipTags_natToDec (t : Nat) : (!skipTags.contains (natToDec t)) = keepTag t := by
  obtain ⟨-, -, -, h34, -, h49, h52, h56, -⟩ := natToDec_small
  have e : ∀ k : Nat, natToDec t = natToDec k ↔ t = k := fun k => ⟨Codec.natToDec_inj, fun h => h ▸ rfl⟩
  rw [Bool.eq_iff_iff, keepTag_iff]
  simp [skipTags, ← h34, ← h49, ← h52, ← h56, e]

/-- a session-model field as a codec dict entry -/
def toLeaf (p : Nat × String) : Node := .leaf (natToDec p.1) (cps p.2)

theorem toCodec_body (m : Session.Msg) : (toCodec m).body = m.tags.map toLeaf := rfl

theorem bodyOf_toCodec (m : Session.Msg) :
    bodyOf (toCodec m) = (m.tags.filter fun p => keepTag p.1).map toLeaf := by
  rw [bodyOf, toCodec_body, List.filter_map]
  congr 1
  apply List.filter_congr
  intro p _
  simp only [Function.comp, toLeaf, Node.tag]
  exact skipTags_natToDec p.1

theorem bodyFields_eq (s : Session.Session) (stamp : String) (m : Session.Msg) (seq : Int) :
    Session.bodyFields s stamp m seq =
      [(Session.tSenderCompID, s.sender), (Session.tTargetCompID, s.target),
       (Session.tMsgSeqNum, Session.pyStr seq), (Session.tSendingTime, stamp)]
        ++ m.tags.filter fun p => keepTag p.1 := by
  unfold Session.bodyFields keepTag
  rfl

theorem map_toLeaf (ps : List (Nat × String)) :
    ps.map toLeaf = (ps.map toFld).map fun f => Node.leaf f.tag f.val := by
  simp [List.map_map, toLeaf, toFld, Function.comp_def]

/-- the codec's header + body field list for the corresponding message is `sessFlds` -/
theorem hdrFlds_sessFlds (s : Session.Session) (stamp : String) (m : Session.Msg) (seq : Int) :
    hdrFlds (cps m.mtype) (cps s.sender) (cps s.target) (intToDec seq) (cps stamp)
        ++ (m.tags.filter fun p => keepTag p.1).map toFld = sessFlds s stamp m seq := by
  obtain ⟨-, -, -, h34, h35, h49, h52, h56, -⟩ := natToDec_small
  simp only [sessFlds, bodyFields_eq, hdrFlds, List.map_cons, List.cons_append,
    List.nil_append, toFld, Session.tMsgType, Session.tSenderCompID, Session.tTargetCompID,
    Session.tMsgSeqNum, Session.tSendingTime, h34, h35, h49, h52, h56, cps_pyStr]

/-- **Bridge, encoder level (sequence number given)**: the codec's `assemble`, run on the
corresponding codec message and session with the same number and clock text, returns exactly the
bytes of the session model's frame. -/
theorem render_buildFrame_assemble (s : Session.Session) (stamp : String) (m : Session.Msg) (seq : Int) :
    assemble Proto.beginStringBytes (toCodec m) (toCodecSession s) (intToDec seq) (cps stamp) =
      .ok (render (Session.buildFrame s stamp m seq)) := by
  have hflat : Codec.addCont (bodyOf (toCodec m)) =
      .ok (((m.tags.filter fun p => keepTag p.1).map toFld).map fun f => fieldBytes f.tag f.val) := by
    rw [bodyOf_toCodec, map_toLeaf, Codec.addCont_leaves]
  rw [Codec.assemble_eq_mkFrame _ _ _ _ _ _ hflat, render_buildFrame]
  show Except.ok (mkFrame _ (hdrFlds (cps m.mtype) (cps s.sender) (cps s.target) (intToDec seq) (cps stamp)
    ++ _)) = _
  rw [hdrFlds_sessFlds]

theorem find_toLeaf (t : Nat) (ps : List (Nat × String)) :
    List.find? (fun n => n.tag == natToDec t) (ps.map toLeaf) =
      (Session.Msg.lookup t ps).map fun v => Node.leaf (natToDec t) (cps v) := by
  induction ps with
  | nil => rfl
  | cons p r ih =>
    obtain ⟨k, v⟩ := p
    by_cases h : k = t
    · subst h; simp [toLeaf, Node.tag, Session.Msg.lookup]
    · have : natToDec k ≠ natToDec t := fun hh => h (Codec.natToDec_inj hh)
      simp [toLeaf, Node.tag, Session.Msg.lookup, h, this] at ih ⊢
      exact ih

/-- **Bridge, encoder level (allocating case)**: for a message that is not a SequenceReset and
does not carry PossDupFlag=Y, `Codec.encode` on the corresponding codec message / session returns the
bytes of `buildFrame` with the session's next number, and consumes that number – as
`Session.encodeSeq` + `buildFrame` in `sendCore` do. -/
theorem render_buildFrame_encode (s : Session.Session) (stamp : String) (m : Session.Msg)
    (hm : m.mtype ≠ Session.mSequenceReset) (hpd : m.get? Session.tPossDupFlag ≠ some "Y") :
    encode Proto.beginStringBytes (toCodec m) (toCodecSession s) false (cps stamp) =
      (.ok (render (Session.buildFrame { s with nextOut := s.nextOut + 1 } stamp m s.nextOut)),
       toCodecSession { s with nextOut := s.nextOut + 1 }) := by
  obtain ⟨-, -, -, -, -, -, -, -, h43⟩ := natToDec_small
  have hsel : selectSeq (toCodec m) (toCodecSession s) false =
      .ok (intToDec s.nextOut, toCodecSession { s with nextOut := s.nextOut + 1 }) := by
    refine Codec.selectSeq_fresh _ _ ?_ ?_
    · have := cps_ne hm
      rwa [show cps Session.mSequenceReset = Codec.mtSeqReset by decide] at this
    · -- the entry under 43, if any, is the leaf of the session message's value, which is not "Y"
      intro n hn
      rw [Codec.Cont.find?, toCodec_body, ← h43, find_toLeaf] at hn
      cases hl : Session.Msg.lookup 43 m.tags with
      | none => rw [hl] at hn; cases hn
      | some v =>
        rw [hl] at hn; cases hn
        have := cps_ne (a := v) (b := "Y") fun hh => hpd (by rw [Session.Msg.get?, ← hh]; exact hl)
        exact ⟨_, _, rfl, by rwa [show cps "Y" = [89] by decide] at this⟩
  unfold encode
  rw [hsel]
  simp only
  rw [show toCodecSession { s with nextOut := s.nextOut + 1 } =
      toCodecSession ({ s with nextOut := s.nextOut + 1 } : Session.Session) from rfl,
    render_buildFrame_assemble]

theorem beginStringBytes_no_SOH : SOH ∉ Proto.beginStringBytes := by decide

theorem buildFrame_refframe (s : Session.Session) (stamp : String) (m : Session.Msg) (seq : Int) :
    AsyncFix.Props.C02.RefFrame (render (Session.buildFrame s stamp m seq)) :=
  AsyncFix.Props.C02.assemble_refframe _ _ _ _ _ _ beginStringBytes_no_SOH
    (render_buildFrame_assemble s stamp m seq)

/-- what `frameLatin1` buys: every byte handed to the transport is a single byte -/
theorem render_lt_256 (f : Session.Msg) (h : Session.frameLatin1 f = true) :
    ∀ b ∈ render f, b < 256 := by
  intro b hb
  simp only [render, List.mem_flatten, List.mem_map] at hb
  obtain ⟨l, ⟨p, hp, rfl⟩, hb⟩ := hb
  simp only [Session.frameLatin1, List.all_eq_true] at h
  have hp2 := h p hp
  simp only [Session.isLatin1, List.all_eq_true, decide_eq_true_eq] at hp2
  simp only [renderField, List.mem_append, List.mem_cons, List.not_mem_nil, or_false] at hb
  rcases hb with hb | rfl | hb | rfl
  · have := List.all_eq_true.mp (Codec.natToDec_all_digit p.1) b hb
    simp [Codec.isDigit] at this; omega
  · decide
  · simp only [cps, List.mem_map] at hb
    obtain ⟨c, hc, rfl⟩ := hb
    exact hp2 c hc
  · decide

end AsyncFix.Bridge
