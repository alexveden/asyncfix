import AsyncFix.Model.LinkInv

/-! C07: the message-type constants are pairwise different (simp lemmas). -/
namespace AsyncFix.Link
open AsyncFix.Session

@[simp] theorem mHeartbeat_ne_mTestRequest : (mHeartbeat = mTestRequest) = False := by decide +kernel
@[simp] theorem mHeartbeat_ne_mResendRequest : (mHeartbeat = mResendRequest) = False := by decide +kernel
@[simp] theorem mHeartbeat_ne_mReject : (mHeartbeat = mReject) = False := by decide +kernel
@[simp] theorem mHeartbeat_ne_mSequenceReset : (mHeartbeat = mSequenceReset) = False := by decide +kernel
@[simp] theorem mHeartbeat_ne_mLogout : (mHeartbeat = mLogout) = False := by decide +kernel
@[simp] theorem mHeartbeat_ne_mLogon : (mHeartbeat = mLogon) = False := by decide +kernel
@[simp] theorem mTestRequest_ne_mHeartbeat : (mTestRequest = mHeartbeat) = False := by decide +kernel
@[simp] theorem mTestRequest_ne_mResendRequest : (mTestRequest = mResendRequest) = False := by decide +kernel
@[simp] theorem mTestRequest_ne_mReject : (mTestRequest = mReject) = False := by decide +kernel
@[simp] theorem mTestRequest_ne_mSequenceReset : (mTestRequest = mSequenceReset) = False := by decide +kernel
@[simp] theorem mTestRequest_ne_mLogout : (mTestRequest = mLogout) = False := by decide +kernel
@[simp] theorem mTestRequest_ne_mLogon : (mTestRequest = mLogon) = False := by decide +kernel
@[simp] theorem mResendRequest_ne_mHeartbeat : (mResendRequest = mHeartbeat) = False := by decide +kernel
@[simp] theorem mResendRequest_ne_mTestRequest : (mResendRequest = mTestRequest) = False := by decide +kernel
@[simp] theorem mResendRequest_ne_mReject : (mResendRequest = mReject) = False := by decide +kernel
@[simp] theorem mResendRequest_ne_mSequenceReset : (mResendRequest = mSequenceReset) = False := by decide +kernel
@[simp] theorem mResendRequest_ne_mLogout : (mResendRequest = mLogout) = False := by decide +kernel
@[simp] theorem mResendRequest_ne_mLogon : (mResendRequest = mLogon) = False := by decide +kernel
@[simp] theorem mReject_ne_mHeartbeat : (mReject = mHeartbeat) = False := by decide +kernel
@[simp] theorem mReject_ne_mTestRequest : (mReject = mTestRequest) = False := by decide +kernel
@[simp] theorem mReject_ne_mResendRequest : (mReject = mResendRequest) = False := by decide +kernel
@[simp] theorem mReject_ne_mSequenceReset : (mReject = mSequenceReset) = False := by decide +kernel
@[simp] theorem mReject_ne_mLogout : (mReject = mLogout) = False := by decide +kernel
@[simp] theorem mReject_ne_mLogon : (mReject = mLogon) = False := by decide +kernel
@[simp] theorem mSequenceReset_ne_mHeartbeat : (mSequenceReset = mHeartbeat) = False := by decide +kernel
@[simp] theorem mSequenceReset_ne_mTestRequest : (mSequenceReset = mTestRequest) = False := by decide +kernel
@[simp] theorem mSequenceReset_ne_mResendRequest : (mSequenceReset = mResendRequest) = False := by decide +kernel
@[simp] theorem mSequenceReset_ne_mReject : (mSequenceReset = mReject) = False := by decide +kernel
@[simp] theorem mSequenceReset_ne_mLogout : (mSequenceReset = mLogout) = False := by decide +kernel
@[simp] theorem mSequenceReset_ne_mLogon : (mSequenceReset = mLogon) = False := by decide +kernel
@[simp] theorem mLogout_ne_mHeartbeat : (mLogout = mHeartbeat) = False := by decide +kernel
@[simp] theorem mLogout_ne_mTestRequest : (mLogout = mTestRequest) = False := by decide +kernel
@[simp] theorem mLogout_ne_mResendRequest : (mLogout = mResendRequest) = False := by decide +kernel
@[simp] theorem mLogout_ne_mReject : (mLogout = mReject) = False := by decide +kernel
@[simp] theorem mLogout_ne_mSequenceReset : (mLogout = mSequenceReset) = False := by decide +kernel
@[simp] theorem mLogout_ne_mLogon : (mLogout = mLogon) = False := by decide +kernel
@[simp] theorem mLogon_ne_mHeartbeat : (mLogon = mHeartbeat) = False := by decide +kernel
@[simp] theorem mLogon_ne_mTestRequest : (mLogon = mTestRequest) = False := by decide +kernel
@[simp] theorem mLogon_ne_mResendRequest : (mLogon = mResendRequest) = False := by decide +kernel
@[simp] theorem mLogon_ne_mReject : (mLogon = mReject) = False := by decide +kernel
@[simp] theorem mLogon_ne_mSequenceReset : (mLogon = mSequenceReset) = False := by decide +kernel
@[simp] theorem mLogon_ne_mLogout : (mLogon = mLogout) = False := by decide +kernel

end AsyncFix.Link
