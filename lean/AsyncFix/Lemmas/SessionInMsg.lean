import AsyncFix.Lemmas.SessionInWp
import AsyncFix.Lemmas.SessionHandlers
import AsyncFix.Lemmas.SessionPlain

/-!
C04: what the inbound handlers do to the expected number, handler by handler (`_process_seqreset`,
`_check_seqnum_gaps`, `set_next_num_in`, `_finalize_message`; read off the handler equations where there are such),
then `_process_message`: `processHead` part by part (`SessionParts`), the dispatch by class of message, the whole by
stages (`processMessage_stages`).
-/
namespace AsyncFix.Session
open AsyncFix.Generated AsyncFix.Generated.ConnEnum

/-- MsgSeqNum(34) of a frame as `int()` reads it -/
def seqOf (m : Msg) : Option Int := (m.get? tMsgSeqNum).bind pyInt
/-- NewSeqNo(36) -/
def newSeqOf (m : Msg) : Option Int := (m.get? tNewSeqNo).bind pyInt
/-- `GapFillFlag(123) == "Y"` -/
def isGapFill (m : Msg) : Bool := m.get? tGapFillFlag == some "Y"

/-- message types the dispatch of `_process_message` handles itself; everything else goes to the
`else:` branch, whose only action is the gated `on_message` call -/
def sessionTypes : List String := [mResendRequest, mSequenceReset, mLogon, mTestRequest, mHeartbeat]

/-- "application message" in the model: not one of the session dispatch types -/
def isApp (m : Msg) : Bool := !sessionTypes.contains m.mtype

theorem isApp_iff {m : Msg} : isApp m = true ↔ m.mtype ≠ mResendRequest ∧ m.mtype ≠ mSequenceReset ∧
    m.mtype ≠ mLogon ∧ m.mtype ≠ mTestRequest ∧ m.mtype ≠ mHeartbeat := by
  simp [isApp, sessionTypes]

/-- a SequenceReset that the receiver acts on, moving the expected number to `k`: Reset mode – any
NewSeqNo `k`; GapFill mode – only when its own MsgSeqNum is the expected one and `k` is beyond it -/
def HonouredTo (c : Conn) (m : Msg) (k : Int) : Prop :=
  m.mtype = mSequenceReset ∧ ∃ n, seqOf m = some n ∧ newSeqOf m = some k ∧
    (isGapFill m = true → n = c.sess.nextIn ∧ n < k)

/-- the honoured tail of `_process_seqreset`: all or nothing -/
theorem seqresetApply_spec (m : Msg) (v : String) (c : Conn) :
    Holds (seqresetApply m v) c (fun r c' e =>
      e = [] ∧ c'.state = c.state ∧ c'.maxResend = c.maxResend ∧ r ≠ .ok false ∧
      (r = .ok true → ∃ n, pyInt v = some n ∧ newSeqOf m = some c'.sess.nextIn) ∧
      (r ≠ .ok true → c' = c)) := by
  unfold seqresetApply setSeqNum
  wp_simp
  simp [newSeqOf]
  repeat' (first | intro _ | apply And.intro)
  all_goals (try simp_all)
  all_goals omega

/-- `true`: the receiver expects NewSeqNo from here on; `false`: declined, nothing touched; an exception: nothing touched -/
def SeqresetPost (c : Conn) (m : Msg) : Post Bool := fun r c' e =>
  e = [] ∧ c'.state = c.state ∧ c'.maxResend = c.maxResend ∧
  (r = .ok true → HonouredTo c m c'.sess.nextIn) ∧
  (r = .ok false → c' = c) ∧
  (r ≠ .ok true → c'.sess.nextIn = c.sess.nextIn)

theorem processSeqreset_spec (m : Msg) (c : Conn) : Holds (processSeqreset m) c (SeqresetPost c m) := by
  -- the honoured tail, entered knowing what made the reset honoured
  have apply : ∀ v, m.mtype = mSequenceReset → m.get? tMsgSeqNum = some v →
      (isGapFill m = true → ∃ n nw, pyInt v = some n ∧ n = c.sess.nextIn ∧ newSeqOf m = some nw ∧ n < nw) →
      Holds (seqresetApply m v) c (SeqresetPost c m) := by
    intro v h4 hv hg
    refine (seqresetApply_spec m v c).mono ?_
    rintro r c' e ⟨he, hs, hm, hnf, hT, hE⟩
    refine ⟨he, hs, hm, fun h => ?_, fun h => absurd h hnf, fun h => by rw [hE h]⟩
    obtain ⟨n, hn, hnw⟩ := hT h
    refine ⟨h4, n, by simp [seqOf, hv, hn], hnw, fun hgf => ?_⟩
    obtain ⟨n', nw, hn', hk, hnw', hlt⟩ := hg hgf
    rw [hn] at hn'; cases hn'
    rw [hnw] at hnw'; cases hnw'
    exact ⟨hk, hlt⟩
  have stay : ∀ r : Except Exc Bool, r ≠ .ok true → SeqresetPost c m r c [] :=
    fun r hr => ⟨rfl, rfl, rfl, fun h => absurd h hr, fun _ => rfl, fun _ => rfl⟩
  rw [processSeqreset_eq]
  wp_simp
  simp only [beq_iff_eq, bne_iff_ne, ne_eq, Bool.not_eq_true', Bool.not_false, Bool.not_true, Bool.false_eq_true,
    false_implies, not_false_eq_true, true_implies, true_and]
  refine ⟨fun h4 => ⟨fun v hv => ⟨fun hgf => ⟨fun n hn => ⟨fun _ => ⟨stay _ (by simp), fun h => absurd trivial h⟩,
    fun hk => ⟨fun w hw => ⟨fun nw hnw => ⟨fun _ => stay _ (by simp), fun hle => ?_⟩, fun _ => stay _ (by simp)⟩,
      fun _ => stay _ (by simp)⟩⟩, fun _ => stay _ (by simp)⟩, fun hgf => ?_⟩, fun _ => stay _ (by simp)⟩,
    fun _ => stay _ (by simp)⟩
  · refine apply v h4 hv fun _ => ⟨n, nw, hn, Classical.not_not.1 hk, by simp [newSeqOf, hw, hnw], ?_⟩
    simpa using hle
  · exact apply v h4 hv fun h => absurd (by simpa [isGapFill] using h) hgf

theorem checkSeqnumGaps_spec (env : Env) (n : Int) (c : Conn) :
    Holds (checkSeqnumGaps env n) c (fun r c' e =>
      (∀ b, r = .ok b → (b = true ↔ n ≤ c.sess.nextIn)) ∧
      ((n ≤ c.sess.nextIn ∨ c.state = st_RESENDREQ_AWAITING) → c' = c ∧ e = [])) := by
  unfold checkSeqnumGaps
  wp_simp
  refine ⟨fun h => ⟨fun h2 => ?_, fun h2 => ?_⟩, fun h => ?_⟩
  · have h3 : ¬ c.state = st_RESENDREQ_AWAITING := by simpa using h2
    have h4 : ¬ n ≤ c.sess.nextIn := by omega
    refine Holds.any fun r c' e => ?_
    cases r
    · simp [h3, h4]
    · refine Holds.any fun r c' e => ?_
      cases r <;> simp [h3, h4]
  · have h4 : ¬ n ≤ c.sess.nextIn := by omega
    simp_all
  · have h4 : n ≤ c.sess.nextIn := by omega
    simp [h4]

def JournalOnly : StepRel where
  R c c' e := e = [] ∧ c'.sess = c.sess ∧ c'.state = c.state ∧ c'.maxResend = c.maxResend
  refl c := by simp
  trans := by
    intro a b c e1 e2 h1 h2
    simp [h1.1, h2.1, h2.2.1, h1.2.1, h2.2.2.1, h1.2.2.1, h2.2.2.2, h1.2.2.2]

theorem persistInbound_journalOnly (m : Msg) : M.Rel JournalOnly.R (persistInbound m) :=
  Fp.to (K := fun | .jin => true | _ => false) (fun k hk c c' e h => by
    cases k with
    | jin => exact ⟨h.1, by rw [h.2], by rw [h.2], by rw [h.2]⟩
    | _ => cases hk) (persistInbound_fp m) rfl

/-- the number `_finalize_message` "sees" (return value of `set_next_num_in` when it accepts the frame):
the frame's own MsgSeqNum if that is the expected one; NewSeqNo − 1 for a SequenceReset -/
def acceptedNum (c : Conn) (m : Msg) : Option Int :=
  if m.mtype = mSequenceReset then (newSeqOf m).map (· - 1)
  else (seqOf m).bind fun n => if n = c.sess.nextIn then some n else none

/-- `set_next_num_in` accepts exactly `acceptedNum`: then it returns that number and expects the next one;
otherwise nothing changes and the result, if any, is not positive -/
theorem setNextNumIn_spec (m : Msg) (c : Conn) :
    Holds (setNextNumIn m) c (fun r c' e => e = [] ∧
      match acceptedNum c m with
      | some k => r = .ok k ∧ c' = { c with sess := { c.sess with nextIn := k + 1 } }
      | none => c' = c ∧ ∀ n, r = .ok n → n ≤ 0) := by
  unfold setNextNumIn
  wp_simp
  repeat' (first | intro _ | apply And.intro)
  all_goals simp_all [acceptedNum, seqOf, newSeqOf, Msg.has]

theorem setNextNumIn_accepted {m : Msg} {c : Conn} {k : Int} (h : acceptedNum c m = some k) :
    ∃ c1, setNextNumIn m c = ⟨.ok k, c1, []⟩ ∧ c1.state = c.state ∧ c1.maxResend = c.maxResend ∧
      c1.sess.nextIn = k + 1 := by
  have := (setNextNumIn_spec m c).elim
  rw [h] at this
  rcases hx : setNextNumIn m c with ⟨r, c1, e1⟩
  rw [hx] at this
  obtain ⟨rfl, rfl, rfl⟩ := this
  exact ⟨_, rfl, rfl, rfl, rfl⟩

/-- `_finalize_message`: the expected number moves past an accepted number; RESENDREQ_AWAITING is left for
ACTIVE exactly when the accepted number is positive and has reached the (positive) watermark -/
theorem finalizeMessage_spec (env : Env) (m : Msg) (c : Conn) :
    Holds (finalizeMessage env m) c (fun _ c' e =>
      deliveries e = [] ∧ (∀ f, Effect.write f ∉ e) ∧
      c'.sess.nextIn = (match acceptedNum c m with | some k => k + 1 | none => c.sess.nextIn) ∧
      ((c.state = st_RESENDREQ_AWAITING ∧ ∃ k, acceptedNum c m = some k ∧ 0 < k ∧ c.maxResend ≤ k ∧ 0 < c.maxResend) →
        c'.state = st_ACTIVE ∧ c'.maxResend = 0) ∧
      (¬(c.state = st_RESENDREQ_AWAITING ∧ ∃ k, acceptedNum c m = some k ∧ 0 < k ∧ c.maxResend ≤ k ∧ 0 < c.maxResend) →
        c'.state = c.state ∧ c'.maxResend = c.maxResend)) := by
  refine Holds.intro ?_
  cases ha : acceptedNum c m with
  | none =>
    -- not counted: nothing happens at all
    have h := (setNextNumIn_spec m c).elim
    rw [ha] at h
    rcases hx : setNextNumIn m c with ⟨r, c1, e1⟩
    rw [hx] at h
    obtain ⟨rfl, rfl, hn⟩ := h
    have : finalizeMessage env m c1 = ⟨r.map fun _ => (), c1, []⟩ := by
      cases r with
      | ok n => exact finalizeMessage_skip env hx (hn n rfl)
      | error ex => exact M.bind_err hx
    rw [this]
    simp
  | some k =>
    obtain ⟨c1, hx, hs1, hm1, hk1⟩ := setNextNumIn_accepted ha
    simp only [Option.some.injEq, exists_eq_left']
    by_cases h0 : 0 < k
    · by_cases hw : c1.state = st_RESENDREQ_AWAITING → 0 < c1.maxResend
      · -- counted: `stamped` says what became of state and watermark, the journal touches neither
        rw [finalizeMessage_counted env hx h0 hw]
        obtain ⟨he, hs, hst, hm⟩ := (persistInbound_journalOnly m).out (stamped env c1 k)
        rw [he, hs, hst, hm, stamped_sess, hk1]
        by_cases hp : promoted c1 k
        · obtain ⟨h1, h2⟩ := stamped_promoted (env := env) hp
          rw [h1, h2, if_pos hp]
          exact ⟨rfl, by simp, rfl, fun _ => ⟨rfl, rfl⟩, fun h => absurd ⟨hs1 ▸ hp.1, h0, hm1 ▸ hp.2, hm1 ▸ hw hp.1⟩ h⟩
        · obtain ⟨h1, h2⟩ := stamped_not_promoted (env := env) hp
          rw [h1, h2, if_neg hp]
          exact ⟨rfl, by simp, rfl, fun h => absurd ⟨hs1 ▸ h.1, hm1 ▸ h.2.2.1⟩ hp, fun _ => ⟨hs1, hm1⟩⟩
      · have hs : c1.state = st_RESENDREQ_AWAITING := Classical.byContradiction fun h => hw fun h' => absurd h' h
        have hm : c1.maxResend ≤ 0 := Int.not_lt.mp fun h => hw fun _ => h
        rw [finalizeMessage_unarmed env hx h0 hs hm]
        exact ⟨rfl, by simp, hk1, fun h => by omega, fun _ => ⟨hs1, hm1⟩⟩
    · rw [finalizeMessage_skip env hx (Int.not_lt.mp h0)]
      exact ⟨rfl, by simp, hk1, fun h => absurd h.2.1 h0, fun _ => ⟨hs1, hm1⟩⟩

theorem processLogout_state (env : Env) (m : Msg) (c : Conn) (h5 : m.mtype = mLogout) :
    Holds (processLogout env m) c (fun _ c' _ =>
      st_DISCONNECTED_BROKEN_CONN < c.state → c'.state ≤ st_DISCONNECTED_BROKEN_CONN) :=
  Holds.intro fun hst => by
    rw [processLogout_apply env h5 hst]
    rw [discTail_state]
    split <;> decide

/-- once a Logon has been received the gates in front are open -/
theorem processHead_established (env : Env) (m : Msg) (c : Conn) (h : st_LOGON_INITIAL_RECV ≤ c.state) :
    processHead env m c = headRest env m c :=
  processHead_gates env (Nat.lt_of_lt_of_le (by decide) h)
    (Or.inl (Nat.ne_of_gt (Nat.lt_of_lt_of_le (by decide) h)))

/-- the sequence check: a result carries the frame's number and whether it is above the expectation -/
theorem headTail_path (env : Env) (m : Msg) (c : Conn) :
    Holds (headTail env m) c (fun r c' e =>
      Quiet.R c c' e ∧
      ∀ valid n, r = .ok (some (valid, n)) →
        seqOf m = some n ∧ (valid = true ↔ n ≤ c.sess.nextIn) ∧ st_DISCONNECTED_BROKEN_CONN < c.state) := by
  unfold headTail
  wp_simp
  refine ⟨fun _ => ⟨Quiet.refl c, by simp⟩, fun hc => ⟨fun v hv => ⟨fun n hn => ?_, fun _ => ⟨Quiet.refl c, by simp⟩⟩,
    fun _ => ⟨Quiet.refl c, by simp⟩⟩⟩
  refine Holds.of_spec ((checkSeqnumGaps_spec env n c).and (((checkSeqnumGaps_fp env n).quiet rfl).holds c)) ?_ ?_
  · rintro b c' e ⟨⟨hb, -⟩, hq⟩
    refine ⟨hq, ?_⟩
    rintro valid n' ⟨⟩
    exact ⟨by simp [seqOf, hv, hn], hb _ rfl, by omega⟩
  · rintro ex c' e ⟨-, hq⟩
    exact ⟨hq, by simp⟩

/-- what `processHead` tells the rest of `_process_message`: nothing delivered; the expected number moves
only by an honoured SequenceReset; a result `(valid, n)` is the frame's own number compared with the
expectation as it is then, the frame is no Logout, and only a Logon gets here before a Logon was received -/
def RestPost (c : Conn) (m : Msg) : Post (Option (Bool × Int)) := fun r c1 e =>
  deliveries e = [] ∧ (m.mtype ≠ mSequenceReset → c1.sess.nextIn = c.sess.nextIn) ∧
  (m.mtype = mSequenceReset → c1.sess.nextIn = c.sess.nextIn ∨ HonouredTo c m c1.sess.nextIn) ∧
  ∀ valid n, r = .ok (some (valid, n)) →
    seqOf m = some n ∧ (valid = true ↔ n ≤ c1.sess.nextIn) ∧
    (st_DISCONNECTED_BROKEN_CONN < c.state → m.mtype ≠ mLogout) ∧
    (m.mtype = mSequenceReset → HonouredTo c m c1.sess.nextIn)

theorem headRest_path (env : Env) (m : Msg) (c : Conn) :
    Holds (headRest env m) c (RestPost c m) := by
  -- the sequence check after a handler that left `c1` behind
  have tail : ∀ (c1 : Conn) (e1 : List Effect), deliveries e1 = [] →
      (m.mtype ≠ mSequenceReset → c1.sess.nextIn = c.sess.nextIn) →
      (m.mtype = mSequenceReset → HonouredTo c m c1.sess.nextIn) →
      (st_DISCONNECTED_BROKEN_CONN < c.state → m.mtype = mLogout → c1.state ≤ st_DISCONNECTED_BROKEN_CONN) →
      Holds (headTail env m) c1 (fun r c2 e2 => RestPost c m r c2 (e1 ++ e2)) := by
    intro c1 e1 hd hk hh hlo
    refine (headTail_path env m c1).mono ?_
    rintro r c2 e2 ⟨⟨hq, hd2⟩, hr⟩
    refine ⟨by simp [hd, hd2], fun h => hq.trans (hk h), fun h => Or.inr (hq ▸ hh h), fun valid n h => ?_⟩
    obtain ⟨hs, hv, h3⟩ := hr valid n h
    exact ⟨hs, hq ▸ hv, fun hc hm => by have := hlo hc hm; omega, fun h => hq ▸ hh h⟩
  -- an exit without result: `return`, or an exception
  have stop : ∀ (r : Except Exc (Option (Bool × Int))) (c1 : Conn) (e1 : List Effect),
      (∀ p, r ≠ .ok (some p)) → Quiet.R c c1 e1 → RestPost c m r c1 e1 :=
    fun r c1 e1 hr hq => ⟨hq.2, fun _ => hq.1, fun _ => Or.inl hq.1, fun _ _ h => absurd h (hr _)⟩
  unfold headRest
  wp_simp
  simp only [beq_iff_eq, Bool.false_eq_true, false_implies, not_false_eq_true, true_implies, not_true_eq_false,
    true_and, and_true]
  refine ⟨fun hA => ?_, fun hA => ⟨fun h4 => ?_, fun h4 => ⟨fun h5 => ?_, fun h5 => ?_⟩⟩⟩
  · refine Holds.of_rel' ((processLogon_fp env m).quiet rfl) (fun _ c1 e1 hq => ?_) fun ex c1 e1 hq => stop _ _ _ (by simp) hq
    exact tail c1 e1 hq.2 (fun _ => hq.1) (fun h => absurd (hA ▸ h) (by decide)) fun _ h => absurd (hA ▸ h) (by decide)
  · refine Holds.of_spec (processSeqreset_spec m c) ?_ ?_
    · rintro ok c1 e1 ⟨rfl, -, -, hT, hF, hN⟩
      cases ok
      · obtain rfl := hF rfl
        simp only [Bool.not_false, true_implies, not_true_eq_false, false_implies, and_true, List.nil_append]
        refine ⟨fun v _ => ⟨fun n _ => ?_, fun _ => stop _ _ _ (by simp) (Quiet.refl _)⟩,
          fun _ => stop _ _ _ (by simp) (Quiet.refl _)⟩
        exact Holds.of_rel' ((checkSeqnumGaps_fp env n).quiet rfl) (fun _ _ _ hq => stop _ _ _ (by simp) hq)
          fun _ _ _ hq => stop _ _ _ (by simp) hq
      · simp only [Bool.not_true, Bool.false_eq_true, false_implies, not_false_eq_true, true_implies, true_and]
        exact tail c1 [] rfl (fun h => absurd h4 h) (fun _ => hT rfl) fun _ h => absurd (h4 ▸ h) (by decide)
    · rintro ex c1 e1 ⟨rfl, -, -, -, -, hN⟩
      exact stop _ _ _ (by simp) ⟨hN (by simp), rfl⟩
  · refine Holds.of_spec ((processLogout_state env m c h5).and (((processLogout_fp env m).quiet rfl).holds c)) ?_ ?_
    · rintro _ c1 e1 ⟨hs, hq⟩
      exact tail c1 e1 hq.2 (fun _ => hq.1) (fun h => absurd h h4) fun hc _ => hs hc
    · rintro ex c1 e1 ⟨-, hq⟩
      exact stop _ _ _ (by simp) hq
  · exact tail c [] rfl (fun _ => rfl) (fun h => absurd h h4) fun _ h => absurd h h5

/-- `RestPost`, and at the gates in front of `headRest` only a Logon passes before a Logon was received -/
def HeadPost (c : Conn) (m : Msg) : Post (Option (Bool × Int)) := fun r c1 e =>
  RestPost c m r c1 e ∧ ∀ p, r = .ok (some p) →
    st_DISCONNECTED_BROKEN_CONN < c.state ∧ (m.mtype ≠ mLogon → m.mtype ≠ mLogout → st_LOGON_INITIAL_RECV ≤ c.state)

theorem processHead_path (env : Env) (m : Msg) (c : Conn) :
    Holds (processHead env m) c (HeadPost c m) := by
  have stop : ∀ (r : Except Exc (Option (Bool × Int))) (c1 : Conn) (e1 : List Effect),
      (∀ p, r ≠ .ok (some p)) → Quiet.R c c1 e1 → HeadPost c m r c1 e1 :=
    fun r c1 e1 hr hq =>
      ⟨⟨hq.2, fun _ => hq.1, fun _ => Or.inl hq.1, fun _ _ h => absurd h (hr _)⟩, fun _ h => absurd h (hr _)⟩
  -- the gates are passed with `c1`, which expects the same number as `c`
  have rest : ∀ (c1 : Conn) (e1 : List Effect), Quiet.R c c1 e1 → st_DISCONNECTED_BROKEN_CONN < c1.state →
      st_DISCONNECTED_BROKEN_CONN < c.state →
      (m.mtype ≠ mLogon → m.mtype ≠ mLogout → st_LOGON_INITIAL_RECV ≤ c.state) →
      Holds (headRest env m) c1 (fun r c2 e2 => HeadPost c m r c2 (e1 ++ e2)) := by
    intro c1 e1 hq h3' h3 h8
    refine (headRest_path env m c1).mono fun r c2 e2 h => ⟨?_, fun _ _ => ⟨h3, h8⟩⟩
    unfold RestPost HonouredTo at *
    simp only [hq.1] at h
    obtain ⟨hd, hk, hh, hr⟩ := h
    refine ⟨by simp [hq.2, hd], hk, hh, fun v n h => ?_⟩
    obtain ⟨ha, hb, hc, hd⟩ := hr v n h
    exact ⟨ha, hb, fun _ => hc h3', hd⟩
  rw [processHead_eq]
  unfold headMid stateSet
  wp_simp
  simp only [ge_iff_le, decide_eq_true_eq, decide_eq_false_iff_not, beq_iff_eq, bne_iff_ne, ne_eq, Bool.and_eq_true]
  refine ⟨fun h6 => ⟨fun h6' => ⟨fun _ => ?_, fun hA => ⟨fun h => ?_, fun _ => ?_⟩⟩,
    fun h6' => ⟨fun _ => ?_, fun h7 => ?_⟩⟩, fun _ => stop _ _ _ (by simp) (Quiet.refl c)⟩
  · exact Holds.of_rel' ((disconnect_fp env _ none).quiet rfl) (fun _ _ _ hq => stop _ _ _ (by simp) hq)
      fun _ _ _ hq => stop _ _ _ (by simp) hq
  · exact absurd h.1.1 (by decide)
  · exact rest _ _ ⟨rfl, rfl⟩ (by decide : st_DISCONNECTED_BROKEN_CONN < st_LOGON_INITIAL_RECV) (by rw [h6']; decide)
      fun h => absurd (Classical.not_not.1 hA) h
  · exact Holds.of_rel' ((disconnect_fp env _ none).quiet rfl) (fun _ _ _ hq => stop _ _ _ (by simp) hq)
      fun _ _ _ hq => stop _ _ _ (by simp) hq
  · have h3 : st_DISCONNECTED_BROKEN_CONN < c.state := Nat.lt_of_lt_of_le (by decide) h6
    refine rest c [] (Quiet.refl c) h3 h3 fun hA h5 => ?_
    have : c.state ≠ st_LOGON_INITIAL_SENT := fun h => h7 ⟨⟨h, hA⟩, h5⟩
    simp only [st_NETWORK_CONN_ESTABLISHED, st_LOGON_INITIAL_SENT, st_LOGON_INITIAL_RECV] at *
    omega

/-- the dispatch: the expected number stays; `on_message` at most once, with this very message, and
only when `is_valid_msg_num` and the number is the expected one -/
theorem processDispatch_spec (env : Env) (sr : Msg → Bool) (m : Msg) (valid : Bool) (n : Int) (c : Conn) :
    Holds (processDispatch env sr m valid n) c (fun _ c' e =>
      c'.sess.nextIn = c.sess.nextIn ∧
      (deliveries e = [] ∨
        (deliveries e = [m] ∧ valid = true ∧ n = c.sess.nextIn ∧ isApp m = true ∧ c' = c))) := by
  have quiet : ∀ {x : M Unit}, M.Rel Quiet.R x → Holds x c (fun _ c' e => c'.sess.nextIn = c.sess.nextIn ∧
      (deliveries e = [] ∨ (deliveries e = [m] ∧ valid = true ∧ n = c.sess.nextIn ∧ isApp m = true ∧ c' = c))) :=
    fun h => Holds.of_rel h fun _ _ _ hq => ⟨hq.1, Or.inl hq.2⟩
  by_cases h2 : m.mtype = mResendRequest
  · rw [processDispatch_resend env sr h2]; exact quiet ((processResend_fp env sr m).quiet rfl)
  by_cases h4 : m.mtype = mSequenceReset ∨ m.mtype = mLogon
  · rw [processDispatch_quiet env sr h4]; exact quiet (.pure ())
  by_cases h1 : m.mtype = mTestRequest
  · rw [processDispatch_testRequest env sr h1]; exact quiet ((processTestRequest_fp env m).quiet rfl)
  by_cases h0 : m.mtype = mHeartbeat
  · rw [processDispatch_heartbeat env sr h0]; exact quiet ((processHeartbeat_fp env m).quiet rfl)
  refine Holds.intro ?_
  rw [processDispatch_app env sr h2 (fun h => h4 (Or.inl h)) (fun h => h4 (Or.inr h)) h1 h0]
  refine ⟨rfl, ?_⟩
  split
  · next h => exact Or.inr ⟨rfl, h.1, h.2, isApp_iff.2 ⟨h2, (not_or.1 h4).1, (not_or.1 h4).2, h1, h0⟩, rfl⟩
  · exact Or.inl rfl

/-- how one inbound frame may move the expected number -/
def Moves (c : Conn) (m : Msg) (k : Int) : Prop :=
  k = c.sess.nextIn ∨
  (m.mtype ≠ mSequenceReset ∧ seqOf m = some c.sess.nextIn ∧ k = c.sess.nextIn + 1) ∨
  HonouredTo c m k

/-- result of one `_process_message`: `k` = expected number afterwards, `d` = messages delivered -/
def MsgOk (c : Conn) (m : Msg) (k : Int) (d : List Msg) : Prop :=
  (d = [] ∨
    (d = [m] ∧ seqOf m = some c.sess.nextIn ∧ isApp m = true ∧ m.mtype ≠ mLogout ∧
      st_LOGON_INITIAL_RECV ≤ c.state ∧ k = c.sess.nextIn + 1)) ∧
  Moves c m k

/-- the head ended without reaching the dispatch, or the dispatch ran with `is_valid_msg_num = False` -/
theorem msgOk_of_head {c : Conn} {m : Msg} {r : Except Exc (Option (Bool × Int))} {c1 : Conn}
    {e1 : List Effect} (hh : HeadPost c m r c1 e1) : MsgOk c m c1.sess.nextIn [] := by
  obtain ⟨⟨-, hk, hh, -⟩, -⟩ := hh
  refine ⟨Or.inl rfl, ?_⟩
  by_cases hm : m.mtype = mSequenceReset
  · exact (hh hm).elim Or.inl fun h => Or.inr (Or.inr h)
  · exact Or.inl (hk hm)

/-- the dispatch ran with `is_valid_msg_num = True`, leaving `c2`, and `_finalize_message` after it -/
theorem msgOk_of_final {c : Conn} {m : Msg} {n : Int} {c1 c2 : Conn} {e1 : List Effect}
    {d : List Msg} {k : Int}
    (hh : HeadPost c m (.ok (some (true, n))) c1 e1)
    (h2 : c2.sess.nextIn = c1.sess.nextIn)
    (hd : d = [] ∨ (d = [m] ∧ n = c1.sess.nextIn ∧ isApp m = true))
    (hk : k = match acceptedNum c2 m with | some a => a + 1 | none => c2.sess.nextIn) :
    MsgOk c m k d := by
  obtain ⟨⟨-, hq, -, hr⟩, hg⟩ := hh
  obtain ⟨hs, hv, hlo, h4⟩ := hr true n rfl
  obtain ⟨h3, h8⟩ := hg _ rfl
  by_cases hm : m.mtype = mSequenceReset
  · obtain ⟨-, n', hs', hnw, hgf⟩ := h4 hm
    have hk' : k = c1.sess.nextIn := by
      simpa only [acceptedNum, hm, hnw, if_true, Option.map_some, Int.sub_add_cancel] using hk
    constructor
    · rcases hd with h | ⟨_, _, happ⟩
      · exact Or.inl h
      · exact absurd hm (isApp_iff.1 happ).2.1
    · exact Or.inr (Or.inr ⟨hm, n', hs', hk' ▸ hnw, hk' ▸ hgf⟩)
  · have hc := hq hm
    simp only [acceptedNum, hm, hs, if_false, Option.bind_some, h2, hc] at hk
    by_cases hn : n = c.sess.nextIn
    · simp only [hn, if_true] at hk
      refine ⟨hd.imp id fun ⟨hd, _, happ⟩ =>
        ⟨hd, hn ▸ hs, happ, hlo h3, h8 (isApp_iff.1 happ).2.2.1 (hlo h3), hk⟩, Or.inr (Or.inl ⟨hm, hn ▸ hs, hk⟩)⟩
    · simp only [hn, if_false] at hk
      exact ⟨hd.imp id fun ⟨_, hn', _⟩ => absurd (hn'.trans hc) hn, Or.inl hk⟩

theorem msgOk_quiet {c c' : Conn} {m : Msg} {e : List Effect} (h : Quiet.R c c' e) :
    MsgOk c m c'.sess.nextIn (deliveries e) := by
  rw [h.2]
  exact ⟨Or.inl rfl, Or.inl h.1⟩

@[simp] theorem deliveries_caught {α} (r : Except Exc α) : deliveries (caught r) = [] := by
  cases r <;> rfl

/-- `_process_message` by stages, for a postcondition `Q` of the whole: a frame that fails
`_validate_integrity` raises from there or ends in `disconnect`; otherwise `H` is what is known of the head,
the dispatch runs from whatever the head left, `_finalize_message` after it iff `is_valid_msg_num`; an exception
of the head or of the dispatch is logged (`caught`). -/
theorem processMessage_stages {env : Env} {sr : Msg → Bool} {m : Msg} {c : Conn} {Q : Post Unit}
    {H : Post (Option (Bool × Int))}
    (hbad : (validateIntegrity m c).res ≠ .ok .good →
      (∀ ex, Q (.error ex) c []) ∧ ∀ lo, Holds (disconnect env st_DISCONNECTED_BROKEN_CONN lo) c Q)
    (hhead : Holds (processHead env m) c H)
    (hstop : ∀ r c1 e1, H r c1 e1 → (∀ p, r ≠ .ok (some p)) → Q (.ok ()) c1 (e1 ++ caught r))
    (hdisp : ∀ valid n c1 e1, H (.ok (some (valid, n))) c1 e1 →
      Holds (processDispatch env sr m valid n) c1 fun r2 c2 e2 =>
        if valid = true then
          Holds (finalizeMessage env m) c2 fun r3 c3 e3 => Q r3 c3 (e1 ++ (e2 ++ caught r2) ++ e3)
        else Q (.ok ()) c2 (e1 ++ (e2 ++ caught r2))) :
    Holds (processMessage env sr m) c Q := by
  have hi : Holds (validateIntegrity m) c fun r c' e => r = (validateIntegrity m c).res ∧ c' = c ∧ e = [] :=
    Holds.intro ⟨rfl, ((validateIntegrity_same m).out c).symm⟩
  unfold processMessage swallow
  wp_simp
  refine Holds.of_spec hi ?_ ?_
  · rintro integ c0 e0 ⟨hr, rfl, rfl⟩
    cases integ with
    | critical => exact (hbad (by rw [← hr]; simp)).2 none
    | reason text => exact (hbad (by rw [← hr]; simp)).2 (some text)
    | good =>
      wp_simp
      refine Holds.of_spec hhead ?_ ?_
      · rintro head c1 e1 hh
        cases head with
        | none => simpa [caught] using hstop _ _ _ hh (by simp)
        | some p =>
          obtain ⟨valid, n⟩ := p
          wp_simp
          refine (hdisp valid n c1 e1 hh).mono fun r2 c2 e2 h => ?_
          cases r2 <;> cases valid <;> simpa [caught, List.append_assoc] using h
      · rintro ex c1 e1 hh
        simpa [caught] using hstop _ _ _ hh (by simp)
  · rintro ex c0 e0 ⟨hr, rfl, rfl⟩
    exact (hbad (by rw [← hr]; simp)).1 ex

theorem processMessage_spec (env : Env) (sr : Msg → Bool) (m : Msg) (c : Conn) :
    Holds (processMessage env sr m) c fun _ c' e => MsgOk c m c'.sess.nextIn (deliveries e) := by
  refine processMessage_stages (fun _ => ⟨fun _ => msgOk_quiet (Quiet.refl c), fun lo =>
    Holds.of_rel ((disconnect_fp _ _ lo).quiet rfl) fun _ _ _ => msgOk_quiet⟩) (processHead_path env m c) ?_ ?_
  · intro r c1 e1 hh _
    simpa [hh.1.1] using msgOk_of_head hh
  · intro valid n c1 e1 hh
    refine (processDispatch_spec env sr m valid n c1).mono fun r2 c2 e2 ⟨hk2, hd2⟩ => ?_
    split
    · next hv =>
      refine (finalizeMessage_spec env m c2).mono ?_
      rintro r3 c3 e3 ⟨hd3, -, hk3, -⟩
      have := msgOk_of_final (d := deliveries e2) (hv ▸ hh) hk2
        (hd2.imp id fun ⟨h, _, h2, h3, _⟩ => ⟨h, h2, h3⟩) hk3
      simpa [hh.1.1, hd3] using this
    · next hv =>
      have := msgOk_of_head hh
      rw [← hk2] at this
      simpa [hh.1.1, hd2.resolve_right fun h => hv h.2.1] using this

end AsyncFix.Session
