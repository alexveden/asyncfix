/-
Building blocks of the validator model (C15): outcomes and their sequencing, `lookupMem` as `List.find?` with the
position given by `idxOf`, `checkRequired`, and member lists with distinct tags (`membersND`), in which a node is
acceptable to some member iff it is acceptable to THE member with its tag (`nodeOk_of_mem`).
-/
import AsyncFix.Model.SchemaSpec
namespace AsyncFix.Model.Schema

theorem andThen_ok {a b : Outcome} : a.andThen b = .ok ↔ a = .ok ∧ b = .ok := by
  cases a <;> simp [Outcome.andThen]

/-- accepted, or refused with the library's own error.  Every leaf of the validator is `ok` or `raised msgError` and
sequencing keeps that, so every outcome of every validator function is of this kind, whatever the dictionary. -/
def Outcome.NoForeign (o : Outcome) : Prop := ∀ k, o = .raised k → k = .msgError

theorem Outcome.NoForeign.ok : Outcome.ok.NoForeign := nofun

theorem Outcome.NoForeign.err : (Outcome.raised .msgError).NoForeign := fun _ h => by cases h; rfl

theorem Outcome.NoForeign.andThen {a b : Outcome} (ha : a.NoForeign) (hb : b.NoForeign) : (a.andThen b).NoForeign := by
  cases a with
  | ok => exact hb
  | raised k => exact ha

theorem Outcome.NoForeign.ite {c : Prop} [Decidable c] {a b : Outcome} (ha : a.NoForeign) (hb : b.NoForeign) :
    (if c then a else b).NoForeign := by
  split <;> assumption

theorem ite_not_ok {c : Bool} {k : Kind} {o : Outcome} :
    (if !c then Outcome.raised k else o) = .ok ↔ c = true ∧ o = .ok := by
  cases c <;> simp

theorem strOutcome_ok {vv : Tag → String → Bool} {t : Tag} {s : String} :
    strOutcome vv t s = .ok ↔ s ≠ "" ∧ vv t s = true := by
  unfold strOutcome
  by_cases h : s = "" <;> by_cases h2 : vv t s = true <;> simp [h, h2]

theorem strOutcome_kind (vv : Tag → String → Bool) (t : Tag) (s : String) : (strOutcome vv t s).NoForeign :=
  .ite .err (.ite .ok .err)

theorem hasTag_iff {ns : List Node} {t : Tag} : hasTag ns t = true ↔ t ∈ nodeTags ns := by
  simp [hasTag, nodeTags]

theorem lookupMem_eq (gm : List Member) (t : Tag) :
    lookupMem gm t = (gm.find? fun m => m.tag = t).map fun m => (idxOf gm t, m) := by
  induction gm with
  | nil => rfl
  | cons m ms ih =>
    rw [lookupMem, ih]
    by_cases h : m.tag = t
    · simp [h, idxOf, memberTags]
    · have hb : (m.tag == t) = false := by simp [h]
      have : idxOf (m :: ms) t = idxOf ms t + 1 := by simp [idxOf, memberTags, List.idxOf_cons, hb]
      cases hf : ms.find? (fun m => m.tag = t) <;> simp [h, hf, this]

theorem lookupMem_none {gm : List Member} {t : Tag} :
    lookupMem gm t = none ↔ t ∉ memberTags gm := by
  simp [lookupMem_eq, memberTags]

theorem lookupMem_some {gm : List Member} {t : Tag} {i : Nat} {m : Member} :
    lookupMem gm t = some (i, m) → m ∈ gm ∧ m.tag = t ∧ i = idxOf gm t := by
  rw [lookupMem_eq, Option.map_eq_some_iff]
  rintro ⟨x, hf, ⟨⟩⟩
  exact ⟨List.mem_of_find?_eq_some hf, by simpa using List.find?_some hf, rfl⟩

/-- the left side is the `has_first_tag` test as `validateGroup` writes it -/
theorem hasFirst_iff {gm : List Member} {it : List Node} :
    (it.any fun n => (lookupMem gm n.tag).any fun p => p.1 = 0) = true ↔
      ∃ m0 rest, gm = m0 :: rest ∧ m0.tag ∈ nodeTags it := by
  cases gm with
  | nil => simp [lookupMem]
  | cons m0 rest =>
    have : ∀ t, ((lookupMem (m0 :: rest) t).any fun p => p.1 = 0) = decide (m0.tag = t) := by
      intro t
      rw [lookupMem]
      by_cases h : m0.tag = t
      · simp [h]
      · cases lookupMem rest t <;> simp [h]
    simp only [List.any_eq_true, this, decide_eq_true_eq, nodeTags, List.mem_map]
    constructor
    · rintro ⟨n, hn, h⟩; exact ⟨m0, rest, rfl, n, hn, h.symm⟩
    · rintro ⟨_, _, ⟨⟩, n, hn, h⟩; exact ⟨n, hn, h.symm⟩

-- the part of `membersWF` that needs no dictionary (`wf_nd`): member tags distinct at every level

mutual
def membersND : List Member → Bool
  | [] => true
  | m :: rest => memberND m && !(memberTags rest).contains m.tag && membersND rest
def memberND : Member → Bool
  | .field _ _ => true
  | .group _ _ gm => membersND gm
end

theorem membersND_cons {m : Member} {rest : List Member} :
    membersND (m :: rest) = true ↔ memberND m = true ∧ m.tag ∉ memberTags rest ∧ membersND rest = true := by
  rw [membersND]; simp [Bool.and_eq_true, and_assoc]

theorem membersND_mem {gm : List Member} (h : membersND gm = true) {m : Member} (hm : m ∈ gm) :
    memberND m = true := by
  induction gm with
  | nil => cases hm
  | cons x xs ih =>
    obtain ⟨h1, _, h3⟩ := membersND_cons.mp h
    rcases List.mem_cons.mp hm with rfl | hm
    · exact h1
    · exact ih h3 hm

theorem membersND_unique {gm : List Member} (h : membersND gm = true) {m m' : Member}
    (hm : m ∈ gm) (hm' : m' ∈ gm) (ht : m.tag = m'.tag) : m = m' := by
  induction gm with
  | nil => cases hm
  | cons x xs ih =>
    obtain ⟨_, h2, h3⟩ := membersND_cons.mp h
    have key : ∀ y, y ∈ xs → y.tag ≠ x.tag := fun y hy e =>
      h2 (e ▸ List.mem_map.mpr ⟨y, hy, rfl⟩)
    rcases List.mem_cons.mp hm with e | hm1 <;> rcases List.mem_cons.mp hm' with e' | hm1'
    · rw [e, e']
    · rw [e] at ht; exact absurd ht.symm (key _ hm1')
    · rw [e'] at ht; exact absurd ht (key _ hm1)
    · exact ih h3 hm1 hm1'

theorem find_of_mem {gm : List Member} (h : membersND gm = true) {m : Member} (hm : m ∈ gm) :
    gm.find? (fun x => x.tag = m.tag) = some m := by
  cases hf : gm.find? (fun x => x.tag = m.tag) with
  | none => simpa using List.find?_eq_none.mp hf m hm
  | some x =>
    rw [membersND_unique h (List.mem_of_find?_eq_some hf) hm (by simpa using List.find?_some hf)]

theorem lookupMem_of_mem {gm : List Member} (h : membersND gm = true) {m : Member} (hm : m ∈ gm) :
    lookupMem gm m.tag = some (idxOf gm m.tag, m) := by
  rw [lookupMem_eq, find_of_mem h hm]; rfl

theorem NodeOk.tag_eq {vv : Tag → String → Bool} {mem : Member} {n : Node} (h : NodeOk vv mem n) :
    mem.tag = n.tag := by
  cases h <;> rfl

theorem nodeOk_of_mem {vv : Tag → String → Bool} {L : List Member} (hnd : membersND L = true)
    {x : Member} {n : Node} (hx : x ∈ L) (ht : x.tag = n.tag) :
    (∃ mem, mem ∈ L ∧ NodeOk vv mem n) ↔ NodeOk vv x n :=
  ⟨fun ⟨_, hm, hok⟩ => membersND_unique hnd hm hx (hok.tag_eq.trans ht.symm) ▸ hok,
    fun h => ⟨x, hx, h⟩⟩

theorem checkRequired_ok {ns : List Node} {gm : List Member} :
    checkRequired ns gm = .ok ↔ ∀ mem, mem ∈ gm → mem.req = true → mem.tag ∈ nodeTags ns := by
  induction gm with
  | nil => simp [checkRequired]
  | cons m rest ih =>
    rw [checkRequired, List.forall_mem_cons, ← ih, ← hasTag_iff]
    cases m.req <;> cases hasTag ns m.tag <;> simp

theorem checkRequired_kind (ns : List Node) (gm : List Member) : (checkRequired ns gm).NoForeign := by
  induction gm with
  | nil => exact .ok
  | cons m rest ih => exact .ite .err ih

end AsyncFix.Model.Schema
