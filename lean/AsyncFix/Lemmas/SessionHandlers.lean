import AsyncFix.Lemmas.SessionRel
import AsyncFix.Lemmas.SessionOwn
import AsyncFix.Lemmas.SessionParts

/-!
What each handler of the session model returns on a connection and a message of a known class, stated
once, roughly in the order of the model files.  Every equation unfolds one handler only: what a callee (`sendMsg`,
`disconnect`, `processLogon`, …) returns is a hypothesis, so the equations compose by rewriting.
A field of a message is given as `m.get? t = some v`, a number in it as `pyInt v = some n`.
The handlers with join points (`processHead`, `processLogon`, `processSeqreset`) are evaluated over their cuts of
`SessionParts`: the front on the connection, then what the named tail returns.

Names: `h_apply` = all outcomes of `h` as an `if` tree; `h_<case>` = one path; `processHead_<class of message>`; `recv_of_*` =
the same for the entry point.  No equation here: `tickBody` (→ SessionWatchdog), `resendLoop` and `processResend` beyond
`processResend_ignored` (→ SessionResendLoop), `connectedM`, `resetSeqNum`.
States in hypothesis names (`Generated/ConnEnum`): 3 DISCONNECTED_BROKEN_CONN (`h3 : 3 < c.state` = connected), 6
NETWORK_CONN_ESTABLISHED, 7 LOGON_INITIAL_SENT, 8 LOGON_INITIAL_RECV, 10 RESENDREQ_HANDLING, 11 RECV_SEQNUM_TOO_HIGH,
12 RESENDREQ_AWAITING (`_aw12`, `h12`), 17 ACTIVE.
Vocabulary every later statement is written in: `setState`, `caught`, `discReset` / `discTail`, `logonState`, `promoted` /
`stamped`, and for the connection around a send: `gateRefuses` / `afterGate c` / `gateEff` (what the state checks refuse,
leave, emit), `bump c` (the number taken), `sent c j` (… and the journal `j` afterwards), `sentFresh c f` (`sent` with the frame
`f` appended under the number: `sentFresh_eq_sent`).  Elsewhere: `afterLogout c j = sent (afterGate c) j` (SessionInteg), `gapConn`
(SessionInGap: `sent` of the watermarked connection, RESENDREQ_AWAITING).
-/
namespace AsyncFix.Session

open AsyncFix.Generated AsyncFix.Generated.ConnEnum

variable {α : Type} {env : Env} {sr : Msg → Bool} {c c1 c2 : Conn} {m : Msg} {v : String} {n : Int}
  {e1 e2 : List Effect}

def setState (c : Conn) (s : Nat) : Conn :=
  { c with state := s, wasActive := c.wasActive || s == st_ACTIVE }

theorem setState_of_ne {s : Nat} (h : s ≠ st_ACTIVE) (c : Conn) : setState c s = { c with state := s } := by
  simp [setState, h]

theorem stateSet_apply (s : Nat) (c : Conn) : stateSet s c = ⟨.ok (), setState c s, [.onState s]⟩ := rfl

theorem stateSet_bind {β : Type} (s : Nat) (f : Unit → M β) (c : Conn) :
    (stateSet s >>= f) c = Out.pre [.onState s] (f () (setState c s)) :=
  M.bind_pre (stateSet_apply s c)

theorem sendGate_apply (m : Msg) (c : Conn) :
    sendGate m c =
      if c.state < st_NETWORK_CONN_ESTABLISHED then ⟨.error .connection, c, []⟩
      else if c.state = st_NETWORK_CONN_ESTABLISHED then
        if m.mtype ≠ mLogon ∧ m.mtype ≠ mLogout then ⟨.error .connection, c, []⟩
        else ⟨.ok (), { setState c st_LOGON_INITIAL_SENT with role := roleInitiator }, [.onState st_LOGON_INITIAL_SENT]⟩
      else if c.role = roleInitiator ∧ c.state = st_LOGON_INITIAL_SENT ∧ m.mtype ≠ mLogout then
        ⟨.error .connection, c, []⟩
      else ⟨.ok (), c, []⟩ := by
  unfold sendGate
  simp only [M.get_bind_apply, M.ite_apply, M.throw_apply, M.pure_apply, beq_iff_eq, bne_iff_ne, Bool.and_eq_true,
    ne_eq, and_assoc]
  rfl

theorem sendGate_pass (h6 : st_NETWORK_CONN_ESTABLISHED < c.state)
    (h7 : ¬ (c.role = roleInitiator ∧ c.state = st_LOGON_INITIAL_SENT ∧ m.mtype ≠ mLogout)) :
    sendGate m c = ⟨.ok (), c, []⟩ := by
  rw [sendGate_apply, if_neg (Nat.lt_asymm h6), if_neg (Nat.ne_of_gt h6), if_neg h7]

theorem sendGate_conn (h6 : c.state = st_NETWORK_CONN_ESTABLISHED) (hm : m.mtype = mLogon ∨ m.mtype = mLogout) :
    sendGate m c =
      ⟨.ok (), { setState c st_LOGON_INITIAL_SENT with role := roleInitiator }, [.onState st_LOGON_INITIAL_SENT]⟩ := by
  rw [sendGate_apply, if_neg (by rw [h6]; exact Nat.lt_irrefl _), if_pos h6,
    if_neg (fun h => hm.elim h.1 h.2)]

theorem sendGate_refuse
    (h : c.state < st_NETWORK_CONN_ESTABLISHED ∨
      (c.state = st_NETWORK_CONN_ESTABLISHED ∧ m.mtype ≠ mLogon ∧ m.mtype ≠ mLogout) ∨
      (c.state = st_LOGON_INITIAL_SENT ∧ c.role = roleInitiator ∧ m.mtype ≠ mLogout)) :
    sendGate m c = ⟨.error .connection, c, []⟩ := by
  rw [sendGate_apply]
  rcases h with h | ⟨h, h'⟩ | ⟨h, hr, h'⟩
  · rw [if_pos h]
  · rw [if_neg (by rw [h]; exact Nat.lt_irrefl _), if_pos h, if_pos h']
  · rw [if_neg (by rw [h]; decide), if_neg (by rw [h]; decide), if_pos ⟨hr, h, h'⟩]

/-- `allocate_next_num_out()` happened -/
def bump (c : Conn) : Conn := { c with sess := { c.sess with nextOut := c.sess.nextOut + 1 } }

/-- the number is consumed and the frame journaled: the journal afterwards given -/
def sent (c : Conn) (j : Journal) : Conn := { bump c with journal := j }

theorem encodeSeq_fresh (h4 : m.mtype ≠ mSequenceReset) (hpd : (m.get? tPossDupFlag).getD "N" ≠ "Y") (c : Conn) :
    encodeSeq m c = ⟨.ok c.sess.nextOut, bump c, []⟩ := by
  unfold encodeSeq
  rw [if_neg (by simpa using h4), if_neg (by simpa using hpd)]
  rfl

/-- SequenceReset / PossDupFlag=Y: the message's own MsgSeqNum, nothing allocated -/
theorem encodeSeq_own (h : m.mtype = mSequenceReset ∨ (m.get? tPossDupFlag).getD "N" = "Y")
    (hv : m.get? tMsgSeqNum = some v) (hn : pyInt v = some n) (c : Conn) :
    encodeSeq m c = ⟨.ok n, c, []⟩ := by
  unfold encodeSeq
  by_cases h4 : m.mtype = mSequenceReset
  · simp [h4, has_of_get? hv, get_of_get? hv, M.bind_apply, M.int_apply, hn]
  · simp [h4, h.resolve_left h4, has_of_get? hv, get_of_get? hv, M.bind_apply, M.int_apply, hn]

/-- given what the number selection did (`c1` is `c` itself, or `c` with the counter moved on) -/
theorem sendCore_apply (env : Env) (m : Msg) {r : Except Exc Int} (he : encodeSeq m c = ⟨r, c1, []⟩) :
    sendCore env m c =
      if (m.mtype == mTestRequest && c.testReqId.isNone) = true then ⟨.error .connection, c, []⟩
      else match r with
        | .error ex => ⟨.error ex, c1, []⟩
        | .ok seq =>
          if (!frameLatin1 (buildFrame c1.sess env.stamp m seq)) = true then
            ⟨.error .encoding, { c1 with sess := { c1.sess with nextOut := c.sess.nextOut } }, []⟩
          else match c1.journal.persist .outbound seq (buildFrame c1.sess env.stamp m seq) with
            | none => ⟨.error .duplicateSeqNo, c1, []⟩
            | some j =>
              if (!c1.sock) = true then ⟨.error .attribute, { c1 with journal := j }, []⟩
              else ⟨.ok (), { c1 with journal := j }, [.write (buildFrame c1.sess env.stamp m seq)]⟩ := by
  unfold sendCore
  rw [M.get_bind_apply, M.ite_apply]
  split
  · rfl
  · cases r with
    | error ex => rw [M.bind_err he]
    | ok seq =>
      rw [M.bind_ok he]
      simp only [M.get_bind_apply, M.ite_apply, M.modify_bind_apply, M.throw_apply, List.nil_append]
      split
      · rfl
      · cases c1.journal.persist .outbound seq (buildFrame c1.sess env.stamp m seq) with
        | none => rfl
        | some j => simp only [M.modify_bind_apply, M.ite_apply, M.throw_apply, M.emit_apply]

/-- a message that takes the next number: the counter moves on unless the frame is not latin-1 -/
theorem sendCore_fresh (env : Env) (h4 : m.mtype ≠ mSequenceReset) (hpd : (m.get? tPossDupFlag).getD "N" ≠ "Y")
    (c : Conn) :
    sendCore env m c =
      if (m.mtype == mTestRequest && c.testReqId.isNone) = true then ⟨.error .connection, c, []⟩
      else if (!frameLatin1 (buildFrame c.sess env.stamp m c.sess.nextOut)) = true then ⟨.error .encoding, c, []⟩
      else match c.journal.persist .outbound c.sess.nextOut (buildFrame c.sess env.stamp m c.sess.nextOut) with
        | none => ⟨.error .duplicateSeqNo, bump c, []⟩
        | some j =>
          if (!c.sock) = true then ⟨.error .attribute, { bump c with journal := j }, []⟩
          else ⟨.ok (), { bump c with journal := j }, [.write (buildFrame c.sess env.stamp m c.sess.nextOut)]⟩ := by
  rw [sendCore_apply env m (encodeSeq_fresh h4 hpd c)]
  rfl

theorem sendCore_own (env : Env) (he : encodeSeq m c = ⟨.ok n, c, []⟩) :
    sendCore env m c =
      if (m.mtype == mTestRequest && c.testReqId.isNone) = true then ⟨.error .connection, c, []⟩
      else if (!frameLatin1 (buildFrame c.sess env.stamp m n)) = true then ⟨.error .encoding, c, []⟩
      else match c.journal.persist .outbound n (buildFrame c.sess env.stamp m n) with
        | none => ⟨.error .duplicateSeqNo, c, []⟩
        | some j =>
          if (!c.sock) = true then ⟨.error .attribute, { c with journal := j }, []⟩
          else ⟨.ok (), { c with journal := j }, [.write (buildFrame c.sess env.stamp m n)]⟩ := by
  rw [sendCore_apply env m he]

/-- the connection after a freshly numbered frame was journaled: counter moved on, the frame appended under the
number it took, the stored counter set to it -/
def sentFresh (c : Conn) (f : Msg) : Conn :=
  { c with sess := { c.sess with nextOut := c.sess.nextOut + 1 },
           journal := { c.journal with out := c.journal.out ++ [(c.sess.nextOut, f)], outSeq := c.sess.nextOut } }

theorem sentFresh_eq_sent (c : Conn) (f : Msg) :
    sentFresh c f = sent c { c.journal with out := c.journal.out ++ [(c.sess.nextOut, f)], outSeq := c.sess.nextOut } :=
  rfl

/-- a message that takes the next number, every outbound row below the counter (so that the journal cannot
refuse): all outcomes -/
theorem sendCore_new_below (env : Env) (h4 : m.mtype ≠ mSequenceReset) (hpd : (m.get? tPossDupFlag).getD "N" ≠ "Y")
    (hlt : Rows.AllLt c.sess.nextOut c.journal.out) :
    sendCore env m c =
      if (m.mtype == mTestRequest && c.testReqId.isNone) = true then ⟨.error .connection, c, []⟩
      else if (!frameLatin1 (buildFrame c.sess env.stamp m c.sess.nextOut)) = true then ⟨.error .encoding, c, []⟩
      else if (!c.sock) = true then
        ⟨.error .attribute, sentFresh c (buildFrame c.sess env.stamp m c.sess.nextOut), []⟩
      else ⟨.ok (), sentFresh c (buildFrame c.sess env.stamp m c.sess.nextOut),
        [.write (buildFrame c.sess env.stamp m c.sess.nextOut)]⟩ := by
  rw [sendCore_fresh env h4 hpd c, persist_out_of_insert _ _ _ _ (Rows.insert_append _ _ _ hlt)]
  rfl

/-- the outcome in which the frame goes out, given the number `Codec.encode` chose (`c1` is `c`, or `c` with the
counter moved on) and the journal after the row was stored -/
theorem sendCore_ok (env : Env) {seq : Int} {j : Journal} (he : encodeSeq m c = ⟨.ok seq, c1, []⟩)
    (ht : (m.mtype == mTestRequest && c.testReqId.isNone) = false)
    (hl : frameLatin1 (buildFrame c1.sess env.stamp m seq) = true)
    (hj : c1.journal.persist .outbound seq (buildFrame c1.sess env.stamp m seq) = some j) (hs : c1.sock = true) :
    sendCore env m c = ⟨.ok (), { c1 with journal := j }, [.write (buildFrame c1.sess env.stamp m seq)]⟩ := by
  rw [sendCore_apply env m he, ht]
  simp only [Bool.false_eq_true, if_false, hl, Bool.not_true, hj, hs]

/-- … when the journal takes the frame at the end or between two rows (`hins`) -/
theorem sendCore_journaled (env : Env) {seq : Int} {J : Rows} (he : encodeSeq m c = ⟨.ok seq, c1, []⟩)
    (h1 : m.mtype ≠ mTestRequest) (hl : frameLatin1 (buildFrame c1.sess env.stamp m seq) = true)
    (hins : Rows.insert seq (buildFrame c1.sess env.stamp m seq) c1.journal.out = some J) (hs : c1.sock = true) :
    sendCore env m c =
      ⟨.ok (), { c1 with journal := { c1.journal with out := J, outSeq := seq } },
        [.write (buildFrame c1.sess env.stamp m seq)]⟩ :=
  sendCore_ok env he (by simp [h1]) hl (persist_out_of_insert _ _ _ _ hins) hs

theorem sendMsg_pass (env : Env) (h6 : st_NETWORK_CONN_ESTABLISHED < c.state)
    (h7 : ¬ (c.role = roleInitiator ∧ c.state = st_LOGON_INITIAL_SENT ∧ m.mtype ≠ mLogout)) :
    sendMsg env m c = sendCore env m c := by
  rw [sendMsg, M.bind_ok (sendGate_pass h6 h7)]
  rfl

theorem sendMsg_refused (env : Env) (c : Conn) (m : Msg)
    (h : c.state < st_NETWORK_CONN_ESTABLISHED ∨
      (c.state = st_NETWORK_CONN_ESTABLISHED ∧ m.mtype ≠ mLogon ∧ m.mtype ≠ mLogout) ∨
      (c.state = st_LOGON_INITIAL_SENT ∧ c.role = roleInitiator ∧ m.mtype ≠ mLogout)) :
    sendMsg env m c = ⟨.error .connection, c, []⟩ :=
  M.bind_err (sendGate_refuse h)

/-- the state refusals of `send_msg` (FIXConnectionError before anything is touched) -/
def gateRefuses (c : Conn) (m : Msg) : Bool :=
  decide (c.state < st_NETWORK_CONN_ESTABLISHED) ||
  (c.state == st_NETWORK_CONN_ESTABLISHED && (m.mtype != mLogon && m.mtype != mLogout)) ||
  (c.state != st_NETWORK_CONN_ESTABLISHED &&
    (c.role == roleInitiator && c.state == st_LOGON_INITIAL_SENT && m.mtype != mLogout))

/-- NETWORK_CONN_ESTABLISHED → LOGON_INITIAL_SENT / INITIATOR, before encoding -/
def afterGate (c : Conn) : Conn :=
  if c.state == st_NETWORK_CONN_ESTABLISHED then
    { c with state := st_LOGON_INITIAL_SENT,
             wasActive := c.wasActive || st_LOGON_INITIAL_SENT == st_ACTIVE, role := roleInitiator }
  else c

def gateEff (c : Conn) : List Effect :=
  if c.state == st_NETWORK_CONN_ESTABLISHED then [.onState st_LOGON_INITIAL_SENT] else []

/-! the gate touches state, role and `wasActive` only -/

theorem afterGate_sess (c : Conn) : (afterGate c).sess = c.sess := by unfold afterGate; split <;> rfl
theorem afterGate_journal (c : Conn) : (afterGate c).journal = c.journal := by unfold afterGate; split <;> rfl
theorem afterGate_sock (c : Conn) : (afterGate c).sock = c.sock := by unfold afterGate; split <;> rfl
theorem afterGate_testReqId (c : Conn) : (afterGate c).testReqId = c.testReqId := by unfold afterGate; split <;> rfl

theorem afterGate_state (c : Conn) :
    (afterGate c).state = if c.state = st_NETWORK_CONN_ESTABLISHED then st_LOGON_INITIAL_SENT else c.state := by
  unfold afterGate
  by_cases h : c.state = st_NETWORK_CONN_ESTABLISHED <;> simp [h]

theorem afterGate_alive (c : Conn) (h : st_DISCONNECTED_BROKEN_CONN < c.state) :
    st_DISCONNECTED_BROKEN_CONN < (afterGate c).state := by
  rw [afterGate_state]; split
  · decide
  · exact h

theorem sendGate_eq (m : Msg) (c : Conn) :
    sendGate m c =
      if gateRefuses c m then ⟨.error .connection, c, []⟩ else ⟨.ok (), afterGate c, gateEff c⟩ := by
  rw [sendGate_apply]
  unfold gateRefuses afterGate gateEff setState
  by_cases h1 : c.state < st_NETWORK_CONN_ESTABLISHED
  · simp [h1]
  · by_cases h2 : c.state = st_NETWORK_CONN_ESTABLISHED
    · by_cases h3 : m.mtype ≠ mLogon ∧ m.mtype ≠ mLogout <;> simp [h2, h3]
    · by_cases h3 : c.role = roleInitiator ∧ c.state = st_LOGON_INITIAL_SENT ∧ m.mtype ≠ mLogout
      · obtain ⟨hr, hs, hm⟩ := h3
        have e1 : ¬ st_LOGON_INITIAL_SENT < st_NETWORK_CONN_ESTABLISHED := by decide
        have e2 : st_LOGON_INITIAL_SENT ≠ st_NETWORK_CONN_ESTABLISHED := by decide
        simp [hr, hs, hm, e1, e2]
      · have h3' : c.role = roleInitiator → c.state = st_LOGON_INITIAL_SENT → m.mtype = mLogout :=
          fun a b => Decidable.byContradiction fun h => h3 ⟨a, b, h⟩
        simpa [h1, h2, h3] using h3'

/-- `sendMsg_pass`, `sendMsg_refused` and the first-message case in one: all outcomes of `send_msg` -/
theorem sendMsg_eq (env : Env) (m : Msg) (c : Conn) :
    sendMsg env m c =
      if gateRefuses c m then ⟨.error .connection, c, []⟩
      else Out.pre (gateEff c) (sendCore env m (afterGate c)) := by
  unfold sendMsg
  by_cases h : gateRefuses c m = true
  · rw [if_pos h, M.bind_err (by rw [sendGate_eq, if_pos h])]
  · rw [if_neg h, M.bind_pre (by rw [sendGate_eq, if_neg h])]

/-- the id is recorded before the send -/
theorem sendTestReq_apply (env : Env) (c : Conn) :
    sendTestReq env c =
      if c.testReqId.isSome = true then ⟨.error .connection, c, []⟩
      else sendMsg env (testRequestMsg env) { c with testReqId := some env.secs } := by
  unfold sendTestReq
  rw [M.get_bind_apply, M.ite_apply]
  rfl

theorem swallow_apply (d : α) (x : M α) (c : Conn) :
    swallow d x c = match x c with
      | ⟨.ok a, c1, e1⟩ => ⟨.ok a, c1, e1⟩
      | ⟨.error ex, c1, e1⟩ => ⟨.ok d, c1, e1 ++ [.caught ex]⟩ := by
  rw [swallow, M.tryCatch_apply]
  rfl

/-- the log entry of a swallowed outcome -/
def caught : Except Exc α → List Effect
  | .ok _ => []
  | .error ex => [.caught ex]

theorem swallow_unit {x : M Unit} {r : Except Exc Unit} (h : x c = ⟨r, c1, e1⟩) :
    swallow () x c = ⟨.ok (), c1, e1 ++ caught r⟩ := by
  rw [swallow_apply, h]
  cases r with
  | ok _ => simp [caught]
  | error _ => rfl

theorem of_swallow {x : M Unit} (hd : swallow () x c = ⟨.ok (), c1, e1⟩) :
    ∃ r e0, x c = ⟨r, c1, e0⟩ ∧ e1 = e0 ++ caught r := by
  rcases hx : x c with ⟨r, c', e0⟩
  rw [swallow_unit hx] at hd
  injection hd with _ h2 h3
  exact ⟨r, e0, by rw [h2], h3.symm⟩

theorem swallow_ok {α : Type} {d : α} {x : M α} {c c1 : Conn} {a : α} {e1 : List Effect}
    (h : x c = ⟨.ok a, c1, e1⟩) : swallow d x c = ⟨.ok a, c1, e1⟩ := by rw [swallow_apply, h]

theorem swallow_err {α : Type} {d : α} {x : M α} {c c1 : Conn} {ex : Exc} {e1 : List Effect}
    (h : x c = ⟨.error ex, c1, e1⟩) : swallow d x c = ⟨.ok d, c1, e1 ++ [.caught ex]⟩ := by rw [swallow_apply, h]

/-- the watchdog fields `disconnect` resets first -/
def discReset (c : Conn) : Conn := { c with testReqId := none, lastTime := 0, maxResend := 0 }

/-- the part of `disconnect` after the optional Logout: close, forget the transport, state, hook -/
def discTail (c1 : Conn) (d : Nat) : Conn × List Effect :=
  ({ c1 with sock := false, state := d, wasActive := c1.wasActive || d == st_ACTIVE },
   (if c1.sock then [Effect.closeSocket] else []) ++ [.onState d, .onDisconnect])

variable {d : Nat}

@[simp] theorem discTail_state (c : Conn) (d : Nat) : (discTail c d).1.state = d := rfl
@[simp] theorem discTail_sock (c : Conn) (d : Nat) : (discTail c d).1.sock = false := rfl
@[simp] theorem discTail_sess (c : Conn) (d : Nat) : (discTail c d).1.sess = c.sess := rfl
@[simp] theorem discTail_journal (c : Conn) (d : Nat) : (discTail c d).1.journal = c.journal := rfl

theorem discTail_eff (c : Conn) (d : Nat) :
    (discTail c d).2 = if c.sock then [.closeSocket, .onState d, .onDisconnect] else [.onState d, .onDisconnect] := by
  unfold discTail; cases c.sock <;> rfl

theorem mem_discTail {c : Conn} {x : Effect} (h : x ∈ (discTail c d).2) :
    x = .closeSocket ∨ x = .onState d ∨ x = .onDisconnect := by
  rw [discTail_eff] at h
  split at h <;> simp at h <;> simp [h]

theorem disconnect_of_disc (env : Env) (d : Nat) (lo : Option String) (c : Conn)
    (h : c.state ≤ st_DISCONNECTED_BROKEN_CONN) :
    disconnect env d lo c = ⟨.ok (), c, []⟩ := by
  unfold disconnect
  rw [M.get_bind_apply, M.ite_apply, if_neg (Nat.not_lt.mpr h)]
  rfl

theorem disconnect_bad_target (env : Env) (d : Nat) (lo : Option String) (c : Conn)
    (h : st_DISCONNECTED_BROKEN_CONN < c.state) (hd : ¬ d ≤ st_DISCONNECTED_BROKEN_CONN) : disconnect env d lo c = ⟨.error .assertion, c, []⟩ := by
  unfold disconnect
  rw [M.get_bind_apply, M.ite_apply, if_pos h, M.bind_err (by rw [M.assert_apply, if_neg (by simpa using hd)])]

theorem disconnect_none (env : Env) (h : st_DISCONNECTED_BROKEN_CONN < c.state)
    (hd : d ≤ st_DISCONNECTED_BROKEN_CONN) :
    disconnect env d none c = ⟨.ok (), (discTail (discReset c) d).1, (discTail (discReset c) d).2⟩ := by
  unfold disconnect
  rw [M.get_bind_apply, M.ite_apply, if_pos h, M.bind_ok (by rw [M.assert_apply, if_pos (by simpa using hd)])]
  cases hs : c.sock <;> simp [M.bind_apply, stateSet_apply, setState, discTail, discReset, hs]

/-- with a Logout: whatever `send_msg` does with it (it sees the watchdog fields already reset), the rest follows -/
theorem disconnect_logout (env : Env) {text : String} {r : Except Exc Unit} (h : st_DISCONNECTED_BROKEN_CONN < c.state)
    (hd : d ≤ st_DISCONNECTED_BROKEN_CONN) (hsend : sendMsg env (logoutMsg text) (discReset c) = ⟨r, c1, e1⟩) :
    disconnect env d (some text) c = ⟨.ok (), (discTail c1 d).1, e1 ++ caught r ++ (discTail c1 d).2⟩ := by
  unfold discReset at hsend
  unfold disconnect
  rw [M.get_bind_apply, M.ite_apply, if_pos h, M.bind_ok (by rw [M.assert_apply, if_pos (by simpa using hd)]),
    M.modify_bind_apply]
  dsimp only
  rw [M.bind_ok (swallow_unit hsend)]
  cases hs : c1.sock <;> simp [M.bind_apply, stateSet_apply, setState, discTail, hs]

theorem validateIntegrity_good (h8 : m.get? tBeginString = some Proto.beginString)
    (h49 : m.get? tSenderCompID = some c.sess.target) (h56 : m.get? tTargetCompID = some c.sess.sender)
    (hv : m.get? tMsgSeqNum = some v) (hn : pyInt v = some n)
    (hlow : c.sess.nextIn ≤ n ∨ m.mtype = mSequenceReset ∨
      (c.state = st_RESENDREQ_AWAITING ∧ (m.get? tPossDupFlag).getD "N" = "Y")) :
    validateIntegrity m c = ⟨.ok .good, c, []⟩ := by
  have : ¬ ((n < c.sess.nextIn ∧ ¬ m.mtype = mSequenceReset) ∧
      (¬ c.state = st_RESENDREQ_AWAITING ∨ ¬ (m.get? tPossDupFlag).getD "N" = "Y")) := by
    rcases hlow with h | h | ⟨h, h'⟩
    · exact fun hh => absurd hh.1.1 (Int.not_lt.mpr h)
    · exact fun hh => hh.1.2 h
    · exact fun hh => hh.2.elim (· h) (· h')
  simp [validateIntegrity, M.bind_apply, get_of_get? h8, get_of_get? h49, get_of_get? h56, get_of_get? hv,
    has_of_get? h49, has_of_get? h56, has_of_get? hv, hn, this]

theorem validateIntegrity_tooLow (h8 : m.get? tBeginString = some Proto.beginString)
    (h49 : m.get? tSenderCompID = some c.sess.target) (h56 : m.get? tTargetCompID = some c.sess.sender)
    (hv : m.get? tMsgSeqNum = some v) (hn : pyInt v = some n) (hlow : n < c.sess.nextIn)
    (h4 : m.mtype ≠ mSequenceReset)
    (hpd : ¬ (c.state = st_RESENDREQ_AWAITING ∧ (m.get? tPossDupFlag).getD "N" = "Y")) :
    validateIntegrity m c =
      ⟨.ok (.reason ("MsgSeqNum is too low, expected " ++ pyStr c.sess.nextIn ++ ", got " ++ pyStr n)), c, []⟩ := by
  have : ¬ c.state = st_RESENDREQ_AWAITING ∨ ¬ (m.get? tPossDupFlag).getD "N" = "Y" :=
    Classical.not_and_iff_not_or_not.mp hpd
  simp [validateIntegrity, M.bind_apply, get_of_get? h8, get_of_get? h49, get_of_get? h56, get_of_get? hv,
    has_of_get? h49, has_of_get? h56, has_of_get? hv, hn, this, hlow, h4]

theorem setSeqNum_in_apply (n : Int) (c : Conn) :
    setSeqNum none (some n) c =
      if n > 0 then ⟨.ok (), { c with sess := { c.sess with nextIn := n },
                                      journal := c.journal.setSeq c.sess.nextOut n }, []⟩
      else ⟨.error .assertion, c, []⟩ := by
  by_cases h : n > 0 <;> simp [setSeqNum, M.bind_apply, M.assert_apply, h]

theorem setSeqNum_out_apply (n : Int) (c : Conn) :
    setSeqNum (some n) none c =
      if n > 0 then ⟨.ok (), { c with sess := { c.sess with nextOut := n },
                                      journal := c.journal.setSeq n c.sess.nextIn }, []⟩
      else ⟨.error .assertion, c, []⟩ := by
  by_cases h : n > 0 <;> simp [setSeqNum, M.bind_apply, M.assert_apply, h]

/-- the state `_process_logon` ends in -/
def logonState (c : Conn) (n : Int) : Nat := if n = c.sess.nextIn then st_ACTIVE else st_RECV_SEQNUM_TOO_HIGH

theorem logonState_connected (c : Conn) (n : Int) : st_DISCONNECTED_BROKEN_CONN < logonState c n := by
  unfold logonState; split <;> decide

theorem logonTail_apply (n : Int) (c : Conn) :
    logonTail n c = ⟨.ok (), setState c (logonState c n),
      [.onState (logonState c n), .onLogon (decide (n = c.sess.nextIn))]⟩ := by
  have h9 : ¬ st_RECV_SEQNUM_TOO_HIGH = st_ACTIVE := by decide
  by_cases hk : n = c.sess.nextIn <;>
    simp [logonTail, M.bind_apply, hk, stateSet_apply, setState, logonState, h9]

theorem processLogon_initiator (env : Env) (hA : m.mtype = mLogon) (hv : m.get? tMsgSeqNum = some v)
    (hn : pyInt v = some n) (hr : c.role = roleInitiator) :
    processLogon env m c = ⟨.ok (), setState c (logonState c n),
      [.onState (logonState c n), .onLogon (decide (n = c.sess.nextIn))]⟩ := by
  have hra : ¬ roleInitiator = roleAcceptor := by decide
  rw [← logonTail_apply]
  simp [processLogon_eq, M.bind_apply, M.assert_apply, hA, hr, hra, get_of_get? hv, M.int_apply, hn]

theorem processLogon_acceptor {ev hb : String} (hA : m.mtype = mLogon) (hv : m.get? tMsgSeqNum = some v)
    (hn : pyInt v = some n) (hr : c.role = roleAcceptor) (hst : c.state = st_LOGON_INITIAL_RECV)
    (h98 : m.get? tEncryptMethod = some ev) (h108 : m.get? tHeartBtInt = some hb) (hle : c.sess.nextIn ≤ n)
    (hsend : sendMsg env (Msg.mk mLogon [(tEncryptMethod, ev), (tHeartBtInt, hb)]) c = ⟨.ok (), c1, e1⟩) :
    processLogon env m c = ⟨.ok (), setState c1 (logonState c1 n),
      e1 ++ [.onState (logonState c1 n), .onLogon (decide (n = c1.sess.nextIn))]⟩ := by
  have ha : logonAnswer env m n c = ⟨.ok (), setState c1 (logonState c1 n),
      e1 ++ [.onState (logonState c1 n), .onLogon (decide (n = c1.sess.nextIn))]⟩ := by
    simp [logonAnswer, M.bind_apply, get_of_get? h98, get_of_get? h108, M.tryCatch_apply, hsend, logonTail_apply]
  rw [← ha]
  simp [processLogon_eq, M.bind_apply, M.assert_apply, hA, hr, hst, get_of_get? hv, M.int_apply, hn,
    has_of_get? h98, has_of_get? h108, hle]

theorem processLogon_acceptor_wrong (hA : m.mtype = mLogon) (hv : m.get? tMsgSeqNum = some v) (hn : pyInt v = some n)
    (hr : c.role = roleAcceptor) (hst : c.state ≠ st_LOGON_INITIAL_RECV) :
    processLogon env m c = ⟨.error .assertion, c, []⟩ := by
  simp [processLogon_eq, M.bind_apply, M.assert_apply, hA, hr, get_of_get? hv, M.int_apply, hn, hst]

theorem checkSeqnumGaps_le (env : Env) (h : n ≤ c.sess.nextIn) : checkSeqnumGaps env n c = ⟨.ok true, c, []⟩ := by
  unfold checkSeqnumGaps
  rw [M.get_bind_apply, M.ite_apply, if_neg (Int.not_lt.mpr h)]
  rfl

theorem checkSeqnumGaps_high (env : Env) (c : Conn) (n : Int) (hlt : c.sess.nextIn < n) :
    checkSeqnumGaps env n c =
      if c.state = st_RESENDREQ_AWAITING then ⟨.ok false, c, []⟩
      else (sendMsg env (resendRequestMsg c.sess.nextIn) >>= fun _ =>
          stateSet st_RESENDREQ_AWAITING >>= fun _ => pure false) { c with maxResend := n } := by
  have hgt : n > c.sess.nextIn := hlt
  by_cases hw : c.state = st_RESENDREQ_AWAITING
  · simp [checkSeqnumGaps, M.get_bind_apply, hgt, hw]
  · have hne : (c.state != st_RESENDREQ_AWAITING) = true := by simpa [bne] using hw
    simp only [checkSeqnumGaps, M.get_bind_apply, hgt, if_true, hne, M.modify_bind_apply, if_neg hw]

theorem checkSeqnumGaps_awaiting (env : Env) (h : c.sess.nextIn < n) (hst : c.state = st_RESENDREQ_AWAITING) :
    checkSeqnumGaps env n c = ⟨.ok false, c, []⟩ := by
  rw [checkSeqnumGaps_high env c n h, if_pos hst]

theorem checkSeqnumGaps_ask (h : c.sess.nextIn < n) (hst : c.state ≠ st_RESENDREQ_AWAITING)
    (hsend : sendMsg env (resendRequestMsg c.sess.nextIn)
      { c with maxResend := n } = ⟨.ok (), c1, e1⟩) :
    checkSeqnumGaps env n c =
      ⟨.ok false, setState c1 st_RESENDREQ_AWAITING, e1 ++ [.onState st_RESENDREQ_AWAITING]⟩ := by
  rw [checkSeqnumGaps_high env c n h, if_neg hst, M.bind_ok hsend, stateSet_bind]
  rfl

theorem processLogout_apply (env : Env) (h5 : m.mtype = mLogout) (hst : st_DISCONNECTED_BROKEN_CONN < c.state) :
    processLogout env m c =
      let d := if c.wasActive then st_DISCONNECTED_WCONN_TODAY else st_DISCONNECTED_BROKEN_CONN
      ⟨.ok (), (discTail (discReset c) d).1, .onLogout m :: (discTail (discReset c) d).2⟩ := by
  have hd : (if c.wasActive then st_DISCONNECTED_WCONN_TODAY else st_DISCONNECTED_BROKEN_CONN) ≤
      st_DISCONNECTED_BROKEN_CONN := by split <;> decide
  simp [processLogout, M.bind_apply, M.assert_apply, h5, disconnect_none env hst hd]

/-- a gap fill numbered off the expectation is declined before NewSeqNo is looked at -/
theorem processSeqreset_off (h4 : m.mtype = mSequenceReset) (h123 : m.get? tGapFillFlag = some "Y")
    (hv : m.get? tMsgSeqNum = some v) (hn : pyInt v = some n) (hne : n ≠ c.sess.nextIn) :
    processSeqreset m c = ⟨.ok false, c, []⟩ := by
  simp [processSeqreset_eq, M.bind_apply, M.assert_apply, h4, h123, get_of_get? hv, M.int_apply, hn, hne]

theorem processSeqreset_skip {w : String} {nw : Int} (h4 : m.mtype = mSequenceReset)
    (h123 : m.get? tGapFillFlag = some "Y") (hw : m.get? tNewSeqNo = some w) (hnw : pyInt w = some nw)
    (hv : m.get? tMsgSeqNum = some v) (hn : pyInt v = some n) (hk : n ≠ c.sess.nextIn ∨ nw ≤ n) :
    processSeqreset m c = ⟨.ok false, c, []⟩ := by
  by_cases h : n = c.sess.nextIn
  · have hle : nw ≤ c.sess.nextIn := by rcases hk with hk | hk; exact absurd h hk; rw [← h]; exact hk
    simp [processSeqreset_eq, M.bind_apply, M.assert_apply, h4, h123, get_of_get? hv, get_of_get? hw, M.int_apply,
      hn, hnw, h, hle]
  · exact processSeqreset_off h4 h123 hv hn h

theorem processSeqreset_honoured {w : String} {nw : Int} (h4 : m.mtype = mSequenceReset)
    (h123 : m.get? tGapFillFlag = some "Y") (hw : m.get? tNewSeqNo = some w) (hnw : pyInt w = some nw)
    (hv : m.get? tMsgSeqNum = some v) (hn : pyInt v = some n) (hk : n = c.sess.nextIn) (h0 : 0 < n) (hlt : n < nw) :
    processSeqreset m c =
      ⟨.ok true, { c with sess := { c.sess with nextIn := nw },
                          journal := (c.journal.setSeq c.sess.nextOut n).setSeq c.sess.nextOut nw }, []⟩ := by
  have hle : ¬ nw ≤ c.sess.nextIn := by omega
  have hpos : 0 < nw := by omega
  have h0' : 0 < c.sess.nextIn := hk ▸ h0
  rw [show processSeqreset m c = seqresetApply m v c by
    simp [processSeqreset_eq, M.bind_apply, M.assert_apply, h4, h123, get_of_get? hv, get_of_get? hw, M.int_apply,
      hn, hnw, hk, hle]]
  simp [seqresetApply, M.bind_apply, M.assert_apply, get_of_get? hw, M.int_apply, hn, hnw, hk, hpos,
    setSeqNum_in_apply, h0']

theorem setNextNumIn_plain (h4 : m.mtype ≠ mSequenceReset) (hv : m.get? tMsgSeqNum = some v) (hn : pyInt v = some n)
    (hk : n = c.sess.nextIn) :
    setNextNumIn m c = ⟨.ok n, { c with sess := { c.sess with nextIn := n + 1 } }, []⟩ := by
  simp [setNextNumIn, M.bind_apply, h4, has_of_get? hv, get_of_get? hv, M.int_apply, hn, hk]

theorem setNextNumIn_other (h4 : m.mtype ≠ mSequenceReset) (hv : m.get? tMsgSeqNum = some v) (hn : pyInt v = some n)
    (hk : n ≠ c.sess.nextIn) : setNextNumIn m c = ⟨.ok (-1), c, []⟩ := by
  simp [setNextNumIn, M.bind_apply, h4, has_of_get? hv, get_of_get? hv, M.int_apply, hn, hk]

theorem setNextNumIn_seqreset {w : String} {nw : Int} (h4 : m.mtype = mSequenceReset)
    (hw : m.get? tNewSeqNo = some w) (hnw : pyInt w = some nw) :
    setNextNumIn m c = ⟨.ok (nw - 1), { c with sess := { c.sess with nextIn := nw - 1 + 1 } }, []⟩ := by
  simp [setNextNumIn, M.bind_apply, h4, has_of_get? hw, get_of_get? hw, M.int_apply, hnw]

theorem persistInbound_numbered (hv : m.get? tMsgSeqNum = some v) (hn : pyInt v = some n) (c : Conn) :
    persistInbound m c = match c.journal.persist .inbound n m with
      | none => ⟨.error .duplicateSeqNo, c, []⟩
      | some j => ⟨.ok (), { c with journal := j }, []⟩ := by
  unfold persistInbound
  simp only [hv, hn]
  rw [M.bind_ok (M.pure_apply n c), M.get_bind_apply]
  cases c.journal.persist .inbound n m <;> rfl

/-- `_finalize_message` ends the wait for a resend: the accepted number has reached the watermark -/
def promoted (c : Conn) (ret : Int) : Prop := c.state = st_RESENDREQ_AWAITING ∧ c.maxResend ≤ ret

instance (c : Conn) (ret : Int) : Decidable (promoted c ret) := inferInstanceAs (Decidable (_ ∧ _))

/-- the connection `_finalize_message` hands to the journal after `set_next_num_in` returned `ret`: the wait for
a resend ended (with `on_state_change`) when due, the receive time stamped while connected (fix 5623bd4) -/
def stamped (env : Env) (c : Conn) (ret : Int) : Conn :=
  let st := if promoted c ret then st_ACTIVE else c.state
  { c with state := st, wasActive := c.wasActive || decide (promoted c ret),
           maxResend := if promoted c ret then 0 else c.maxResend,
           lastTime := if st_DISCONNECTED_BROKEN_CONN < st then env.now else c.lastTime }

/-- a counted frame: what is left is the journal (whose refusal escapes) -/
theorem finalizeMessage_counted {ret : Int} (env : Env) (hnext : setNextNumIn m c = ⟨.ok ret, c1, []⟩) (h0 : 0 < ret)
    (hw : c1.state = st_RESENDREQ_AWAITING → 0 < c1.maxResend) :
    finalizeMessage env m c =
      ⟨(persistInbound m (stamped env c1 ret)).res, (persistInbound m (stamped env c1 ret)).conn,
        (if promoted c1 ret then [.onState st_ACTIVE] else []) ++ (persistInbound m (stamped env c1 ret)).eff⟩ := by
  have h0' : ¬ ret ≤ 0 := Int.not_le.mpr h0
  have h3 : st_DISCONNECTED_BROKEN_CONN < st_ACTIVE := by decide
  unfold finalizeMessage
  rw [M.bind_ok hnext, M.ite_apply, if_neg h0', M.get_bind_apply]
  by_cases ha : c1.state = st_RESENDREQ_AWAITING
  · by_cases hm : c1.maxResend ≤ ret
    · simp [M.bind_apply, ha, M.assert_apply, hw ha, hm, stateSet_apply, setState, h3, stamped, promoted]
    · have h12 : st_DISCONNECTED_BROKEN_CONN < st_RESENDREQ_AWAITING := by decide
      simp [M.bind_apply, ha, M.assert_apply, hw ha, hm, h12, stamped, promoted]
  · by_cases hc : st_DISCONNECTED_BROKEN_CONN < c1.state <;> simp [M.bind_apply, ha, hc, stamped, promoted]

theorem finalizeMessage_skip {ret : Int} (env : Env) (hnext : setNextNumIn m c = ⟨.ok ret, c1, e1⟩) (h0 : ret ≤ 0) :
    finalizeMessage env m c = ⟨.ok (), c1, e1⟩ := by
  unfold finalizeMessage
  rw [M.bind_ok hnext, M.ite_apply, if_pos h0]
  simp

theorem stamped_sess (env : Env) (c : Conn) (ret : Int) : (stamped env c ret).sess = c.sess := rfl

theorem stamped_promoted (h : promoted c ret) :
    (stamped env c ret).state = st_ACTIVE ∧ (stamped env c ret).maxResend = 0 := by
  simp [stamped, h]

theorem stamped_not_promoted (h : ¬ promoted c ret) :
    (stamped env c ret).state = c.state ∧ (stamped env c ret).maxResend = c.maxResend := by
  simp [stamped, h]

/-- a counted frame while a resend is awaited without a watermark: the assertion of `_finalize_message` fails -/
theorem finalizeMessage_unarmed (env : Env) (hnext : setNextNumIn m c = ⟨.ok ret, c1, []⟩) (h0 : 0 < ret)
    (hs : c1.state = st_RESENDREQ_AWAITING) (hw : c1.maxResend ≤ 0) :
    finalizeMessage env m c = ⟨.error .assertion, c1, []⟩ := by
  unfold finalizeMessage
  rw [M.bind_ok hnext, M.ite_apply, if_neg (Int.not_le.mpr h0), M.get_bind_apply]
  simp [M.bind_apply, hs, M.assert_apply, Int.not_lt.mpr hw]

/-! `processHead` on a connection: `processHead_gates` past the gates, then the equation `headRest_…` of the message's
class (`SessionParts`), then the callees' outcomes as hypotheses. -/

section head
variable {valid : Bool}

theorem processHead_gates (env : Env) (h6 : st_NETWORK_CONN_ESTABLISHED < c.state)
    (h : c.state ≠ st_LOGON_INITIAL_SENT ∨ m.mtype = mLogon ∨ m.mtype = mLogout) :
    processHead env m c = headRest env m c := by
  have h7 : ¬ ((c.state = st_LOGON_INITIAL_SENT ∧ ¬ m.mtype = mLogon) ∧ ¬ m.mtype = mLogout) :=
    fun ⟨⟨a, b⟩, d⟩ => h.elim (· a) fun h => h.elim b d
  rw [processHead_eq]
  simp [headMid, M.bind_apply, M.assert_apply, Nat.le_of_lt h6, Nat.ne_of_gt h6, h7]

theorem headTail_apply (env : Env) (hc : st_DISCONNECTED_BROKEN_CONN < c.state) (hv : m.get? tMsgSeqNum = some v)
    (hn : pyInt v = some n) :
    headTail env m c = (checkSeqnumGaps env n >>= fun valid => pure (some (valid, n))) c := by
  simp [headTail, M.bind_apply, Nat.not_le.mpr hc, get_of_get? hv, M.int_apply, hn]

theorem headSkip_apply (env : Env) (hv : m.get? tMsgSeqNum = some v) (hn : pyInt v = some n) :
    headSkip env m c = (checkSeqnumGaps env n >>= fun _ => pure none) c := by
  simp [headSkip, M.bind_apply, get_of_get? hv, M.int_apply, hn]

theorem headTail_closed (env : Env) (m : Msg) (hd : c.state ≤ st_DISCONNECTED_BROKEN_CONN) :
    headTail env m c = ⟨.ok none, c, []⟩ := by
  simp [headTail, M.bind_apply, hd]

theorem processHead_conn_drop (env : Env) (hst : c.state = st_NETWORK_CONN_ESTABLISHED) (hA : m.mtype ≠ mLogon) :
    processHead env m c =
      ⟨.ok none, (discTail (discReset c) st_DISCONNECTED_BROKEN_CONN).1,
        (discTail (discReset c) st_DISCONNECTED_BROKEN_CONN).2⟩ := by
  have h3 : st_DISCONNECTED_BROKEN_CONN < c.state := by rw [hst]; decide
  simp [processHead_eq, M.bind_apply, M.assert_apply, hst, hA, disconnect_none env h3 (Nat.le_refl _)]

theorem processHead_sent_drop (env : Env) (hst : c.state = st_LOGON_INITIAL_SENT) (hA : m.mtype ≠ mLogon)
    (h5 : m.mtype ≠ mLogout) :
    processHead env m c =
      ⟨.ok none, (discTail (discReset c) st_DISCONNECTED_BROKEN_CONN).1,
        (discTail (discReset c) st_DISCONNECTED_BROKEN_CONN).2⟩ := by
  have h3 : st_DISCONNECTED_BROKEN_CONN < c.state := by rw [hst]; decide
  have h6 : st_NETWORK_CONN_ESTABLISHED ≤ st_LOGON_INITIAL_SENT := by decide
  have h6n : ¬ st_LOGON_INITIAL_SENT = st_NETWORK_CONN_ESTABLISHED := by decide
  simp [processHead_eq, headMid, M.bind_apply, M.assert_apply, hst, h6, h6n, hA, h5, disconnect_none env h3 (Nat.le_refl _)]

theorem processHead_plain (env : Env) (h7 : st_LOGON_INITIAL_SENT < c.state) (hA : m.mtype ≠ mLogon)
    (h4 : m.mtype ≠ mSequenceReset) (h5 : m.mtype ≠ mLogout) (hv : m.get? tMsgSeqNum = some v)
    (hn : pyInt v = some n) :
    processHead env m c = (checkSeqnumGaps env n >>= fun valid => pure (some (valid, n))) c := by
  rw [processHead_gates env (Nat.lt_trans (by decide) h7) (.inl (Nat.ne_of_gt h7)), headRest_plain hA h4 h5,
    headTail_apply env (Nat.lt_trans (by decide) h7) hv hn]

theorem processHead_logout (h6 : st_NETWORK_CONN_ESTABLISHED < c.state) (h5 : m.mtype = mLogout)
    (hl : processLogout env m c = ⟨.ok (), c1, e1⟩) (hd : c1.state ≤ st_DISCONNECTED_BROKEN_CONN) :
    processHead env m c = ⟨.ok none, c1, e1⟩ := by
  rw [processHead_gates env h6 (.inr (.inr h5)), headRest_logout h5, M.bind_ok hl, headTail_closed env m hd,
    List.append_nil]

theorem processHead_logon (h6 : st_NETWORK_CONN_ESTABLISHED < c.state) (hA : m.mtype = mLogon)
    (hl : processLogon env m c = ⟨.ok (), c1, e1⟩) (h3 : st_DISCONNECTED_BROKEN_CONN < c1.state)
    (hv : m.get? tMsgSeqNum = some v) (hn : pyInt v = some n)
    (hg : checkSeqnumGaps env n c1 = ⟨.ok valid, c2, e2⟩) :
    processHead env m c = ⟨.ok (some (valid, n)), c2, e1 ++ e2⟩ := by
  rw [processHead_gates env h6 (.inr (.inl hA)), headRest_logon hA, M.bind_ok hl, headTail_apply env h3 hv hn,
    M.bind_ok hg]
  simp

theorem processHead_logon_err {ex : Exc} (h6 : st_NETWORK_CONN_ESTABLISHED < c.state) (hA : m.mtype = mLogon)
    (hl : processLogon env m c = ⟨.error ex, c1, e1⟩) : processHead env m c = ⟨.error ex, c1, e1⟩ := by
  rw [processHead_gates env h6 (.inr (.inl hA)), headRest_logon hA, M.bind_err hl]

theorem processHead_seqreset_skip (h7 : st_LOGON_INITIAL_SENT < c.state) (h4 : m.mtype = mSequenceReset)
    (hp : processSeqreset m c = ⟨.ok false, c, []⟩) (hv : m.get? tMsgSeqNum = some v) (hn : pyInt v = some n)
    (hg : checkSeqnumGaps env n c = ⟨.ok valid, c1, e1⟩) :
    processHead env m c = ⟨.ok none, c1, e1⟩ := by
  rw [processHead_gates env (Nat.lt_trans (by decide) h7) (.inl (Nat.ne_of_gt h7)), headRest_seqreset h4,
    M.bind_ok hp]
  simp only [Bool.false_eq_true, if_false]
  rw [headSkip_apply env hv hn, M.bind_ok hg]
  simp

theorem processHead_seqreset_ok (h7 : st_LOGON_INITIAL_SENT < c.state) (h4 : m.mtype = mSequenceReset)
    (hp : processSeqreset m c = ⟨.ok true, c1, e1⟩) (h3 : st_DISCONNECTED_BROKEN_CONN < c1.state)
    (hv : m.get? tMsgSeqNum = some v) (hn : pyInt v = some n) (hg : checkSeqnumGaps env n c1 = ⟨.ok valid, c2, e2⟩) :
    processHead env m c = ⟨.ok (some (valid, n)), c2, e1 ++ e2⟩ := by
  rw [processHead_gates env (Nat.lt_trans (by decide) h7) (.inl (Nat.ne_of_gt h7)), headRest_seqreset h4,
    M.bind_ok hp]
  simp only [if_true]
  rw [headTail_apply env h3 hv hn, M.bind_ok hg]
  simp

theorem processHead_logon_conn (hst : c.state = st_NETWORK_CONN_ESTABLISHED) (hA : m.mtype = mLogon)
    (hl : processLogon env m { setState c st_LOGON_INITIAL_RECV with role := roleAcceptor } = ⟨.ok (), c1, e1⟩)
    (h3 : st_DISCONNECTED_BROKEN_CONN < c1.state) (hv : m.get? tMsgSeqNum = some v) (hn : pyInt v = some n)
    (hg : checkSeqnumGaps env n c1 = ⟨.ok valid, c2, e2⟩) :
    processHead env m c = ⟨.ok (some (valid, n)), c2, .onState st_LOGON_INITIAL_RECV :: (e1 ++ e2)⟩ := by
  have hr : headRest env m { setState c st_LOGON_INITIAL_RECV with role := roleAcceptor } =
      ⟨.ok (some (valid, n)), c2, e1 ++ e2⟩ := by
    rw [headRest_logon hA, M.bind_ok hl, headTail_apply env h3 hv hn, M.bind_ok hg]
    simp
  simp [processHead_eq, headMid, M.bind_apply, M.assert_apply, hst, hA, stateSet_apply, setState] at hr ⊢
  simp [hr]
end head

section dispatch
variable {valid : Bool}

theorem processDispatch_app (env : Env) (sr : Msg → Bool) (h2 : m.mtype ≠ mResendRequest)
    (h4 : m.mtype ≠ mSequenceReset) (hA : m.mtype ≠ mLogon) (h1 : m.mtype ≠ mTestRequest) (h0 : m.mtype ≠ mHeartbeat) :
    processDispatch env sr m valid n c =
      ⟨.ok (), c, if valid = true ∧ n = c.sess.nextIn then [.deliver m] else []⟩ := by
  by_cases h : valid = true ∧ n = c.sess.nextIn <;> simp [processDispatch, M.bind_apply, h2, h4, hA, h1, h0, h]

theorem processDispatch_quiet (env : Env) (sr : Msg → Bool) (h : m.mtype = mSequenceReset ∨ m.mtype = mLogon) :
    processDispatch env sr m valid n = pure () := by
  have a : ¬ mSequenceReset = mResendRequest := by decide
  have b : ¬ mLogon = mResendRequest := by decide
  have b' : ¬ mLogon = mSequenceReset := by decide
  rcases h with h | h <;> simp [processDispatch, h, a, b, b']

theorem processDispatch_resend (env : Env) (sr : Msg → Bool) (h2 : m.mtype = mResendRequest) :
    processDispatch env sr m valid n = processResend env sr m := by
  simp [processDispatch, h2]

theorem processDispatch_testRequest (env : Env) (sr : Msg → Bool) (h1 : m.mtype = mTestRequest) :
    processDispatch env sr m valid n = processTestRequest env m := by
  have a : ¬ mTestRequest = mResendRequest := by decide
  have b : ¬ mTestRequest = mSequenceReset := by decide
  have b' : ¬ mTestRequest = mLogon := by decide
  simp [processDispatch, h1, a, b, b']

theorem processDispatch_heartbeat (env : Env) (sr : Msg → Bool) (h0 : m.mtype = mHeartbeat) :
    processDispatch env sr m valid n = processHeartbeat env m := by
  have a : ¬ mHeartbeat = mResendRequest := by decide
  have b : ¬ mHeartbeat = mSequenceReset := by decide
  have b' : ¬ mHeartbeat = mLogon := by decide
  have b'' : ¬ mHeartbeat = mTestRequest := by decide
  simp [processDispatch, h0, a, b, b', b'']

theorem dispatch_heartbeat (env : Env) (sr : Msg → Bool) (c : Conn) (m : Msg) (n : Int)
    (hm : m.mtype = mHeartbeat) (valid : Bool := true) :
    processDispatch env sr m valid n c =
      match c.testReqId, m.get? tTestReqID with
      | none, _ => ⟨.ok (), c, []⟩
      | some _, none => ⟨.ok (), c, []⟩
      | some tid, some v =>
        if tid = (pyInt v).getD 0 then ⟨.ok (), { c with testReqId := none }, []⟩
        else disconnect env st_DISCONNECTED_BROKEN_CONN (some "Invalid TestRequest(TestReqID) received") c := by
  rw [processDispatch_heartbeat env sr hm, processHeartbeat,
    M.bind_pre (by rw [M.assert_apply, if_pos (by rw [hm]; rfl)]), Out.pre_nil, M.get_bind_apply]
  cases ht : c.testReqId with
  | none => rfl
  | some tid =>
    cases hv : m.get? tTestReqID with
    | none => rfl
    | some v =>
      by_cases he : tid = (pyInt v).getD 0
      · simp [he]
      · simp [he]

theorem dispatch_testrequest (env : Env) (sr : Msg → Bool) (c : Conn) (m : Msg) (n : Int)
    (hm : m.mtype = mTestRequest) (valid : Bool := true) :
    processDispatch env sr m valid n c =
      sendMsg env (heartbeatMsg ((m.get? tTestReqID).getD "0")) c := by
  rw [processDispatch_testRequest env sr hm, processTestRequest,
    M.bind_pre (by rw [M.assert_apply, if_pos (by rw [hm]; rfl)]), Out.pre_nil]

theorem processResend_ignored (env : Env) (sr : Msg → Bool) {c : Conn} {m : Msg} {vb ve : String} {b e : Int}
    (hm : m.mtype = mResendRequest) (hvb : m.get? tBeginSeqNo = some vb) (hpb : pyInt vb = some b)
    (hve : m.get? tEndSeqNo = some ve) (hpe : pyInt ve = some e) (hr : b < 1 ∨ c.sess.nextOut ≤ b) :
    processResend env sr m c =
      if c.state = st_RESENDREQ_AWAITING then ⟨.ok (), c, []⟩
      else ⟨.ok (), { c with state := st_ACTIVE, wasActive := true },
            [.onState st_RESENDREQ_HANDLING, .onState st_ACTIVE]⟩ := by
  -- the handler evaluated from the front; `simp only`, so that nothing but the path taken is unfolded
  have hcond : (decide (b < 1) || decide (b ≥ c.sess.nextOut)) = true := by simpa using hr
  have ha : M.assert (m.mtype == mResendRequest) = pure () := by rw [hm]; rfl
  by_cases hw : c.state = st_RESENDREQ_AWAITING
  · have h1 : (c.state != st_RESENDREQ_AWAITING) = false := by rw [hw]; rfl
    have h2 : M.assert (c.state == st_RESENDREQ_HANDLING || c.state == st_RESENDREQ_AWAITING) = pure () := by
      rw [hw]; rfl
    simp only [processResend, M.get_bind_apply, h1, Bool.false_eq_true, if_false, M.pure_bind_apply, ha, h2,
      get_of_get? hvb, get_of_get? hve, M.liftE_ok_bind_apply, M.int_of hpb, M.int_of hpe, hcond, if_true, if_pos hw,
      M.pure_apply]
  · have h1 : (c.state != st_RESENDREQ_AWAITING) = true := by simpa [bne] using hw
    have k1 : M.assert (st_RESENDREQ_HANDLING == st_RESENDREQ_HANDLING ||
        st_RESENDREQ_HANDLING == st_RESENDREQ_AWAITING) = pure () := rfl
    have k2 : (st_RESENDREQ_HANDLING != st_RESENDREQ_AWAITING) = true := rfl
    have k3 : (st_RESENDREQ_HANDLING == st_ACTIVE) = false := rfl
    have k4 : (st_ACTIVE == st_ACTIVE) = true := rfl
    simp only [processResend, M.get_bind_apply, h1, if_true, stateSet_bind, setState, ha, M.pure_bind_apply, k1,
      get_of_get? hvb, get_of_get? hve, M.liftE_ok_bind_apply, M.int_of hpb, M.int_of hpe, hcond, k2, stateSet_apply, Out.pre_mk,
      if_neg hw, k3, k4, Bool.or_false, Bool.or_true, List.singleton_append]

theorem processMessage_of_reason {text : String} (env : Env) (sr : Msg → Bool)
    (hi : validateIntegrity m c = ⟨.ok (.reason text), c, []⟩) :
    processMessage env sr m c = disconnect env st_DISCONNECTED_BROKEN_CONN (some text) c := by
  rw [processMessage, M.bind_ok hi]
  rfl

/-- an early `return`, or an exception before the dispatch (logged): the frame is not counted -/
theorem processMessage_of_head_none (sr : Msg → Bool) (hi : validateIntegrity m c = ⟨.ok .good, c, []⟩)
    (hh : swallow none (processHead env m) c = ⟨.ok none, c1, e1⟩) :
    processMessage env sr m c = ⟨.ok (), c1, e1⟩ := by
  rw [processMessage, M.bind_ok hi]
  simp only []
  rw [M.bind_ok hh]
  simp

/-- the head went through to the dispatch, which ended (logged, if by an exception) in `c2`: the frame is counted
by `_finalize_message` iff `is_valid_msg_num`, and what that raises escapes -/
theorem processMessage_of_head (hi : validateIntegrity m c = ⟨.ok .good, c, []⟩)
    (hh : swallow none (processHead env m) c = ⟨.ok (some (valid, n)), c1, e1⟩)
    (hd : swallow () (processDispatch env sr m valid n) c1 = ⟨.ok (), c2, e2⟩) :
    processMessage env sr m c =
      if valid then ⟨(finalizeMessage env m c2).res, (finalizeMessage env m c2).conn,
        e1 ++ (e2 ++ (finalizeMessage env m c2).eff)⟩
      else ⟨.ok (), c2, e1 ++ e2⟩ := by
  rw [processMessage, M.bind_ok hi]
  simp only []
  rw [M.bind_ok hh]
  simp only []
  rw [M.bind_ok hd]
  cases valid <;> simp

theorem recv_of_reason {text : String} (hv : validateIntegrity m c = ⟨.ok (.reason text), c, []⟩)
    (hd : disconnect env st_DISCONNECTED_BROKEN_CONN (some text) c = ⟨.ok (), c1, e1⟩) :
    recv sr env c m = (c1, e1) :=
  M.run_ok ((processMessage_of_reason env sr hv).trans hd)

theorem recv_of_head_none (hv : validateIntegrity m c = ⟨.ok .good, c, []⟩)
    (hh : processHead env m c = ⟨.ok none, c1, e1⟩) : recv sr env c m = (c1, e1) :=
  M.run_ok (processMessage_of_head_none sr hv (by rw [swallow_apply, hh]))

theorem recv_of_head_err {ex : Exc} (hv : validateIntegrity m c = ⟨.ok .good, c, []⟩)
    (hh : processHead env m c = ⟨.error ex, c1, e1⟩) : recv sr env c m = (c1, e1 ++ [.caught ex]) :=
  M.run_ok (processMessage_of_head_none sr hv (by rw [swallow_apply, hh]))

/-- the frame is above the expectation: dispatched, not counted -/
theorem recv_of_head_gap (hv : validateIntegrity m c = ⟨.ok .good, c, []⟩)
    (hh : processHead env m c = ⟨.ok (some (false, n)), c1, e1⟩)
    (hd : processDispatch env sr m false n c1 = ⟨.ok (), c2, e2⟩) : recv sr env c m = (c2, e1 ++ e2) :=
  M.run_ok (by rw [processMessage_of_head hv (by rw [swallow_apply, hh]) (by rw [swallow_apply, hd])]; rfl)

/-- Once the head has let a frame through to the dispatch as valid (`is_valid_msg_num = True`): whatever the
dispatch does from there (an exception is logged), `_finalize_message` runs on what it left, and what that raises
escapes. -/
theorem recv_valid {r : Except Exc Unit} (hi : validateIntegrity m c = ⟨.ok .good, c, []⟩)
    (hh : processHead env m c = ⟨.ok (some (true, n)), c1, e1⟩)
    (hd : processDispatch env sr m true n c1 = ⟨r, c2, e2⟩) :
    recv sr env c m =
      (((finalizeMessage env m).run c2).1, e1 ++ (e2 ++ caught r ++ ((finalizeMessage env m).run c2).2)) := by
  have hp := processMessage_of_head (sr := sr) hi (by rw [swallow_apply, hh]) (swallow_unit hd)
  rw [recv, M.run, hp, M.run]
  rcases finalizeMessage env m c2 with ⟨_ | _, c3, e3⟩ <;> simp

/-- … when the dispatch and `_finalize_message` both return -/
theorem recv_of_head_valid {c3 : Conn} {e3 : List Effect} (hv : validateIntegrity m c = ⟨.ok .good, c, []⟩)
    (hh : processHead env m c = ⟨.ok (some (true, n)), c1, e1⟩)
    (hd : processDispatch env sr m true n c1 = ⟨.ok (), c2, e2⟩)
    (hf : finalizeMessage env m c2 = ⟨.ok (), c3, e3⟩) : recv sr env c m = (c3, e1 ++ (e2 ++ e3)) := by
  rw [recv_valid hv hh hd, M.run_ok hf]
  simp [caught]

end dispatch

end AsyncFix.Session
