/-
The fixed-width layout regex (`layoutMatch`) as explicit shapes, `%f` on three / six digits, and
`validateDatetime` in terms of `headFull` and the calendar checks.

`Reads`: the fixed-width reading of a format, a relation defined by recursion on the format.  On a format
whose `%f` comes last and whose one- or two-digit directives are followed, before any `%f`, by a literal
that is not a digit (`Good`), "the layout regex matches and the match `re.match` returns consumes the whole
value" is the same as "the value splits into fields of the layout's widths, every two-digit field in the
range of its directive" (`reads_iff`).  Without the literal it is false: `%H%f` reads "99123" as 9 h, 912300 µs.
-/
import AsyncFix.Lemmas.LexSeq
import AsyncFix.Py.PyRe
import AsyncFix.Model.Lexical
namespace AsyncFix.Lemmas.LexLayout
open AsyncFix.Py AsyncFix.Lemmas.LexTok AsyncFix.Lemmas.LexSeq AsyncFix.Model.Lexical

theorem digitsN_iff {k : Nat} {s r : Str} :
    digitsN k s = some r ↔ ∃ ds, s = ds ++ r ∧ ds.length = k ∧ ds.all isAsciiDigit = true := by
  unfold digitsN
  constructor
  · intro h
    split at h
    · rename_i hc
      injection h with h; subst h
      exact ⟨s.take k, (List.take_append_drop k s).symm, by rw [List.length_take]; omega, hc.2⟩
    · cases h
  · rintro ⟨ds, rfl, rfl, hd⟩
    simp [hd]

theorem digitsN_any {k : Nat} {s : Str} {p : Str → Bool} :
    (digitsN k s).any p = true ↔
      ∃ ds r, s = ds ++ r ∧ ds.length = k ∧ ds.all isAsciiDigit = true ∧ p r = true := by
  constructor
  · intro hp
    cases h : digitsN k s with
    | none => simp [h] at hp
    | some r =>
      rw [h] at hp
      obtain ⟨ds, rfl, hl, hd⟩ := digitsN_iff.1 h
      exact ⟨ds, r, rfl, hl, hd, hp⟩
  · rintro ⟨ds, r, rfl, hl, hd, hp⟩
    rw [digitsN_iff.2 ⟨ds, rfl, hl, hd⟩]
    exact hp

theorem layout_nil {s : Str} : layoutMatch [] s = true ↔ s = [] := by
  cases s <;> simp [layoutMatch]

theorem layout_Y {ds : List Dir} {s : Str} :
    layoutMatch (.Y :: ds) s = true ↔ ∃ a b c d r, s = a :: b :: c :: d :: r ∧
      isAsciiDigit a = true ∧ isAsciiDigit b = true ∧ isAsciiDigit c = true ∧ isAsciiDigit d = true ∧
      layoutMatch ds r = true := by
  have key : layoutMatch (.Y :: ds) s = (digitsN 4 s).any (layoutMatch ds) := by
    simp only [layoutMatch]; cases digitsN 4 s <;> rfl
  rw [key, digitsN_any]
  constructor
  · rintro ⟨ys, r, rfl, hl, hd, h⟩
    rcases ys with _ | ⟨a, _ | ⟨b, _ | ⟨c, _ | ⟨d, _ | ⟨e, t⟩⟩⟩⟩⟩ <;> simp at hl
    simp only [List.all_cons, List.all_nil, Bool.and_true, Bool.and_eq_true] at hd
    exact ⟨a, b, c, d, r, rfl, hd.1, hd.2.1, hd.2.2.1, hd.2.2.2, h⟩
  · rintro ⟨a, b, c, d, r, rfl, h1, h2, h3, h4, h⟩
    exact ⟨[a, b, c, d], r, rfl, rfl, by simp [h1, h2, h3, h4], h⟩

theorem layout_num {D : Dir} (hD : isNum D = true) {ds : List Dir} {s : Str} :
    layoutMatch (D :: ds) s = true ↔ ∃ a b r, s = a :: b :: r ∧
      isAsciiDigit a = true ∧ isAsciiDigit b = true ∧ layoutMatch ds r = true := by
  have key : layoutMatch (D :: ds) s = (digitsN 2 s).any (layoutMatch ds) := by
    cases D <;> simp only [isNum, Bool.false_eq_true] at hD <;> simp only [layoutMatch] <;> cases digitsN 2 s <;> rfl
  rw [key, digitsN_any]
  constructor
  · rintro ⟨xs, r, rfl, hl, hd, h⟩
    rcases xs with _ | ⟨a, _ | ⟨b, _ | ⟨c, t⟩⟩⟩ <;> simp at hl
    simp only [List.all_cons, List.all_nil, Bool.and_true, Bool.and_eq_true] at hd
    exact ⟨a, b, r, rfl, hd.1, hd.2, h⟩
  · rintro ⟨a, b, r, rfl, h1, h2, h⟩
    exact ⟨[a, b], r, rfl, rfl, by simp [h1, h2], h⟩

theorem layout_lit {c : Nat} {ds : List Dir} {s : Str} :
    layoutMatch (.lit c :: ds) s = true ↔ ∃ r, s = c :: r ∧ layoutMatch ds r = true := by
  cases s with
  | nil => simp [layoutMatch]
  | cons a r =>
    simp only [layoutMatch, Bool.and_eq_true, beq_iff_eq]
    constructor
    · rintro ⟨rfl, h⟩; exact ⟨r, rfl, h⟩
    · rintro ⟨r', h, h'⟩
      injection h with h1 h2
      subst h1; subst h2
      exact ⟨rfl, h'⟩

theorem layout_f_end {s : Str} :
    layoutMatch [.f] s = true ↔ s.all isAsciiDigit = true ∧ (s.length = 3 ∨ s.length = 6) := by
  have key : layoutMatch [.f] s = ((digitsN 3 s).any (layoutMatch []) || (digitsN 6 s).any (layoutMatch [])) := by
    simp only [layoutMatch]; cases digitsN 3 s <;> cases digitsN 6 s <;> rfl
  have one : ∀ k, (digitsN k s).any (layoutMatch []) = true ↔ s.all isAsciiDigit = true ∧ s.length = k := by
    intro k
    rw [digitsN_any]
    constructor
    · rintro ⟨ds, r, rfl, hl, hd, h⟩
      rw [layout_nil.1 h, List.append_nil]
      exact ⟨hd, hl⟩
    · rintro ⟨hd, hl⟩
      exact ⟨s, [], (List.append_nil s).symm, hl, hd, rfl⟩
  rw [key, Bool.or_eq_true, one, one, ← and_or_left]

/-- `%f` last in the format on a digit block the layout admits: the greedy `{1,6}` takes all of it
(the longer alternatives do not fit, or, for six digits, the first one does) -/
theorem headFull_f {fs : Str} (hd : fs.all isAsciiDigit = true) (hl : fs.length = 3 ∨ fs.length = 6) :
    headFull (matchSeq [.f] fs) = some [fracVal fs] := by
  rcases hl with hl | hl <;>
    simp [matchSeq_cons, Dir.alts, fracAlt, hl, hd, List.take_of_length_le, List.drop_of_length_le]

theorem foldl_dec_lt (ds : List Nat) (h : ∀ d ∈ ds, d ≤ 9) (acc : Nat) :
    ds.foldl (fun a d => 10 * a + d) acc < (acc + 1) * 10 ^ ds.length := by
  induction ds generalizing acc with
  | nil => simp
  | cons d ds ih =>
    have hd : d ≤ 9 := h d (List.mem_cons_self ..)
    calc _ < (10 * acc + d + 1) * 10 ^ ds.length := ih (fun x hx => h x (List.mem_cons_of_mem _ hx)) _
      _ ≤ ((acc + 1) * 10) * 10 ^ ds.length := Nat.mul_le_mul_right _ (by omega)
      _ = (acc + 1) * 10 ^ (ds.length + 1) := by rw [Nat.mul_assoc, Nat.pow_succ']

theorem fracVal_le {fs : Str} (hd : fs.all isAsciiDigit = true) (hl : fs.length ≤ 6) : fracVal fs ≤ 999999 := by
  have h1 : decVal (fs.map (· - 48)) < 10 ^ fs.length := by
    have := foldl_dec_lt (fs.map (· - 48)) (fun d hd' => by
      obtain ⟨c, hc, rfl⟩ := List.mem_map.1 hd'
      have := digit_iff.1 (List.all_eq_true.1 hd c hc); omega) 0
    simpa [decVal] using this
  have h2 : 10 ^ fs.length * 10 ^ (6 - fs.length) = 10 ^ 6 := by
    rw [← Nat.pow_add]; congr 1; omega
  have := Nat.mul_lt_mul_of_lt_of_le h1 (Nat.le_refl (10 ^ (6 - fs.length))) (Nat.pow_pos (by decide))
  unfold fracVal
  omega

/-- the checks of `datetime_date(...)` and `datetime(...)` -/
def dtOk (t : DateTime) : Bool := !t.dateBad && !t.timeBad

/- the two parts (LexTime reads the time part alone, from a start that carries the date), then the whole
(LexDate) -/
theorem dateBad_iff (t : DateTime) : t.dateBad = false ↔
    1 ≤ t.effYear ∧ t.effYear ≤ 9999 ∧ 1 ≤ t.month ∧ t.month ≤ 12 ∧ 1 ≤ t.day ∧
      t.day ≤ daysInMonth t.effYear t.month := by
  simp [DateTime.dateBad]
  omega

theorem timeBad_iff (t : DateTime) : t.timeBad = false ↔
    t.hour ≤ 23 ∧ t.minute ≤ 59 ∧ t.second ≤ 59 ∧ t.micro ≤ 999999 := by
  simp [DateTime.timeBad, and_assoc]

theorem dtOk_split (t : DateTime) : dtOk t = true ↔ t.dateBad = false ∧ t.timeBad = false := by
  simp [dtOk]

theorem dtOk_iff (t : DateTime) : dtOk t = true ↔
    (1 ≤ t.effYear ∧ t.effYear ≤ 9999 ∧ 1 ≤ t.month ∧ t.month ≤ 12 ∧ 1 ≤ t.day ∧
      t.day ≤ daysInMonth t.effYear t.month) ∧
    (t.hour ≤ 23 ∧ t.minute ≤ 59 ∧ t.second ≤ 59 ∧ t.micro ≤ 999999) := by
  rw [dtOk_split, dateBad_iff, timeBad_iff]

theorem strptime_ok_iff (fmt : List Dir) (s : Str) :
    (∃ t, strptime fmt s = .ok t) ↔
      ∃ vals, headFull (matchSeq fmt s) = some vals ∧ dtOk (assign fmt vals {}) = true := by
  unfold strptime reMatch
  cases matchSeq fmt s with
  | nil => simp
  | cons x L =>
    obtain ⟨vals, rest⟩ := x
    cases rest with
    | cons c r => simp
    | nil =>
      simp only [List.head?_cons, headFull_cons_nil, Option.some.injEq, exists_eq_left', dtOk_split]
      cases (assign fmt vals {}).dateBad <;> cases (assign fmt vals {}).timeBad <;> simp

/-- the format `_validate_value_datetime` really uses -/
def effFmt (s : Str) (fmt : List Dir) : List Dir :=
  if s.contains 46 && fmt.contains .S && !fmt.contains .f then fmt ++ [.lit 46, .f] else fmt

theorem validateDatetime_pass_iff (s : Str) (fmt : List Dir) :
    validateDatetime s fmt = .pass ↔
      (∃ vals, headFull (matchSeq (effFmt s fmt) s) = some vals ∧
          dtOk (assign (effFmt s fmt) vals {}) = true) ∧
        layoutMatch (effFmt s fmt) s = true := by
  rw [← strptime_ok_iff]
  show (match strptime (effFmt s fmt) s with
    | .ok _ => if layoutMatch (effFmt s fmt) s then VRes.pass else VRes.err
    | _ => VRes.err) = .pass ↔ _
  generalize effFmt s fmt = f
  cases hs : strptime f s <;> simp

/-- `Reads fmt s vals`: `s` is made of the fixed-width fields of `fmt`, and `vals` are their values.
On a concrete format it unfolds by computation: one `rintro` or anonymous-constructor pattern takes or
gives, in format order, every character, digit fact and range. -/
def Reads : List Dir → Str → List Nat → Prop
  | [], s, vals => s = [] ∧ vals = []
  | .Y :: ds, s, vals => ∃ a b c d r vs, s = a :: b :: c :: d :: r ∧ vals = four a b c d :: vs ∧
      isAsciiDigit a = true ∧ isAsciiDigit b = true ∧ isAsciiDigit c = true ∧ isAsciiDigit d = true ∧ Reads ds r vs
  | .lit c :: ds, s, vals => ∃ r vs, s = c :: r ∧ vals = 0 :: vs ∧ Reads ds r vs
  | .f :: ds, s, vals => ds = [] ∧ s.all isAsciiDigit = true ∧ (s.length = 3 ∨ s.length = 6) ∧ vals = [fracVal s]
  | D :: ds, s, vals => ∃ a b r vs, s = a :: b :: r ∧ vals = two a b :: vs ∧
      isAsciiDigit a = true ∧ isAsciiDigit b = true ∧ lo D ≤ two a b ∧ two a b ≤ hi D ∧ Reads ds r vs

theorem reads_num {D : Dir} (hD : isNum D = true) {ds : List Dir} {s : Str} {vals : List Nat} :
    Reads (D :: ds) s vals ↔ ∃ a b r vs, s = a :: b :: r ∧ vals = two a b :: vs ∧
      isAsciiDigit a = true ∧ isAsciiDigit b = true ∧ lo D ≤ two a b ∧ two a b ≤ hi D ∧ Reads ds r vs := by
  cases D <;> simp only [isNum, Bool.false_eq_true] at hD <;> exact Iff.rfl

/-- up to the next literal there is no `%f`, and that literal is not a digit: a reading that is one
digit late can never catch up -/
def Anch : List Dir → Bool
  | [] => true
  | .lit c :: _ => !isAsciiDigit c
  | .f :: _ => false
  | _ :: ds => Anch ds

/-- `%f` only in last place, every one- or two-digit directive in front of an anchored tail -/
def Good : List Dir → Bool
  | [] => true
  | [.f] => true
  | .f :: _ => false
  | .lit _ :: ds => Good ds
  | .Y :: ds => Good ds
  | _ :: ds => Anch ds && Good ds

/-- a value that has a non-empty block of digits `w` in front of what the layout of `ds` admits is never
consumed to the end by `ds` -/
theorem stuck_shift : ∀ (ds : List Dir), Anch ds = true → ∀ (w r : Str), w ≠ [] → w.all isAsciiDigit = true →
    layoutMatch ds r = true → Stuck (matchSeq ds (w ++ r)) := by
  intro ds
  induction ds with
  | nil =>
    intro _ w r hw _ hl
    obtain ⟨c, t, rfl⟩ := List.exists_cons_of_ne_nil hw
    exact stuck_nil c _
  | cons D ds ih =>
    intro ha w r hw hd hl
    by_cases hD : isNum D = true
    · have ha' : Anch ds = true := by cases D <;> simp only [isNum, Bool.false_eq_true] at hD <;> exact ha
      obtain ⟨a, b, r', rfl, h1, h2, hl'⟩ := (layout_num hD).1 hl
      have e : w ++ a :: b :: r' = (w ++ [a, b]) ++ r' := by simp
      have hd' : (w ++ [a, b]).all isAsciiDigit = true := by simp [hd, h1, h2]
      have hlen : (w ++ [a, b]).length = w.length + 2 := by simp
      have hwl : 0 < w.length := List.length_pos_iff.2 hw
      rw [e]
      generalize w ++ [a, b] = t at hd' hlen
      rcases t with _ | ⟨c1, _ | ⟨c2, _ | ⟨c3, t⟩⟩⟩ <;> simp only [List.length_cons, List.length_nil] at hlen <;>
        try omega
      simp only [List.all_cons, Bool.and_eq_true] at hd'
      exact stuck_num hD hd'.1 hd'.2.1
        (ih ha' (c3 :: t) r' (List.cons_ne_nil _ _) (by simp [hd'.2.2.1, hd'.2.2.2]) hl')
        (ih ha' (c2 :: c3 :: t) r' (List.cons_ne_nil _ _) (by simp [hd'.2.1, hd'.2.2.1, hd'.2.2.2]) hl')
    · cases D <;> simp only [isNum, not_true_eq_false] at hD
      case Y =>
        have ha' : Anch ds = true := ha
        obtain ⟨a, b, c, d, r', rfl, h1, h2, h3, h4, hl'⟩ := layout_Y.1 hl
        have e : w ++ a :: b :: c :: d :: r' = (w ++ [a, b, c, d]) ++ r' := by simp
        have hd' : (w ++ [a, b, c, d]).all isAsciiDigit = true := by simp [hd, h1, h2, h3, h4]
        have hlen : (w ++ [a, b, c, d]).length = w.length + 4 := by simp
        have hwl : 0 < w.length := List.length_pos_iff.2 hw
        rw [e]
        generalize w ++ [a, b, c, d] = t at hd' hlen
        rcases t with _ | ⟨c1, _ | ⟨c2, _ | ⟨c3, _ | ⟨c4, _ | ⟨c5, t⟩⟩⟩⟩⟩ <;>
          simp only [List.length_cons, List.length_nil] at hlen <;> try omega
        simp only [List.all_cons, Bool.and_eq_true] at hd'
        show Stuck (matchSeq (.Y :: ds) (c1 :: c2 :: c3 :: c4 :: ((c5 :: t) ++ r')))
        rw [matchSeq_cons, alts_Y _ hd'.1 hd'.2.1 hd'.2.2.1 hd'.2.2.2.1, List.flatMap_singleton]
        have := stuck_ext (c := True) (four c1 c2 c3 c4)
          (ih ha' (c5 :: t) r' (List.cons_ne_nil _ _) (by simp [hd'.2.2.2.2.1, hd'.2.2.2.2.2]) hl')
        rwa [if_pos trivial] at this
      case f => cases ha
      case lit c =>
        obtain ⟨b, t, rfl⟩ := List.exists_cons_of_ne_nil hw
        have hb := (all_digit_cons.1 hd).1
        have hc : isAsciiDigit c = false := by simpa [Anch] using ha
        exact stuck_lit (digit_ne_of_not_digit hb hc) _ _

/-- the strptime match together with the layout check IS the fixed-width reading -/
theorem reads_iff : ∀ (fmt : List Dir), Good fmt = true → ∀ (s : Str) (vals : List Nat),
    (layoutMatch fmt s = true ∧ headFull (matchSeq fmt s) = some vals) ↔ Reads fmt s vals := by
  intro fmt
  induction fmt with
  | nil =>
    intro _ s vals
    rw [layout_nil]
    constructor
    · rintro ⟨rfl, hv⟩; exact ⟨rfl, by simpa using hv.symm⟩
    · rintro ⟨rfl, rfl⟩; exact ⟨rfl, rfl⟩
  | cons D ds ih =>
    intro hg s vals
    by_cases hD : isNum D = true
    · have hg' : Anch ds = true ∧ Good ds = true := by
        cases D <;> simp only [isNum, Bool.false_eq_true] at hD <;> simpa [Good] using hg
      rw [reads_num hD, layout_num hD]
      constructor
      · rintro ⟨⟨a, b, r, rfl, h1, h2, hl⟩, hv⟩
        have hst : Stuck (matchSeq ds (b :: r)) := stuck_shift ds hg'.1 [b] r (by simp) (by simp [h2]) hl
        rw [headFull_num hD h1 h2 hst] at hv
        split at hv
        · rename_i hr
          obtain ⟨vs, hvs, rfl⟩ := Option.map_eq_some_iff.1 hv
          have := inRng_iff.1 hr
          exact ⟨a, b, r, vs, rfl, rfl, h1, h2, this.1, this.2, (ih hg'.2 r vs).1 ⟨hl, hvs⟩⟩
        · cases hv
      · rintro ⟨a, b, r, vs, rfl, rfl, h1, h2, h3, h4, hr⟩
        obtain ⟨hl, hvs⟩ := (ih hg'.2 r vs).2 hr
        refine ⟨⟨a, b, r, rfl, h1, h2, hl⟩, ?_⟩
        have hst : Stuck (matchSeq ds (b :: r)) := stuck_shift ds hg'.1 [b] r (by simp) (by simp [h2]) hl
        rw [headFull_num hD h1 h2 hst, if_pos (inRng_iff.2 ⟨h3, h4⟩), hvs]
        rfl
    · cases D <;> simp only [isNum, not_true_eq_false] at hD
      case Y =>
        have hg' : Good ds = true := hg
        rw [layout_Y]
        constructor
        · rintro ⟨⟨a, b, c, d, r, rfl, h1, h2, h3, h4, hl⟩, hv⟩
          rw [headFull_Y _ _ h1 h2 h3 h4] at hv
          obtain ⟨vs, hvs, rfl⟩ := Option.map_eq_some_iff.1 hv
          exact ⟨a, b, c, d, r, vs, rfl, rfl, h1, h2, h3, h4, (ih hg' r vs).1 ⟨hl, hvs⟩⟩
        · rintro ⟨a, b, c, d, r, vs, rfl, rfl, h1, h2, h3, h4, hr⟩
          obtain ⟨hl, hvs⟩ := (ih hg' r vs).2 hr
          exact ⟨⟨a, b, c, d, r, rfl, h1, h2, h3, h4, hl⟩, by rw [headFull_Y _ _ h1 h2 h3 h4, hvs]; rfl⟩
      case lit c =>
        have hg' : Good ds = true := hg
        rw [layout_lit]
        constructor
        · rintro ⟨⟨r, rfl, hl⟩, hv⟩
          rw [headFull_lit] at hv
          obtain ⟨vs, hvs, rfl⟩ := Option.map_eq_some_iff.1 hv
          exact ⟨r, vs, rfl, rfl, (ih hg' r vs).1 ⟨hl, hvs⟩⟩
        · rintro ⟨r, vs, rfl, rfl, hr⟩
          obtain ⟨hl, hvs⟩ := (ih hg' r vs).2 hr
          exact ⟨⟨r, rfl, hl⟩, by rw [headFull_lit, hvs]; rfl⟩
      case f =>
        have hds : ds = [] := by
          cases ds with
          | nil => rfl
          | cons _ _ => simp [Good] at hg
        subst hds
        rw [layout_f_end]
        constructor
        · rintro ⟨⟨hd, hl⟩, hv⟩
          rw [headFull_f hd hl] at hv
          exact ⟨rfl, hd, hl, by simpa using hv.symm⟩
        · rintro ⟨-, hd, hl, rfl⟩
          exact ⟨⟨hd, hl⟩, headFull_f hd hl⟩

/-- `_validate_value_datetime` on a good format: the value reads field by field, and the calendar
accepts what was read -/
theorem validateDatetime_reads (s : Str) (fmt : List Dir) (hg : Good (effFmt s fmt) = true) :
    validateDatetime s fmt = .pass ↔
      ∃ vals, Reads (effFmt s fmt) s vals ∧ dtOk (assign (effFmt s fmt) vals {}) = true := by
  rw [validateDatetime_pass_iff]
  simp only [← reads_iff _ hg]
  exact ⟨fun ⟨⟨v, hv, hok⟩, hl⟩ => ⟨v, ⟨hl, hv⟩, hok⟩, fun ⟨v, ⟨hl, hv⟩, hok⟩ => ⟨⟨v, hv, hok⟩, hl⟩⟩

end AsyncFix.Lemmas.LexLayout
