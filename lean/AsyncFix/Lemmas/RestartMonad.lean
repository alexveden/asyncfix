import AsyncFix.Lemmas.SessionLaws

/-!
The `simp` set of the C09 proofs over the handler monad: with the laws (`SessionLaws`) a handler is brought into
right-nested form, and the equations of `SessionRel` for a primitive followed by its continuation then evaluate it
from the front.
-/
namespace AsyncFix.Session

attribute [simp] M.get_bind_apply M.modify_bind_apply M.throw_bind_apply M.emit_bind_apply M.liftE_ok_bind_apply
  M.liftE_error_bind_apply M.assert_true_bind_apply M.assert_false_bind_apply M.throw_bind

end AsyncFix.Session
