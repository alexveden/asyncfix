/-
Decidable projections of `DecRes` (which has no `DecidableEq`), so that concrete
evaluations of the model can be checked by the kernel (`decide +kernel`) and turned
into statements about `decode … = …`.
-/
import AsyncFix.Model.Codec.Decode
namespace AsyncFix.Model.Codec

/-- `(consumed, raw bytes)` of a returned message -/
def DecRes.returnedOf : DecRes → Option (Nat × Bytes)
  | .msg _ n e => some (n, e)
  | _ => Option.none

/-- consumed length of a "no message" result -/
def DecRes.noneOf : DecRes → Option Nat
  | .none n => some n
  | _ => Option.none

theorem DecRes.of_returnedOf {r : DecRes} {n : Nat} {e : Bytes} (h : r.returnedOf = some (n, e)) :
    ∃ m, r = .msg m n e := by
  cases r with
  | msg m n' e' => simp only [DecRes.returnedOf, Option.some.injEq, Prod.mk.injEq] at h; exact ⟨m, by rw [h.1, h.2]⟩
  | none _ => cases h
  | raised _ => cases h

theorem DecRes.of_noneOf {r : DecRes} {n : Nat} (h : r.noneOf = some n) : r = .none n := by
  cases r with
  | msg _ _ _ => cases h
  | none n' => simp only [DecRes.noneOf, Option.some.injEq] at h; rw [h]
  | raised _ => cases h

/-- `"FIX.4.4"` -/
def bs44 : Bytes := [70, 73, 88, 46, 52, 46, 52]

end AsyncFix.Model.Codec
