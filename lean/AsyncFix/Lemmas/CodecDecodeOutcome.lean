/-
What `decode` returns on which input, as one table.  `FOut` lists the ways out of the part of `decode` behind the field
split (`decodeFields`), `Decodes` those of `decode` itself; the tables are complete (`decodeFields_spec`, `decode_spec`) and
each class fixes the result (`FOut.eq`, `Decodes.eq`), so `decode bs tbl raw = res ↔ Decodes bs tbl raw res` (`decode_iff`).
Read off the table: `decode` never raises (the first field starts with `8=`, the field loop never raises), a consumed
length lies within the buffer and a message consumes something (`ResOK`), so the read loop's guard is never taken
(`readLoop_eq`), and `decode_msg_iff`: when a message is returned.
-/
import AsyncFix.Lemmas.CodecDecodeShape
import AsyncFix.Lemmas.CodecNoRaise
import AsyncFix.Model.Codec.Reader
namespace AsyncFix.Model.Codec

theorem hdr_head (bs f f1 : Bytes) : hdr bs (56 :: 61 :: f) f1 ≠ .raise := by
  unfold hdr
  rw [splitEq_head]
  dsimp only
  repeat' split
  all_goals nofun

theorem hdr_ok {bs f0 f1 : Bytes} {ml : Nat} (h : hdr bs f0 f1 = .ok ml) :
    ∃ t0 v1 bl, splitEq f0 = some (t0, bs) ∧ splitEq f1 = some (tag9, v1) ∧ pyInt v1 = some bl ∧ 0 ≤ bl ∧
      ml = declaredLen f0 f1 bl := by
  unfold hdr at h
  split at h
  · cases h
  · rename_i t0 v0 h0
    split at h
    · cases h
    · rename_i hv0
      split at h
      · cases h
      · rename_i t1 v1 h1
        split at h
        · cases h
        · rename_i ht1
          split at h
          · cases h
          · rename_i bl hbl
            split at h
            · cases h
            · cases h
              have e0 : v0 = bs := by simpa using hv0
              have e1 : t1 = tag9 := by simpa using ht1
              subst e0 e1
              exact ⟨t0, v1, bl, h0, h1, hbl, by omega, rfl⟩

/-- a declared length counts at least the six bytes of `10=000` and three separators -/
theorem hdr_ok_pos {bs f0 f1 : Bytes} {ml : Nat} (h : hdr bs f0 f1 = .ok ml) : 0 < ml := by
  obtain ⟨_, _, _, _, _, _, _, rfl⟩ := hdr_ok h
  unfold declaredLen; omega

/-- **What `decodeFields` returns on which fields**: one constructor per way out of `Codec.decode` behind the field
split.  `rawLen`, `vi`, `w` are the buffer length, the marker offset and the answer of the "fewer than three fields"
branch.  The field loop's own `raised` is no class: `fieldLoop_no_raise`. -/
inductive FOut (bs : Bytes) (tbl : Tbl) (rawLen vi w : Nat) (enc : Bytes) : List Bytes → DecRes → Prop
  | few {fields} : fields.length < 3 → FOut bs tbl rawLen vi w enc fields (.none w)
  | raise {f0 f1 r} : r ≠ [] → hdr bs f0 f1 = .raise →
      FOut bs tbl rawLen vi w enc (f0 :: f1 :: r) (.raised .valueError)
  | bad {f0 f1 r} : r ≠ [] → hdr bs f0 f1 = .bad → FOut bs tbl rawLen vi w enc (f0 :: f1 :: r) (.none rawLen)
  | short {f0 f1 r ml} : r ≠ [] → hdr bs f0 f1 = .ok ml → rawLen - vi < ml →
      FOut bs tbl rawLen vi w enc (f0 :: f1 :: r) (.none vi)
  | badField {f0 f1 r ml} : r ≠ [] → hdr bs f0 f1 = .ok ml → ml ≤ rawLen - vi →
      fieldLoop tbl (cksumOf (f0 :: f1 :: r)) {} (f0 :: f1 :: r) = .ok none →
      FOut bs tbl rawLen vi w enc (f0 :: f1 :: r) (.none rawLen)
  | ckFail {f0 f1 r ml s} : r ≠ [] → hdr bs f0 f1 = .ok ml → ml ≤ rawLen - vi →
      fieldLoop tbl (cksumOf (f0 :: f1 :: r)) {} (f0 :: f1 :: r) = .ok (some s) → s.ckPassed = false →
      FOut bs tbl rawLen vi w enc (f0 :: f1 :: r) (.none (vi + ml))
  | msg {f0 f1 r ml s} : r ≠ [] → hdr bs f0 f1 = .ok ml → ml ≤ rawLen - vi →
      fieldLoop tbl (cksumOf (f0 :: f1 :: r)) {} (f0 :: f1 :: r) = .ok (some s) → s.ckPassed = true →
      FOut bs tbl rawLen vi w enc (f0 :: f1 :: r) (.msg { mtype := s.mtype, body := s.top } (vi + ml) enc)

theorem three_le {α : Type} {a b : α} {r : List α} (h : r ≠ []) : ¬ (a :: b :: r).length < 3 := by
  cases r with
  | nil => exact absurd rfl h
  | cons _ _ => simp

theorem FOut.eq {bs : Bytes} {tbl : Tbl} {rawLen vi w : Nat} {enc : Bytes} {fields : List Bytes} {res : DecRes}
    (h : FOut bs tbl rawLen vi w enc fields res) : decodeFields bs tbl rawLen vi w fields enc = res := by
  cases h with
  | few h => simp only [decodeFields, h, if_true]
  | raise hr hh => simp only [decodeFields, three_le hr, hh, if_false]
  | bad hr hh => simp only [decodeFields, three_le hr, hh, if_false]
  | short hr hh hlt =>
    have : _ > rawLen - vi := hlt
    simp only [decodeFields, three_le hr, hh, decodeBody, this, if_true, if_false]
  | badField hr hh hle hl =>
    have : ¬ _ > rawLen - vi := Nat.not_lt.2 hle
    simp only [decodeFields, three_le hr, hh, decodeBody, this, hl, if_false]
  | ckFail hr hh hle hl hp =>
    have : ¬ _ > rawLen - vi := Nat.not_lt.2 hle
    simp only [decodeFields, three_le hr, hh, decodeBody, this, hl, hp, if_false, Bool.false_eq_true]
  | msg hr hh hle hl hp =>
    have : ¬ _ > rawLen - vi := Nat.not_lt.2 hle
    simp only [decodeFields, three_le hr, hh, decodeBody, this, hl, hp, if_true, if_false]

theorem decodeFields_spec (bs : Bytes) (tbl : Tbl) (rawLen vi w : Nat) (fields : List Bytes) (enc : Bytes) :
    FOut bs tbl rawLen vi w enc fields (decodeFields bs tbl rawLen vi w fields enc) := by
  unfold decodeFields
  split
  · exact .few ‹_›
  · rename_i hlen
    match fields, hlen with
    | [], hlen => simp at hlen
    | [_], hlen => simp at hlen
    | f0 :: f1 :: r, hlen =>
      have hr : r ≠ [] := by rintro rfl; simp at hlen
      dsimp only
      split
      · exact .raise hr ‹_›
      · exact .bad hr ‹_›
      · rename_i ml hh
        unfold decodeBody
        split
        · exact .short hr hh ‹_›
        · rename_i hle
          have hle : ml ≤ rawLen - vi := Nat.not_lt.1 hle
          obtain ⟨res, hres⟩ := fieldLoop_no_raise tbl (cksumOf (f0 :: f1 :: r)) (f0 :: f1 :: r)
          split
          · rename_i k hk; rw [hres] at hk; cases hk
          · exact .badField hr hh hle ‹_›
          · split
            · exact .msg hr hh hle ‹_› ‹_›
            · exact .ckFail hr hh hle ‹_› (Bool.eq_false_iff.2 ‹_›)

/-- what a result of `decode` on a buffer of `rawLen` bytes may look like -/
def ResOK (rawLen : Nat) (enc : Bytes) : DecRes → Prop
  | .msg _ n e => 0 < n ∧ n ≤ rawLen ∧ e = enc
  | .none n => n ≤ rawLen
  | .raised _ => True

theorem FOut.resOK {bs : Bytes} {tbl : Tbl} {rawLen vi w : Nat} {enc : Bytes} {fields : List Bytes} {res : DecRes}
    (h : FOut bs tbl rawLen vi w enc fields res) (hvi : vi ≤ rawLen) (hw : w ≤ rawLen) : ResOK rawLen enc res := by
  cases h with
  | few _ => exact hw
  | raise _ _ => trivial
  | bad _ _ => exact Nat.le_refl _
  | short _ _ _ => exact hvi
  | badField _ _ _ _ => exact Nat.le_refl _
  | ckFail _ _ hle _ _ => show vi + _ ≤ rawLen; omega
  | msg _ hh hle _ _ => have := hdr_ok_pos hh; exact ⟨by omega, by omega, rfl⟩

/-- The header guards pass with declared length `ml` and the field loop runs to the end with the CheckSum flag
set, leaving message `m`.  Together with "`ml` bytes are buffered behind the marker" this is what makes `decode`
return a message; it depends on the fields only, not on the buffer they were cut from. -/
def Accepted (bs : Bytes) (tbl : Tbl) (fields : List Bytes) (ml : Nat) (m : Msg) : Prop :=
  ∃ f0 f1 rest s, fields = f0 :: f1 :: rest ∧ rest ≠ [] ∧ hdr bs f0 f1 = .ok ml ∧
    fieldLoop tbl (cksumOf fields) {} fields = .ok (some s) ∧
    s.ckPassed = true ∧ m = { mtype := s.mtype, body := s.top }

theorem decodeFields_msg_iff {bs : Bytes} {tbl : Tbl} {rawLen vi w : Nat} {fields : List Bytes} {enc : Bytes}
    {m : Msg} {n : Nat} {e : Bytes} :
    decodeFields bs tbl rawLen vi w fields enc = .msg m n e ↔
      ∃ ml, Accepted bs tbl fields ml m ∧ ml ≤ rawLen - vi ∧ n = vi + ml ∧ e = enc := by
  constructor
  · intro h
    have hs := decodeFields_spec bs tbl rawLen vi w fields enc
    rw [h] at hs
    cases hs with
    | msg hr hh hle hl hp => exact ⟨_, ⟨_, _, _, _, rfl, hr, hh, hl, hp, rfl⟩, hle, rfl, rfl⟩
  · rintro ⟨ml, ⟨f0, f1, rest, s, rfl, hrest, hh, hloop, hp, rfl⟩, hml, rfl, rfl⟩
    exact (FOut.msg hrest hh hml hloop hp).eq

theorem drop_of_findSub {pat raw : Bytes} {vi : Nat} (h : findSub pat raw = some vi) :
    ∃ b, raw.drop vi = pat ++ b ∧ vi ≤ raw.length := by
  obtain ⟨a, b, rfl, rfl⟩ := findSub_some h
  exact ⟨b, by simp, by simp⟩

/-- **What `decode` returns on which buffer.** -/
inductive Decodes (bs : Bytes) (tbl : Tbl) (raw : Bytes) : DecRes → Prop
  | noMarker : findSub marker raw = none → Decodes bs tbl raw (.none (raw.length - partialMarkerKeep raw))
  | openCk {vi} : findSub marker raw = some vi → ckOpen (raw.drop vi) = true → Decodes bs tbl raw (.none vi)
  | fields {vi res} : findSub marker raw = some vi → ckOpen (raw.drop vi) = false →
      FOut bs tbl raw.length vi (waitResOf vi (raw.drop vi)) ((raw.drop vi).take (cutOf (raw.drop vi)))
        (fieldsOf ((raw.drop vi).take (cutOf (raw.drop vi)))) res →
      Decodes bs tbl raw res

theorem Decodes.eq {bs : Bytes} {tbl : Tbl} {raw : Bytes} {res : DecRes} (h : Decodes bs tbl raw res) :
    decode bs tbl raw = res := by
  rw [decode_eq]
  cases h with
  | noMarker h => rw [h]
  | openCk h ho => rw [h]; dsimp only; rw [if_pos ho]
  | fields h ho hf => rw [h]; dsimp only; rw [if_neg (by simp [ho]), hf.eq]

theorem decode_spec (bs : Bytes) (tbl : Tbl) (raw : Bytes) : Decodes bs tbl raw (decode bs tbl raw) := by
  rw [decode_eq]
  cases h : findSub marker raw with
  | none => exact .noMarker h
  | some vi =>
    dsimp only
    split
    · exact .openCk h ‹_›
    · exact .fields h (Bool.eq_false_iff.2 ‹_›) (decodeFields_spec ..)

theorem decode_iff {bs : Bytes} {tbl : Tbl} {raw : Bytes} {res : DecRes} :
    decode bs tbl raw = res ↔ Decodes bs tbl raw res :=
  ⟨fun h => h ▸ decode_spec bs tbl raw, Decodes.eq⟩

/-- the piece behind the marker starts with `8=`, so the one raising class is empty -/
theorem decode_ne_raised (bs : Bytes) (tbl : Tbl) (raw : Bytes) (k : Kind) :
    decode bs tbl raw ≠ .raised k := by
  intro h
  cases decode_iff.1 h with
  | fields hvi _ hf =>
    obtain ⟨b, hb, _⟩ := drop_of_findSub hvi
    rw [hb] at hf
    generalize hF : fieldsOf _ = F at hf
    cases hf with
    | raise hr hh =>
      obtain ⟨f, rfl⟩ := fieldsOf_head b _ hF (Nat.not_lt.1 (three_le hr))
      exact hdr_head bs f _ hh

theorem decode_resOK (bs : Bytes) (tbl : Tbl) (raw : Bytes) :
    ∃ enc, ResOK raw.length enc (decode bs tbl raw) := by
  have hs := decode_spec bs tbl raw
  generalize decode bs tbl raw = res at hs
  cases hs with
  | noMarker _ => exact ⟨[], by simp only [ResOK]; omega⟩
  | openCk h _ => obtain ⟨_, _, hvi⟩ := drop_of_findSub h; exact ⟨[], hvi⟩
  | fields h _ hf =>
    obtain ⟨_, _, hvi⟩ := drop_of_findSub h
    exact ⟨_, hf.resOK hvi (waitResOf_le hvi)⟩

/-- **when `decode` returns a message**: the marker is found at `vi`, no CheckSum field is open, the piece cut
behind the marker is accepted with declared length `ml`, and `ml` bytes are buffered behind the marker -/
theorem decode_msg_iff {bs : Bytes} {tbl : Tbl} {raw : Bytes} {m : Msg} {n : Nat} {e : Bytes} :
    decode bs tbl raw = .msg m n e ↔
      ∃ vi ml, findSub marker raw = some vi ∧ ckOpen (raw.drop vi) = false ∧
        e = (raw.drop vi).take (cutOf (raw.drop vi)) ∧ Accepted bs tbl (fieldsOf e) ml m ∧
        ml ≤ raw.length - vi ∧ n = vi + ml := by
  rw [decode_iff]
  constructor
  · intro h
    cases h with
    | fields hvi ho hf =>
      obtain ⟨ml, ha, hml, rfl, rfl⟩ := decodeFields_msg_iff.1 hf.eq
      exact ⟨_, ml, hvi, ho, rfl, ha, hml, rfl⟩
  · rintro ⟨vi, ml, hvi, ho, rfl, ha, hml, rfl⟩
    refine .fields hvi ho ?_
    have := decodeFields_spec bs tbl raw.length vi (waitResOf vi (raw.drop vi))
      (fieldsOf ((raw.drop vi).take (cutOf (raw.drop vi)))) ((raw.drop vi).take (cutOf (raw.drop vi)))
    rwa [decodeFields_msg_iff.2 ⟨ml, ha, hml, rfl, rfl⟩] at this

theorem decode_msg_range {bs : Bytes} {tbl : Tbl} {buf : Bytes} {m : Msg} {n : Nat} {raw : Bytes}
    (h : decode bs tbl buf = .msg m n raw) : 0 < n ∧ n ≤ buf.length := by
  obtain ⟨_, hr⟩ := decode_resOK bs tbl buf
  rw [h] at hr
  exact ⟨hr.1, hr.2.1⟩

/-- the loop of `socket_read_task` without the model's defensive guard -/
theorem readLoop_eq (bs : Bytes) (tbl : Tbl) (buf : Bytes) (acc : List (Msg × Bytes)) :
    readLoop bs tbl buf acc =
      match decode bs tbl buf with
      | .raised k => { buf := buf, delivered := acc, raised := some k }
      | .none n => { buf := buf.drop n, delivered := acc }
      | .msg m n raw => readLoop bs tbl (buf.drop n) (acc ++ [(m, raw)]) := by
  rw [readLoop]
  split
  · rename_i hd; rw [hd]
  · rename_i hd; rw [hd]
  · rename_i m n raw hd
    rw [dif_pos (decode_msg_range hd), hd]

end AsyncFix.Model.Codec
