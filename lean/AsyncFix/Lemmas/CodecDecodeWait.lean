/-
When does `decode` ask the reader to wait (`.none 0`: nothing consumed)?  Characterisation of
that result, and stability of the parse under extension of the buffer once a complete
CheckSum field has arrived: the wait then ends at the latest when the declared length is
buffered (`closed_wait_bounded`).
-/
import AsyncFix.Lemmas.CodecDecodeOutcome
namespace AsyncFix.Model.Codec

/-- the total frame length that the head of the piece declares (0 when it declares none) -/
def declaredOf : List Bytes → Nat
  | f0 :: f1 :: _ =>
    match splitEq f1 with
    | some (_, v1) => (match pyInt v1 with | some bl => declaredLen f0 f1 bl | none => 0)
    | none => 0
  | _ => 0

theorem hdr_declaredOf {bs f0 f1 : Bytes} {ml : Nat} (h : hdr bs f0 f1 = .ok ml) (r : List Bytes) :
    declaredOf (f0 :: f1 :: r) = ml := by
  obtain ⟨_, _, _, _, h1, hbl, _, rfl⟩ := hdr_ok h
  simp only [declaredOf, h1, hbl]

theorem decodeFields_none_zero {bs : Bytes} {tbl : Tbl} {rawLen vi w : Nat} {fields : List Bytes} {enc : Bytes}
    (h : decodeFields bs tbl rawLen vi w fields enc = .none 0) :
    (fields.length < 3 ∧ w = 0) ∨ rawLen = 0 ∨
    (vi = 0 ∧ 3 ≤ fields.length ∧ rawLen < declaredOf fields) := by
  have hs := decodeFields_spec bs tbl rawLen vi w fields enc
  generalize decodeFields bs tbl rawLen vi w fields enc = res at h hs
  cases hs with
  | few hl => cases h; exact Or.inl ⟨hl, rfl⟩
  | raise _ _ => cases h
  | bad _ _ => cases h; exact Or.inr (Or.inl rfl)
  | badField _ _ _ _ => cases h; exact Or.inr (Or.inl rfl)
  | short hr hh hlt =>
    -- the declared length is not buffered yet
    cases h
    exact Or.inr (Or.inr ⟨rfl, Nat.not_lt.1 (three_le hr), by rw [hdr_declaredOf hh]; omega⟩)
  | ckFail _ hh _ _ _ => have := hdr_ok_pos hh; have := DecRes.none.inj h; omega
  | msg _ _ _ _ _ => cases h

theorem partialKeep_zero {raw : Bytes} (h : raw.length - partialMarkerKeep raw = 0) :
    raw.length ≤ 5 ∧ raw = marker.take raw.length := by
  obtain ⟨h5, hl, hd, _⟩ := pmk_spec raw
  have e : partialMarkerKeep raw = raw.length := by omega
  rw [h, List.drop_zero, e] at hd
  exact ⟨by omega, hd⟩

/-- **characterisation of "wait"**: `decode` consumes nothing only if
 (a) the buffer is a proper prefix of the frame-start marker, or
 (b) it starts with the marker and `SOH 10=` has arrived but not the SOH that ends that field, or
 (c) it starts with the marker, no `SOH 10=` has arrived and the piece has fewer than three fields, or
 (d) it starts with the marker, has at least three fields, and the length it declares exceeds
     what is buffered. -/
theorem decode_none_zero {bs : Bytes} {tbl : Tbl} {raw : Bytes} (h : decode bs tbl raw = .none 0) :
    (findSub marker raw = none ∧ raw.length ≤ 5 ∧ raw = marker.take raw.length) ∨
    (isPrefix marker raw = true ∧ ckOpen raw = true) ∨
    (isPrefix marker raw = true ∧ findSub cksumPat raw = none ∧
      (fieldsOf (raw.take (cutOf raw))).length < 3) ∨
    (isPrefix marker raw = true ∧ 3 ≤ (fieldsOf (raw.take (cutOf raw))).length ∧
      raw.length < declaredOf (fieldsOf (raw.take (cutOf raw)))) := by
  have hpre : findSub marker raw = some 0 → isPrefix marker raw = true := by
    intro hvi
    obtain ⟨b, hb, _⟩ := drop_of_findSub hvi
    rw [List.drop_zero] at hb
    rw [hb]; exact isPrefix_append _ _
  have hs := decode_iff.1 h
  generalize hres : DecRes.none 0 = res at hs
  cases hs with
  | noMarker hvi => exact Or.inl ⟨hvi, partialKeep_zero (DecRes.none.inj hres).symm⟩
  | openCk hvi hopen =>
    cases hres
    exact Or.inr (Or.inl ⟨hpre hvi, by simpa only [List.drop_zero] using hopen⟩)
  | @fields vi _ hvi hopen hf =>
    subst hres
    right; right
    rcases decodeFields_none_zero hf.eq with ⟨h1, h2⟩ | h1 | ⟨rfl, h2, h3⟩
    · left
      cases hcl : closedAtOf (raw.drop vi) with
      | some c =>
        have := (closedAtOf_le hcl).1
        rw [waitResOf_of_closed vi hcl] at h2
        omega
      | none =>
        rw [waitResOf_of_open vi hcl] at h2
        subst h2
        simp only [List.drop_zero] at h1 hcl hopen
        refine ⟨hpre hvi, ?_, h1⟩
        cases hci : findSub cksumPat raw with
        | none => rfl
        | some ci => rw [ckOpen_of_open hci hcl] at hopen; cases hopen
    · have := findSub_le hvi
      simp only [marker, List.length_cons, List.length_nil] at this
      omega
    · right
      simp only [List.drop_zero] at h2 h3
      exact ⟨hpre hvi, h2, h3⟩

theorem decode_append_closed {bs : Bytes} {tbl : Tbl} {raw : Bytes} {vi c : Nat} (ext : Bytes)
    (hvi : findSub marker raw = some vi) (hc : closedAtOf (raw.drop vi) = some c) :
    decode bs tbl (raw ++ ext) =
      decodeFields bs tbl (raw ++ ext).length vi (vi + c)
        (fieldsOf ((raw.drop vi).take c)) ((raw.drop vi).take c) := by
  rw [decode_eq, findSub_append ext hvi]
  dsimp only
  obtain ⟨b, hb, hle⟩ := drop_of_findSub hvi
  have hd : (raw ++ ext).drop vi = raw.drop vi ++ ext := List.drop_append_of_le_length hle
  have hc' := closedAtOf_append ext hc
  have hcle := (closedAtOf_le hc).2
  rw [hd]
  rw [ckOpen_of_closed hc', cutOf_of_closed hc', waitResOf_of_closed vi hc', List.take_append_of_le_length hcle]
  simp

/-- Once a complete CheckSum field has arrived (at or after the first marker), the decoder stops
waiting at the latest when `vi + declared length` bytes are buffered – for EVERY continuation of
the stream. -/
theorem closed_wait_bounded (bs : Bytes) (tbl : Tbl) {raw : Bytes} {vi c : Nat}
    (hvi : findSub marker raw = some vi) (hc : closedAtOf (raw.drop vi) = some c) (ext : Bytes)
    (hN : vi + declaredOf (fieldsOf ((raw.drop vi).take c)) ≤ (raw ++ ext).length) :
    decode bs tbl (raw ++ ext) ≠ .none 0 := by
  intro h
  rw [decode_append_closed ext hvi hc] at h
  have hlen : 6 ≤ raw.length := by
    have := findSub_le hvi
    simp only [marker, List.length_cons, List.length_nil] at this
    omega
  have hc2 := (closedAtOf_le hc).1
  rcases decodeFields_none_zero h with ⟨_, h2⟩ | h1 | ⟨h1, _, h3⟩
  · omega
  · simp only [List.length_append] at h1; omega
  · omega

/-- a buffer that contains, after a marker, a complete CheckSum field is "closed" -/
theorem closed_of_contains {p q v r : Bytes} :
    ∃ vi c, findSub marker (p ++ marker ++ q ++ cksumPat ++ v ++ SOH :: r) = some vi ∧
      closedAtOf ((p ++ marker ++ q ++ cksumPat ++ v ++ SOH :: r).drop vi) = some c := by
  generalize hraw : p ++ marker ++ q ++ cksumPat ++ v ++ SOH :: r = raw
  have hocc : raw = p ++ (marker ++ (q ++ cksumPat ++ v ++ SOH :: r)) := by
    rw [← hraw]; simp only [List.append_assoc]
  cases hvi : findSub marker raw with
  | none => exact absurd hocc (findSub_none (by decide) hvi _ _)
  | some vi =>
    refine ⟨vi, ?_⟩
    have hmin := findSub_min hvi hocc
    -- the piece after `vi` still contains the checksum pattern followed by an SOH
    have hmsg : raw.drop vi = (p ++ marker ++ q).drop vi ++ (cksumPat ++ (v ++ SOH :: r)) := by
      rw [← hraw]
      have : p ++ marker ++ q ++ cksumPat ++ v ++ SOH :: r
          = (p ++ marker ++ q) ++ (cksumPat ++ (v ++ SOH :: r)) := by simp only [List.append_assoc]
      rw [this]
      exact List.drop_append_of_le_length (by simp only [List.length_append]; omega)
    generalize raw.drop vi = msg at hmsg
    generalize (p ++ marker ++ q).drop vi = x at hmsg
    cases hci : findSub cksumPat msg with
    | none => exact absurd hmsg (findSub_none (by decide) hci _ _)
    | some ci =>
      have hcmin := findSub_min hci hmsg
      cases he : findChar SOH (msg.drop (ci + 1)) with
      | none =>
        exfalso
        apply findChar_eq_none.1 he
        have : msg = (x ++ cksumPat ++ v) ++ SOH :: r := by rw [hmsg]; simp only [List.append_assoc]
        rw [this, List.drop_append_of_le_length (by simp [cksumPat]; omega)]
        simp
      | some e =>
        exact ⟨e + (ci + 1) + 1, rfl, closedAtOf_eq_some.2 ⟨ci, e, hci, he, rfl⟩⟩

end AsyncFix.Model.Codec
