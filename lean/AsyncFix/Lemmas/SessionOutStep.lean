import AsyncFix.Lemmas.SessionOutHandlers
import AsyncFix.Lemmas.SessionOutResend

/-!
C05: the step relation holds for every entry point except `reset_seq_num`, which re-establishes the
invariant from scratch; both over histories (`run_good`, `run_inv`).
-/
namespace AsyncFix.Session

open AsyncFix.Generated AsyncFix.Generated.ConnEnum

variable {sr : Msg → Bool} {U X : Prop}

theorem processDispatch_hold (env : Env) (m : Msg) (valid : Bool) (n : Int) (c : Conn)
    (hI : OutInv c) (hl : Live c) (hstamp : isLatin1 env.stamp = true)
    (hX : X → m.mtype ≠ mResendRequest) :
    Hold sr U X c (processDispatch env sr m valid n) (fun _ _ => True) := by
  unfold processDispatch
  hstep
  · exact processResend_hold env m c hI hl hstamp
      (fun hx => hX hx (by simpa using ‹(m.mtype == mResendRequest) = true›))
  hstep
  · hstep
  hstep
  · hstep
  hstep
  · exact Hold.of_rel hI (processTestRequest_rel env m)
  hstep
  · exact Hold.of_rel hI (processHeartbeat_rel env m)
  repeat' hstep

theorem processMessage_hold (env : Env) (m : Msg) (c : Conn) (hI : OutInv c)
    (hstamp : isLatin1 env.stamp = true)
    (hX : X → m.mtype ≠ mResendRequest) :
    Hold sr U X c (processMessage env sr m) (fun _ _ => True) := by
  unfold processMessage
  refine Hold.bind (Hold.quiet (validateIntegrity_fp m) rfl hI) ?_
  intro integ c1 hI1 _
  cases integ with
  | critical => exact Hold.of_rel hI1 (disconnect_rel env _ none)
  | reason text => exact Hold.of_rel hI1 (disconnect_rel env _ (some text))
  | good =>
    dsimp only
    refine Hold.bind (Hold.swallow (processHead_hold env m c1 hI1) (fun _ _ => by simp)) ?_
    intro head c2 hI2 hhead
    cases head with
    | none => exact Hold.pure hI2 trivial
    | some vn =>
      obtain ⟨valid, n⟩ := vn
      dsimp only
      refine Hold.bind (Hold.swallow (Q := fun _ _ => True)
        (processDispatch_hold env m valid n c2 hI2 (hhead rfl) hstamp hX) (fun _ _ => trivial)) ?_
      intro _ c3 hI3 _
      hstep
      · exact finalizeMessage_hold env m c3 hI3
      · exact Hold.pure hI3 trivial

theorem resetSeq_inv (c : Conn) (hI : OutInv c) :
    OutInv (resetSeq c).1 ∧ newWrites (resetSeq c).2 = [] ∧ (resetSeq c).1.sess.nextOut = 1 := by
  have key : resetSeqNum c = ⟨.ok (),
      { c with sess := { c.sess with nextOut := 1, nextIn := 1 },
               journal := c.journal.setSeq 1 1 }, []⟩ := rfl
  unfold resetSeq M.run
  rw [key]
  refine ⟨⟨by simp [Journal.setSeq], ?_, Rows.sorted_below hI.sorted _, hI.latin, hI.sock⟩, rfl, rfl⟩
  intro p hp
  have hp' := Rows.mem_below.mp hp
  exact ⟨(hI.rows p hp'.1).1, hp'.2⟩

/-- event side conditions: SendingTime text is single-byte (the real clock prints ASCII); an
application send is a NEW message (no hand-made SequenceReset / PossDupFlag=Y). -/
def Event.ok : Event → Prop
  | .recv env _ => isLatin1 env.stamp = true
  | .appSend _ m => isNew m = true
  | _ => True

instance (ev : Event) : Decidable ev.ok := by
  cases ev <;> unfold Event.ok <;> infer_instance

def isResendReq : Event → Bool
  | .recv _ m => m.mtype == mResendRequest
  | _ => false

def isReset : Event → Bool
  | .resetSeq => true
  | _ => false

theorem step_good (c : Conn) (ev : Event) (hI : OutInv c) (hok : ev.ok)
    (hX : X → isResendReq ev = false) (hr : isReset ev = false) :
    Good sr U X c (step sr c ev).1 (step sr c ev).2 := by
  cases ev with
  | recv env m =>
    refine (processMessage_hold env m c hI hok ?_).run
    intro hx h2
    have := hX hx
    simp [isResendReq, h2] at this
  | appSend env m => exact (sendMsg_hold env m c hI hok).run
  | appTestReq env => exact (Hold.of_rel hI (sendTestReq_rel env)).run
  | appDisconnect env d l => exact (Hold.of_rel hI (disconnect_rel env d l)).run
  | tick env => exact (Hold.of_rel hI (tickBody_rel env)).run
  | eof env =>
    show Good sr U X c (eof env c).1 (eof env c).2
    unfold eof
    split
    · exact (Hold.of_rel hI (disconnect_rel env _ none)).run
    · exact Good.refl hI
  | connected k => exact (Hold.of_rel hI (GoodFrom.quiet (connectedM_fp k) rfl)).run
  | resetSeq => cases hr

theorem step_inv (sr : Msg → Bool) (c : Conn) (ev : Event) (hI : OutInv c) (hok : ev.ok) :
    OutInv (step sr c ev).1 := by
  by_cases hr : isReset ev = true
  · cases ev <;> simp [isReset] at hr
    exact (resetSeq_inv c hI).1
  · exact (step_good (sr := sr) (U := True) (X := False) c ev hI hok
      (fun h => h.elim) (by simpa using hr)).inv

theorem run_inv (sr : Msg → Bool) (evs : List Event) : ∀ (c : Conn), OutInv c →
    (∀ ev ∈ evs, ev.ok) → OutInv (run sr c evs).1 := by
  induction evs with
  | nil => intro c hI _; exact hI
  | cons ev rest ih =>
    intro c hI hok
    rw [run_cons]
    exact ih _ (step_inv sr c ev hI (hok ev (by simp))) (fun e he => hok e (by simp [he]))

theorem run_good (evs : List Event) : ∀ (c : Conn), OutInv c →
    (∀ ev ∈ evs, ev.ok ∧ isReset ev = false) → (X → ∀ ev ∈ evs, isResendReq ev = false) →
    Good sr U X c (run sr c evs).1 (run sr c evs).2 := by
  induction evs with
  | nil => intro c hI _ _; exact Good.refl hI
  | cons ev rest ih =>
    intro c hI hok hX
    rw [run_cons]
    have h1 := step_good (sr := sr) (U := U) (X := X) c ev hI (hok ev (by simp)).1
      (fun hx => hX hx ev (by simp)) (hok ev (by simp)).2
    exact h1.trans (ih _ h1.inv (fun e he => hok e (by simp [he]))
      (fun hx e he => hX hx e (by simp [he])))

end AsyncFix.Session
