import AsyncFix.Lemmas.SessionHandlers

/-!
`send_msg` and `_process_message` on a connection past the logon gates, for the families that follow such a
connection through single events.  `sendMsg_on`: what `send_msg` does there, all outcomes.  `recv_expected` /
`recv_above`: the way through `_process_message` of a frame addressed to the connection that carries the expected
number / a higher one; `finalized`: `_finalize_message` for the expected number in closed form.
"Established" = `8 ≤ c.state` (LOGON_INITIAL_RECV and above: the state checks of `send_msg` pass, `gate_on`).
Vocabulary: `Plain m` (a message the encoder numbers afresh), `OutboundOnly`, `Addressed c m n` (header of a frame for
this connection, numbered `n`), `finalized`.  SessionWatchdog*, Tester*, SessionResendRecv build on it.  Made elsewhere for the
same things: `HeaderOk` (SessionInteg, `Addressed` without the number), `gapConn` (SessionInGap).
-/
namespace AsyncFix.Session

open AsyncFix.Generated AsyncFix.Generated.ConnEnum

/-- `send_msg`'s state checks pass in every state from LOGON_INITIAL_RECV (8) upwards – in particular
RESENDREQ_HANDLING (10), RECV_SEQNUM_TOO_HIGH (11), RESENDREQ_AWAITING (12), ACTIVE (17) -/
theorem gate_on (m : Msg) {c : Conn} (h8 : 8 ≤ c.state) :
    st_NETWORK_CONN_ESTABLISHED < c.state ∧
      ¬ (c.role = roleInitiator ∧ c.state = st_LOGON_INITIAL_SENT ∧ m.mtype ≠ mLogout) :=
  ⟨by show 6 < c.state; omega, fun h => by have : c.state = 7 := h.2.1; omega⟩

/-- `send_msg` on a logged-on connection (state ≥ 8) with a transport, completely: EncodingError (latin-1),
DuplicateSeqNoError (journal row exists), or journal + write. -/
theorem sendMsg_on (env : Env) (c : Conn) (m : Msg) (h8 : 8 ≤ c.state) (hs : c.sock = true)
    (hp : Plain m) (ht : (m.mtype == mTestRequest && c.testReqId.isNone) = false) :
    sendMsg env m c =
      if frameLatin1 (buildFrame c.sess env.stamp m c.sess.nextOut) = false then ⟨.error .encoding, c, []⟩
      else match c.journal.persist .outbound c.sess.nextOut (buildFrame c.sess env.stamp m c.sess.nextOut) with
        | none => ⟨.error .duplicateSeqNo, bump c, []⟩
        | some j => ⟨.ok (), sent c j, [.write (buildFrame c.sess env.stamp m c.sess.nextOut)]⟩ := by
  rw [sendMsg_pass env (gate_on m h8).1 (gate_on m h8).2,
    sendCore_fresh env hp.1 hp.2, if_neg (by simp [ht])]
  simp only [hs, Bool.not_true, Bool.false_eq_true, if_false, Bool.not_eq_true']
  rfl

/-- `c'` differs from `c` at most in the outbound number and the journal: all that a `send_msg` on a
logged-on connection can change, whether it returns or raises -/
structure OutboundOnly (c c' : Conn) : Prop where
  state : c'.state = c.state
  sock : c'.sock = c.sock
  hb : c'.hb = c.hb
  testReqId : c'.testReqId = c.testReqId
  lastTime : c'.lastTime = c.lastTime
  maxResend : c'.maxResend = c.maxResend
  nextIn : c'.sess.nextIn = c.sess.nextIn
  sender : c'.sess.sender = c.sess.sender
  target : c'.sess.target = c.sess.target

/-- … and so, whatever becomes of the send: at most the frame is written, only when it returns.  (The one place
where the three outcomes are told apart; where latin-1-ness and the journal row are hypotheses, `sendMsg_on` gives
the outcome itself.) -/
theorem sendMsg_on_only (env : Env) (c : Conn) (m : Msg) (h8 : 8 ≤ c.state) (hs : c.sock = true)
    (hp : Plain m) (ht : (m.mtype == mTestRequest && c.testReqId.isNone) = false) :
    OutboundOnly c (sendMsg env m c).conn ∧
    ((sendMsg env m c).eff = [] ∨
      (sendMsg env m c).eff = [.write (buildFrame c.sess env.stamp m c.sess.nextOut)]) := by
  rw [sendMsg_on env c m h8 hs hp ht]
  split
  · exact ⟨⟨rfl, rfl, rfl, rfl, rfl, rfl, rfl, rfl, rfl⟩, Or.inl rfl⟩
  · split
    · exact ⟨⟨rfl, rfl, rfl, rfl, rfl, rfl, rfl, rfl, rfl⟩, Or.inl rfl⟩
    · exact ⟨⟨rfl, rfl, rfl, rfl, rfl, rfl, rfl, rfl, rfl⟩, Or.inr rfl⟩

/-- `m` passes the header checks of `_validate_integrity` on `c` and is numbered `n` -/
structure Addressed (c : Conn) (m : Msg) (n : Int) : Prop where
  begin : m.get? tBeginString = some Proto.beginString
  sender : m.get? tSenderCompID = some c.sess.target
  target : m.get? tTargetCompID = some c.sess.sender
  seq : ∃ v, m.get? tMsgSeqNum = some v ∧ pyInt v = some n

theorem Addressed.congr {c c1 : Conn} {m : Msg} {n : Int} (h : Addressed c m n)
    (h2 : c1.sess.sender = c.sess.sender) (h3 : c1.sess.target = c.sess.target) : Addressed c1 m n :=
  ⟨h.begin, by rw [h3]; exact h.sender, by rw [h2]; exact h.target, h.seq⟩

/-- outcome of `_finalize_message` for the expected number: counter advanced, then `stamped` (the wait for a
resend ended when due, the receive time set while connected); frame journaled – or DuplicateSeqNoError
(escaping) when the journal already holds that number -/
def finalized (env : Env) (c : Conn) (m : Msg) : Conn × List Effect :=
  let c0 : Conn := { c with sess := { c.sess with nextIn := c.sess.nextIn + 1 } }
  let e0 : List Effect := if promoted c0 c.sess.nextIn then [.onState st_ACTIVE] else []
  match c.journal.persist .inbound c.sess.nextIn m with
  | none => (stamped env c0 c.sess.nextIn, e0 ++ [.raised .duplicateSeqNo])
  | some j => ({ stamped env c0 c.sess.nextIn with journal := j }, e0)

theorem finalizeMessage_expected (env : Env) {c : Conn} {m : Msg} (h : Addressed c m c.sess.nextIn)
    (hpos : 0 < c.sess.nextIn) (hm : m.mtype ≠ mSequenceReset)
    (hmr : c.state = st_RESENDREQ_AWAITING → 0 < c.maxResend) :
    (finalizeMessage env m).run c = finalized env c m := by
  obtain ⟨v, hv, hn⟩ := h.seq
  rw [M.run, finalizeMessage_counted env (setNextNumIn_plain hm hv hn rfl) hpos hmr,
    persistInbound_numbered hv hn]
  unfold finalized
  cases hj : c.journal.persist .inbound c.sess.nextIn m <;> simp [stamped, hj]

theorem finalized_plain (env : Env) {c : Conn} {m : Msg} {j : Journal} (h3 : st_DISCONNECTED_BROKEN_CONN < c.state)
    (hna : c.state ≠ st_RESENDREQ_AWAITING) (hj : c.journal.persist .inbound c.sess.nextIn m = some j) :
    finalized env c m =
      ({ c with sess := { c.sess with nextIn := c.sess.nextIn + 1 }, lastTime := env.now, journal := j }, []) := by
  simp [finalized, hj, stamped, promoted, hna, h3]

section recv
variable {sr : Msg → Bool} {env : Env} {c c1 c2 : Conn} {m : Msg} {n : Int} {e1 e2 : List Effect}

/-- A frame with the expected number that is neither Logon, SequenceReset nor Logout goes straight to the
dispatch as valid. -/
theorem recv_expected {r : Except Exc Unit} (h7 : st_LOGON_INITIAL_SENT < c.state)
    (ha : Addressed c m c.sess.nextIn) (hA : m.mtype ≠ mLogon) (h4 : m.mtype ≠ mSequenceReset)
    (h5 : m.mtype ≠ mLogout) (hd : processDispatch env sr m true c.sess.nextIn c = ⟨r, c1, e1⟩) :
    recv sr env c m =
      (((finalizeMessage env m).run c1).1, e1 ++ caught r ++ ((finalizeMessage env m).run c1).2) := by
  obtain ⟨v, hv, hn⟩ := ha.seq
  have hh : processHead env m c = ⟨.ok (some (true, c.sess.nextIn)), c, []⟩ := by
    rw [processHead_plain env h7 hA h4 h5 hv hn, M.bind_ok (checkSeqnumGaps_le env (Int.le_refl _))]
    rfl
  exact recv_valid (validateIntegrity_good ha.begin ha.sender ha.target hv hn (Or.inl (Int.le_refl _))) hh hd

/-- … numbered above the expectation: the gap check (nothing while a resend is awaited, else the ResendRequest),
then the dispatch with `is_valid_msg_num = False`; the frame is not counted.  When the gap check raises (the
ResendRequest could not be sent) the exception is logged and the frame dropped. -/
theorem recv_above {rg : Except Exc Bool} (h7 : st_LOGON_INITIAL_SENT < c.state) (ha : Addressed c m n)
    (hlt : c.sess.nextIn < n) (hA : m.mtype ≠ mLogon) (h4 : m.mtype ≠ mSequenceReset) (h5 : m.mtype ≠ mLogout)
    (hg : checkSeqnumGaps env n c = ⟨rg, c2, e2⟩) (hf : rg ≠ .ok true) :
    recv sr env c m =
      match rg with
      | .error ex => (c2, e2 ++ [.caught ex])
      | .ok _ => ((processDispatch env sr m false n c2).conn,
          e2 ++ ((processDispatch env sr m false n c2).eff ++ caught (processDispatch env sr m false n c2).res)) := by
  obtain ⟨v, hv, hn⟩ := ha.seq
  have hi := validateIntegrity_good (c := c) ha.begin ha.sender ha.target hv hn (Or.inl (Int.le_of_lt hlt))
  have hhead := processHead_plain env h7 hA h4 h5 hv hn
  cases rg with
  | error ex =>
    rw [M.bind_err hg] at hhead
    exact M.run_ok (processMessage_of_head_none sr hi (by rw [swallow_apply, hhead]))
  | ok b =>
    cases b with
    | true => exact absurd rfl hf
    | false =>
      rw [M.bind_ok hg] at hhead
      have hp := processMessage_of_head (sr := sr) hi (c1 := c2) (e1 := e2) (valid := false) (n := n)
        (by rw [swallow_apply, hhead]; simp) (swallow_unit rfl)
      exact M.run_ok (by rw [hp]; rfl)

end recv

end AsyncFix.Session
