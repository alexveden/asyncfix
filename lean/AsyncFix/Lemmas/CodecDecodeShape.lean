/-
`decode` in stages: marker search, the cut behind the marker (`closedAtOf`, `cutOf`), the field split
(`fieldsOf`), the BeginString / BodyLength guards (`hdr`), the length guard and the field loop (`decodeBody`).
`decode_eq` states the model's single definition in these terms; then facts about the single stages:
`partialMarkerKeep`, the cut, the first field.
-/
import AsyncFix.Model.Codec.Decode
import AsyncFix.Lemmas.CodecDecodeBytes
namespace AsyncFix.Model.Codec

/-- end of the first complete `SOH 10=…SOH` field (Python `frame_closed` / `cksum_end + 1`) -/
def closedAtOf (msg : Bytes) : Option Nat :=
  match findSub cksumPat msg with
  | some ci => (match findChar SOH (msg.drop (ci + 1)) with
      | some e => some (e + (ci + 1) + 1)
      | none => none)
  | none => none

/-- start of the next `8=FIX.` after the head, else the end of the buffer -/
def nextMsg0Of (msg : Bytes) : Nat :=
  match findSub marker (msg.drop 5) with
  | some i => i + 5
  | none => msg.length

/-- Python `next_msg` -/
def cutOf (msg : Bytes) : Nat := (closedAtOf msg).getD (nextMsg0Of msg)

/-- `msg[:next_msg].split(SOH)` without a trailing empty element -/
def fieldsOf (encoded : Bytes) : List Bytes :=
  let fields0 := splitOn SOH encoded
  if fields0.getLast?.getD [] == [] then fields0.dropLast else fields0

/-- declared total length of the frame: `len(msg[0]) + len(msg[1]) + len("10=000") + 3 + BodyLength` -/
def declaredLen (f0 f1 : Bytes) (bl : Int) : Nat := f0.length + f1.length + 6 + 3 + bl.toNat

/-- outcome of the BeginString / BodyLength guards on the first two fields: the unpacking of `msg[0]` raises,
a guard returns "no message", or the frame declares total length `msgLength` -/
inductive Hdr
  | raise
  | bad
  | ok (msgLength : Nat)

def hdr (bs f0 f1 : Bytes) : Hdr :=
  match splitEq f0 with
  | none => .raise
  | some (_, v0) =>
    if v0 != bs then .bad else
    match splitEq f1 with
    | none => .bad
    | some (t1, v1) =>
      if t1 != tag9 then .bad else
      match pyInt v1 with
      | none => .bad
      | some bl => if bl < 0 then .bad else .ok (declaredLen f0 f1 bl)

/-- Python `checksum`: the byte sum of `SOH.join(msg[:-1])` and of the SOH in front of the last field, mod 256 -/
abbrev cksumOf (fields : List Bytes) : Nat := (sum (join SOH fields.dropLast) + 1) % 256

/-- the length guard and the field loop -/
def decodeBody (tbl : Tbl) (rawLen validIdx msgLength : Nat) (fields : List Bytes) (encoded : Bytes) : DecRes :=
  if msgLength > rawLen - validIdx then .none validIdx else
  match fieldLoop tbl (cksumOf fields) {} fields with
  | .error k => .raised k
  | .ok none => .none rawLen
  | .ok (some s) =>
    if s.ckPassed then .msg { mtype := s.mtype, body := s.top } (validIdx + msgLength) encoded
    else .none (validIdx + msgLength)

/-- everything `decode` does after cutting the buffer into fields; the buffer enters only through its length,
the marker offset and `waitRes`, the result of the "fewer than three fields" branch -/
def decodeFields (bs : Bytes) (tbl : Tbl) (rawLen validIdx waitRes : Nat)
    (fields : List Bytes) (encoded : Bytes) : DecRes :=
  if fields.length < 3 then .none waitRes else
  match fields with
  | f0 :: f1 :: _ =>
    match hdr bs f0 f1 with
    | .raise => .raised .valueError
    | .bad => .none rawLen
    | .ok ml => decodeBody tbl rawLen validIdx ml fields encoded
  | _ => .none validIdx

/-- result of the "fewer than three fields" branch -/
def waitResOf (validIdx : Nat) (msg : Bytes) : Nat :=
  if (closedAtOf msg).isSome then validIdx + cutOf msg else validIdx

/-- `SOH 10=` has been seen but the SOH that ends the CheckSum field has not arrived -/
def ckOpen (msg : Bytes) : Bool := (findSub cksumPat msg).isSome && (closedAtOf msg).isNone

/-- `decode` in stages.  The proof names the model's `let`s, folds them into the stage definitions and walks the
header guards, which `hdr` packs into one result. -/
theorem decode_eq (bs : Bytes) (tbl : Tbl) (raw : Bytes) :
    decode bs tbl raw =
      match findSub marker raw with
      | none => .none (raw.length - partialMarkerKeep raw)
      | some vi =>
        if ckOpen (raw.drop vi) then .none vi else
        decodeFields bs tbl raw.length vi (waitResOf vi (raw.drop vi))
          (fieldsOf ((raw.drop vi).take (cutOf (raw.drop vi))))
          ((raw.drop vi).take (cutOf (raw.drop vi))) := by
  unfold decode
  cases findSub marker raw with
  | none => rfl
  | some vi =>
    dsimp -zeta only
    extract_lets +onlyGivenNames msg nextMsg0 ckAt closedAt nextMsg encoded fields0 fields
    show (if ckOpen msg = true then _ else if _ then DecRes.none (waitResOf vi msg) else _) =
      if ckOpen msg = true then _ else decodeFields bs tbl raw.length vi (waitResOf vi msg) fields encoded
    clear_value fields encoded
    unfold decodeFields hdr
    congr 2
    match fields with
    | [] => rfl
    | [_] => rfl
    | f0 :: f1 :: r =>
      dsimp only
      cases splitEq f0 with
      | none => rfl
      | some p0 =>
        dsimp only
        -- `by_cases` and `if_pos`/`if_neg` on both sides: `split` is slow on a goal of this size
        by_cases h0 : (p0.2 != bs) = true
        · rw [if_pos h0, if_pos h0]
        rw [if_neg h0, if_neg h0]
        cases splitEq f1 with
        | none => rfl
        | some p1 =>
          dsimp only
          by_cases h1 : (p1.1 != tag9) = true
          · rw [if_pos h1, if_pos h1]
          rw [if_neg h1, if_neg h1]
          cases pyInt p1.2 with
          | none => rfl
          | some bl =>
            dsimp only
            by_cases h2 : bl < 0
            · rw [if_pos h2, if_pos h2]
            · rw [if_neg h2, if_neg h2]; rfl

/-- the largest `k` in `n, n-1, …, 1` that passes the test, else 0 -/
def lastPassing (p : Nat → Bool) : Nat → Nat
  | 0 => 0
  | n + 1 => if p (n + 1) then n + 1 else lastPassing p n

theorem lastPassing_spec (p : Nat → Bool) : ∀ n,
    lastPassing p n ≤ n ∧ (lastPassing p n = 0 ∨ p (lastPassing p n) = true) ∧
      ∀ k, k ≤ n → p k = true → k ≤ lastPassing p n
  | 0 => ⟨Nat.le_refl _, Or.inl rfl, fun _ hk _ => hk⟩
  | n + 1 => by
    rw [lastPassing]
    by_cases h : p (n + 1) = true
    · rw [if_pos h]; exact ⟨Nat.le_refl _, Or.inr h, fun _ hk _ => hk⟩
    · rw [if_neg h]
      obtain ⟨h1, h2, h3⟩ := lastPassing_spec p n
      refine ⟨Nat.le_succ_of_le h1, h2, fun k hk hp => h3 k ?_ hp⟩
      -- a test that fails is not the test for `k`
      have : k ≠ n + 1 := fun e => h (e ▸ hp)
      omega

/-- `partialMarkerKeep raw` unfolds to the chain of its five tests, longest first: it is `lastPassing _ 5` by `rfl` -/
theorem pmk_eq (raw : Bytes) : partialMarkerKeep raw =
    lastPassing (fun k => decide (k ≤ raw.length) && (raw.drop (raw.length - k) == marker.take k)) 5 := rfl

/-- `partialMarkerKeep` is the length of the longest proper marker prefix the buffer ends with -/
theorem pmk_spec (raw : Bytes) :
    partialMarkerKeep raw ≤ 5 ∧ partialMarkerKeep raw ≤ raw.length ∧
      raw.drop (raw.length - partialMarkerKeep raw) = marker.take (partialMarkerKeep raw) ∧
      ∀ k, k ≤ 5 → k ≤ raw.length → raw.drop (raw.length - k) = marker.take k → k ≤ partialMarkerKeep raw := by
  have h := lastPassing_spec
    (fun k => decide (k ≤ raw.length) && (raw.drop (raw.length - k) == marker.take k)) 5
  rw [← pmk_eq raw] at h
  simp only [Bool.and_eq_true, decide_eq_true_eq, beq_iff_eq] at h
  obtain ⟨h5, h0 | ⟨hl, hd⟩, hmax⟩ := h
  · rw [h0]; exact ⟨by omega, by omega, by simp, fun k hk hl hd => h0 ▸ hmax k hk ⟨hl, hd⟩⟩
  · exact ⟨h5, hl, hd, fun k hk hl hd => hmax k hk ⟨hl, hd⟩⟩

theorem pmk_ge {raw : Bytes} {k : Nat} (hk : k ≤ 5) (hl : k ≤ raw.length)
    (hd : raw.drop (raw.length - k) = marker.take k) : k ≤ partialMarkerKeep raw :=
  (pmk_spec raw).2.2.2 k hk hl hd

/-- `closedAtOf` by the two searches it makes: `SOH 10=` first at `ci`, the next SOH `e` bytes behind it -/
theorem closedAtOf_eq_some {msg : Bytes} {c : Nat} :
    closedAtOf msg = some c ↔ ∃ ci e, findSub cksumPat msg = some ci ∧
      findChar SOH (msg.drop (ci + 1)) = some e ∧ c = e + (ci + 1) + 1 := by
  unfold closedAtOf
  cases findSub cksumPat msg with
  | none => simp
  | some ci =>
    cases h2 : findChar SOH (msg.drop (ci + 1)) with
    | none => simp [h2]
    | some e => simp [h2, eq_comm]

theorem cutOf_of_closed {msg : Bytes} {c : Nat} (h : closedAtOf msg = some c) : cutOf msg = c := by
  rw [cutOf, h, Option.getD_some]

theorem ckOpen_of_closed {msg : Bytes} {c : Nat} (h : closedAtOf msg = some c) : ckOpen msg = false := by
  rw [ckOpen, h]; exact Bool.and_false _

theorem ckOpen_of_open {msg : Bytes} {ci : Nat} (hci : findSub cksumPat msg = some ci)
    (h : closedAtOf msg = none) : ckOpen msg = true := by
  rw [ckOpen, hci, h]; rfl

theorem waitResOf_of_closed {msg : Bytes} {c : Nat} (vi : Nat) (h : closedAtOf msg = some c) :
    waitResOf vi msg = vi + c := by
  rw [waitResOf, cutOf_of_closed h, h]; rfl

theorem waitResOf_of_open {msg : Bytes} (vi : Nat) (h : closedAtOf msg = none) : waitResOf vi msg = vi := by
  rw [waitResOf, h]; rfl

theorem closedAtOf_le {msg : Bytes} {n : Nat} (h : closedAtOf msg = some n) : 2 ≤ n ∧ n ≤ msg.length := by
  obtain ⟨ci, e, hci, he, rfl⟩ := closedAtOf_eq_some.1 h
  obtain ⟨a, b, hab, hl, _⟩ := findChar_some he
  have h1 := congrArg List.length hab
  have h2 := findSub_le hci
  simp only [List.length_drop, List.length_append, List.length_cons] at h1
  omega

theorem closedAtOf_append {msg : Bytes} {c : Nat} (ext : Bytes) (h : closedAtOf msg = some c) :
    closedAtOf (msg ++ ext) = some c := by
  obtain ⟨ci, e, hci, he, rfl⟩ := closedAtOf_eq_some.1 h
  have hle := findSub_le hci
  simp only [cksumPat, List.length_cons, List.length_nil] at hle
  refine closedAtOf_eq_some.2 ⟨ci, e, findSub_append ext hci, ?_, rfl⟩
  rw [List.drop_append_of_le_length (by omega)]
  exact findChar_append ext he

theorem nextMsg0Of_le (msg : Bytes) : nextMsg0Of msg ≤ msg.length ∨ msg.length < 5 := by
  unfold nextMsg0Of
  split
  · rename_i i hi
    have := findSub_le hi
    simp only [List.length_drop] at this
    omega
  · exact Or.inl (Nat.le_refl _)

theorem waitResOf_le {vi : Nat} {raw : Bytes} (hvi : vi ≤ raw.length) :
    waitResOf vi (raw.drop vi) ≤ raw.length := by
  cases hc : closedAtOf (raw.drop vi) with
  | none => rw [waitResOf_of_open vi hc]; exact hvi
  | some c =>
    have := (closedAtOf_le hc).2
    rw [waitResOf_of_closed vi hc]
    simp only [List.length_drop] at this
    omega

theorem take_marker (r : Bytes) (n : Nat) :
    SOH ∉ (marker ++ r).take n ∨ ∃ x, (marker ++ r).take n = 56 :: 61 :: x := by
  match n with
  | 0 => exact Or.inl (by simp)
  | 1 => exact Or.inl (by simp [marker, SOH])
  | n + 2 => exact Or.inr ⟨_, rfl⟩

/-- `fieldsOf` is `split(SOH)` without the one empty piece behind a final SOH -/
theorem fieldsOf_of_trailing {enc : Bytes} {F : List Bytes} (h : splitOn SOH enc = F ++ [[]]) :
    fieldsOf enc = F := by
  unfold fieldsOf
  dsimp only
  rw [h]
  simp

theorem splitOn_eq_fieldsOf (enc : Bytes) :
    splitOn SOH enc = fieldsOf enc ∨ splitOn SOH enc = fieldsOf enc ++ [[]] := by
  rcases List.eq_nil_or_concat (splitOn SOH enc) with h | ⟨X, a, h⟩
  · exact absurd h (splitOn_ne_nil _ _)
  · rw [List.concat_eq_append] at h
    by_cases ha : a = []
    · subst ha; exact Or.inr (by rw [fieldsOf_of_trailing h, h])
    · left
      unfold fieldsOf
      dsimp only
      rw [h, List.getLast?_concat, Option.getD_some, if_neg (by simpa using ha)]

theorem fieldsOf_prefix_splitOn (enc : Bytes) : fieldsOf enc <+: splitOn SOH enc := by
  rcases splitOn_eq_fieldsOf enc with h | h <;> rw [h]
  · exact List.prefix_refl _
  · exact List.prefix_append _ _

theorem fieldsOf_length_le (enc : Bytes) : (fieldsOf enc).length ≤ (splitOn SOH enc).length :=
  (fieldsOf_prefix_splitOn enc).length_le

/-- when the piece starts at the marker and has at least 3 fields, the first one is `8=…` -/
theorem fieldsOf_head (r : Bytes) (n : Nat) {f0 : Bytes} {rest : List Bytes}
    (h : fieldsOf ((marker ++ r).take n) = f0 :: rest) (h3 : 3 ≤ (f0 :: rest).length) :
    ∃ f, f0 = 56 :: 61 :: f := by
  rcases take_marker r n with hno | ⟨x, hx⟩
  · -- at most one byte of the marker: a single piece
    have := fieldsOf_length_le ((marker ++ r).take n)
    rw [h, splitOn_noSep hno] at this
    simp only [List.length_cons, List.length_nil] at this h3
    omega
  · obtain ⟨g, gs, _, h2⟩ := splitOn_cons_ne (sep := SOH) (c := 61) x (by decide)
    obtain ⟨g', gs', h3', h4⟩ := splitOn_cons_ne (sep := SOH) (c := 56) (61 :: x) (by decide)
    rw [h2] at h3'
    cases h3'
    have hs := splitOn_eq_fieldsOf ((marker ++ r).take n)
    rw [h, hx, h4] at hs
    rcases hs with hs | hs <;> exact ⟨g, (List.cons.inj hs).1.symm⟩

theorem splitEq_head (f : Bytes) : splitEq (56 :: 61 :: f) = some ([56], f) := by
  simp [splitEq, EQS]

end AsyncFix.Model.Codec
