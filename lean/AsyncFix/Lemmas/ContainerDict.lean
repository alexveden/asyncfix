/-
Python's insertion-ordered dict as modelled by `lookup` / `dictSet` / `dictDel` (Model/Container.lean)
refines the reference ordered map `OMap` = (first-insertion order of the keys, partial function).
-/
import AsyncFix.Model.Container
namespace AsyncFix.Model.Container
open AsyncFix.Py

variable {β : Type}

/-- Reference specification: a finite map together with the order in which its keys were first
inserted.  `put` on a present key changes only the value; on an absent key it also appends the key;
`remove` forgets the key (a later `put` appends it again). -/
structure OMap (β : Type) where
  order : List Str
  val : Str → Option β

namespace OMap
def empty : OMap β := ⟨[], fun _ => none⟩
def put (m : OMap β) (k : Str) (v : β) : OMap β :=
  ⟨if k ∈ m.order then m.order else m.order ++ [k], fun x => if x = k then some v else m.val x⟩
def remove (m : OMap β) (k : Str) : OMap β :=
  ⟨m.order.erase k, fun x => if x = k then none else m.val x⟩
def WF (m : OMap β) : Prop := m.order.Nodup ∧ ∀ k, k ∈ m.order ↔ (m.val k).isSome = true
/-- iteration: the (key, value) pairs in key order -/
def items (m : OMap β) : List (Str × β) :=
  m.order.filterMap fun k => (m.val k).map fun v => (k, v)
end OMap

def absMap (d : List (Str × β)) : OMap β := ⟨keys d, fun k => lookup k d⟩

theorem keys_cons (k : Str) (v : β) (d : List (Str × β)) : keys ((k, v) :: d) = k :: keys d := rfl

theorem lookup_cons (x k : Str) (v : β) (d : List (Str × β)) :
    lookup x ((k, v) :: d) = if k = x then some v else lookup x d := rfl

theorem hasKey_iff_mem_keys (k : Str) (d : List (Str × β)) : hasKey k d = true ↔ k ∈ keys d := by
  induction d with
  | nil => simp [hasKey, lookup, keys]
  | cons p rest ih =>
    obtain ⟨k', v⟩ := p
    rw [keys_cons, List.mem_cons, ← ih]
    by_cases h : k' = k
    · simp [hasKey, lookup_cons, h]
    · simp [hasKey, lookup_cons, h, Ne.symm h]

theorem lookup_eq_none_iff (k : Str) (d : List (Str × β)) : lookup k d = none ↔ k ∉ keys d := by
  rw [← hasKey_iff_mem_keys]; simp [hasKey]

theorem lookup_of_mem (d : List (Str × β)) (hnd : (keys d).Nodup) (p : Str × β) (hp : p ∈ d) :
    lookup p.1 d = some p.2 := by
  induction d with
  | nil => simp at hp
  | cons q rest ih =>
    obtain ⟨k, v⟩ := q
    rw [keys_cons, List.nodup_cons] at hnd
    rcases List.mem_cons.1 hp with rfl | hp
    · simp [lookup_cons]
    · have : k ≠ p.1 := fun e => hnd.1 (e ▸ List.mem_map_of_mem hp)
      rw [lookup_cons, if_neg this, ih hnd.2 hp]

theorem lookup_dictSet (k k' : Str) (v : β) (d : List (Str × β)) :
    lookup k' (dictSet k v d) = if k' = k then some v else lookup k' d := by
  induction d with
  | nil =>
    by_cases h' : k' = k
    · simp [dictSet, lookup, h']
    · simp [dictSet, lookup, h', Ne.symm h']
  | cons p rest ih =>
    obtain ⟨k₀, v₀⟩ := p
    by_cases h : k₀ = k
    · subst h
      by_cases h' : k' = k₀
      · simp [dictSet, lookup_cons, h']
      · simp [dictSet, lookup_cons, h', Ne.symm h']
    · by_cases h' : k' = k
      · subst h'; simp [dictSet, lookup_cons, h, ih]
      · simp [dictSet, lookup_cons, h, h', ih]

/-- `dictDel` removes the first entry only, so asking for the deleted key itself needs `Nodup` -/
theorem lookup_dictDel (k k' : Str) (d : List (Str × β)) (hnd : k' = k → (keys d).Nodup) :
    lookup k' (dictDel k d) = if k' = k then none else lookup k' d := by
  induction d with
  | nil => simp [dictDel, lookup]
  | cons p rest ih =>
    obtain ⟨k₀, v₀⟩ := p
    have ih := ih fun e => (List.nodup_cons.1 (hnd e)).2
    by_cases h : k₀ = k
    · subst h
      by_cases h' : k' = k₀
      · subst h'
        have hk : k' ∉ keys rest := (List.nodup_cons.1 (hnd rfl)).1
        simpa [dictDel] using (lookup_eq_none_iff _ _).2 hk
      · simp [dictDel, lookup_cons, h', Ne.symm h']
    · by_cases h' : k' = k
      · subst h'; simp [dictDel, lookup_cons, h, ih]
      · simp [dictDel, lookup_cons, h, h', ih]

theorem keys_dictSet (k : Str) (v : β) (d : List (Str × β)) :
    keys (dictSet k v d) = if k ∈ keys d then keys d else keys d ++ [k] := by
  induction d with
  | nil => rfl
  | cons p rest ih =>
    obtain ⟨k₀, v₀⟩ := p
    by_cases h : k₀ = k
    · simp [dictSet, keys_cons, h]
    · simp only [dictSet, h, if_false, keys_cons, ih, List.mem_cons, Ne.symm h, false_or]
      split <;> rfl

theorem keys_dictDel (k : Str) (d : List (Str × β)) : keys (dictDel k d) = (keys d).erase k := by
  induction d with
  | nil => rfl
  | cons p rest ih =>
    obtain ⟨k₀, v₀⟩ := p
    by_cases h : k₀ = k
    · simp [dictDel, keys_cons, h]
    · simp [dictDel, keys_cons, h, ih]

theorem mem_dictSet (k : Str) (v : β) (d : List (Str × β)) (p : Str × β) (h : p ∈ dictSet k v d) :
    p ∈ d ∨ p = (k, v) := by
  induction d with
  | nil => exact Or.inr (by simpa [dictSet] using h)
  | cons q rest ih =>
    obtain ⟨k₀, v₀⟩ := q
    by_cases hk : k₀ = k
    · subst hk
      simp only [dictSet, if_true, List.mem_cons] at h ⊢
      rcases h with h | h
      · exact Or.inr h
      · exact Or.inl (Or.inr h)
    · simp only [dictSet, hk, if_false, List.mem_cons] at h ⊢
      rcases h with h | h
      · exact Or.inl (Or.inl h)
      · exact (ih h).imp_left Or.inr

theorem dictDel_sublist (k : Str) (d : List (Str × β)) : (dictDel k d).Sublist d := by
  induction d with
  | nil => exact .slnil
  | cons p rest ih =>
    obtain ⟨k₀, v₀⟩ := p
    by_cases h : k₀ = k
    · simp [dictDel, h]
    · simpa [dictDel, h] using ih

theorem nodup_dictSet (k : Str) (v : β) (d : List (Str × β)) (hnd : (keys d).Nodup) :
    (keys (dictSet k v d)).Nodup := by
  rw [keys_dictSet]
  split
  · exact hnd
  · next h => exact List.nodup_append.2 ⟨hnd, by simp, fun a ha b hb e => h (by simp_all)⟩

theorem nodup_dictDel (k : Str) (d : List (Str × β)) (hnd : (keys d).Nodup) :
    (keys (dictDel k d)).Nodup := by
  rw [keys_dictDel]; exact hnd.erase k

theorem absMap_nil : absMap ([] : List (Str × β)) = OMap.empty := by
  simp [absMap, OMap.empty, keys, lookup]

theorem absMap_dictSet (k : Str) (v : β) (d : List (Str × β)) :
    absMap (dictSet k v d) = (absMap d).put k v := by
  simp only [absMap, OMap.put, keys_dictSet, lookup_dictSet]
  rfl

theorem absMap_dictDel (k : Str) (d : List (Str × β)) (hnd : (keys d).Nodup) :
    absMap (dictDel k d) = (absMap d).remove k := by
  simp only [absMap, OMap.remove, keys_dictDel, lookup_dictDel _ _ _ fun _ => hnd]

theorem items_absMap (d : List (Str × β)) (hnd : (keys d).Nodup) : (absMap d).items = d := by
  -- every entry of a sublist `l` of `d` is found under its key, so the iteration over `keys l` rebuilds `l`
  have key : ∀ l : List (Str × β), (∀ p ∈ l, lookup p.1 d = some p.2) →
      (keys l).filterMap (fun k => (lookup k d).map fun v => (k, v)) = l := by
    intro l hl
    induction l with
    | nil => rfl
    | cons p l ih =>
      rw [keys, List.map_cons, List.filterMap_cons_some (by rw [hl p (by simp)]; rfl)]
      exact congrArg _ (ih fun q hq => hl q (by simp [hq]))
  exact key d (lookup_of_mem d hnd)

theorem absMap_injective (d₁ d₂ : List (Str × β)) (h₁ : (keys d₁).Nodup) (h₂ : (keys d₂).Nodup)
    (h : absMap d₁ = absMap d₂) : d₁ = d₂ := by
  rw [← items_absMap d₁ h₁, ← items_absMap d₂ h₂, h]

end AsyncFix.Model.Container
