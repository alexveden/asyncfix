import AsyncFix.Lemmas.SessionQuiet

/-!
Session family: `QS` (silence after a disconnect, from a connected start) for the handlers that can disconnect,
up to `_process_message` and the watchdog iteration.
-/
namespace AsyncFix.Session

open AsyncFix.Generated.ConnEnum

theorem disc_ne_awaiting {s : Nat} (h : isDisc s = true) : (s == st_RESENDREQ_AWAITING) = false := by
  have := isDisc_le h
  simp [st_DISCONNECTED_BROKEN_CONN, st_RESENDREQ_AWAITING] at *
  omega

/-- `_finalize_message` run after a disconnect: counters / journal only, no effect, no state change -/
theorem finalizeMessage_calm (env : Env) (m : Msg) : CalmFrom (finalizeMessage env m) := by
  constructor
  intro c hc
  unfold finalizeMessage
  have h1 := (setNextNumIn_sil m).out c
  rcases hx : setNextNumIn m c with ⟨r, c1, e1⟩
  rw [hx] at h1
  obtain ⟨he1, hs1⟩ := h1
  have hs1 : c1.state = c.state := hs1
  have he1 : e1 = [] := he1
  subst he1
  have hc1 : isDisc c1.state = true := by rw [hs1]; exact hc
  cases r with
  | error ex => rw [M.bind_err hx]; exact ⟨rfl, hc1⟩
  | ok n =>
    rw [M.bind_ok hx]
    by_cases hn : n ≤ 0
    · simp [hn, Calm, hc1]
    · have hne := disc_ne_awaiting hc1
      have hle : ¬ c1.state > st_DISCONNECTED_BROKEN_CONN := Nat.not_lt.mpr (isDisc_le hc1)
      have h2 := (persistInbound_sil m).out c1
      rcases hp : persistInbound m c1 with ⟨r2, c2, e2⟩
      rw [hp] at h2
      obtain ⟨he2, hs2⟩ := h2
      have he2 : e2 = [] := he2
      have hs2 : c2.state = c1.state := hs2
      subst he2
      have hc2 : isDisc c2.state = true := by rw [hs2]; exact hc1
      simp [hn, Calm, bind, M.bind', hne, hle, hp, hc2]

theorem swallow_QS {α : Type} {G : α → Prop} (d : α) (hd : G d) {x : M α} (hx : QS G x) :
    QS G (swallow d x) := by
  constructor
  intro c hc
  have h := hx.out c hc
  unfold swallow
  rcases hxc : x c with ⟨r, c1, e1⟩
  rw [hxc] at h
  cases r with
  | ok a => rw [M.tryCatch_ok hxc]; exact h
  | error ex =>
    rw [M.tryCatch_err hxc]
    obtain ⟨hq, hst, _⟩ := h
    have hq : quiet false e1 = true := hq
    have hst : isDisc c1.state = flagAfter false e1 := hst
    refine ⟨?_, ?_, ?_⟩
    · simp [bind, M.bind', quiet_append, hq]
      cases flagAfter false e1 <;> simp [quiet, Effect.loud, Effect.busy]
    · simp [bind, M.bind', flagAfter_append, flagAfter, hst]
    · intro a ha _
      simp [bind, M.bind'] at ha
      rw [← ha]; exact hd

/- the walks below try their rules in turn: with the primitives and the callees closed, a rule that does not fit fails
at the head symbol instead of unfolding a handler to find that out -/
attribute [local irreducible] M.bind' M.pure' M.throw M.tryCatch M.get M.modify M.emit M.liftE
  M.assert M.int disconnect processLogon processLogout processHeartbeat processHead processDispatch
  processMessage swallow sendMsg sendTestReq checkSeqnumGaps processSeqreset processResend
  processTestRequest finalizeMessage validateIntegrity setSeqNum stateSet

/-- closes `M.Rel RPlain x` for every piece of code that cannot disconnect -/
macro "plain_tac" : tactic => `(tactic|
  (rel_tac [RPlain.modify, RPlain.emit, stateSet_plain, sendMsg_plain, sendTestReq_plain,
    setSeqNum_plain, processSeqreset_plain, checkSeqnumGaps_plain, finalizeMessage_plain,
    processResend_plain, processTestRequest_plain]; done))

/-- evaluates a continuation from a disconnected state -/
macro "calm_tac" : tactic => `(tactic|
  (subst_vars; constructor; intro c hc; have hc' := isDisc_le hc
   simp [Calm, bind, M.bind', hc, hc', M.assert_apply, disconnect_of_disc, M.ite_apply]
   try (split <;> simp [Calm, hc, hc', disconnect_of_disc])))

/-- the result a continuation returns from a disconnected state -/
macro "res_tac" : tactic => `(tactic|
  (intro _ c1 _ hd b hb; have hd' := isDisc_le hd
   first
     | trivial
     | (simp [bind, M.bind', hd, hd', M.assert_apply, disconnect_of_disc] at hb
        first | exact hb.symm | exact hb | (cases hb; rfl) | simp_all)))

set_option hygiene false in
/-- The walk for `QS`, by the head symbol of the program (rules up to reducible unfolding): a step that can
disconnect is one of the lemmas given (result predicate `True`) and the code behind it is evaluated from a
disconnected state (`calm_tac`, `res_tac`); every other step is plain.  Hygiene is off for the same reason
as in `rel_tac`. -/
macro "qs_tac" "[" ls:term,* "]" : tactic =>
  `(tactic| repeat' (first
    | res_tac | intro _ | exact rfl | trivial
    | with_reducible first | exact AsyncFix.Session.QS.pure _ | apply AsyncFix.Session.QS.ite
    | ((with_reducible refine AsyncFix.Session.QS.bind_plain ?_ ?_); focus plain_tac)
    | with_reducible first
      $[| exact $ls]*
      $[| refine AsyncFix.Session.QS.bind $ls ?_ ?_ ?_]*
    | ((with_reducible refine AsyncFix.Session.QS.tryCatch_plain ?_ ?_); focus plain_tac)
    | exact AsyncFix.Session.QS.emit
    | (refine AsyncFix.Session.QS.of_plain ?_; focus plain_tac)
    | calm_tac | split))

theorem processLogout_QS (env : Env) (m : Msg) : QS (fun _ => True) (processLogout env m) := by
  unfold processLogout
  qs_tac [disconnect_QS _ _ _]

theorem processHeartbeat_QS (env : Env) (m : Msg) : QS (fun _ => True) (processHeartbeat env m) := by
  unfold processHeartbeat
  qs_tac [disconnect_QS _ _ _]

/-- the acceptor's Logon reply: when it ends in a disconnected state it has raised -/
theorem logonReply_QS (env : Env) (m : Msg) :
    QS (fun _ => False) (M.tryCatch (sendMsg env m) fun ex => do
      disconnect env st_DISCONNECTED_BROKEN_CONN none
      M.throw ex) := by
  refine QS.tryCatch_plain (sendMsg_plain env m) ?_
  intro ex
  refine QS.bind (G := fun _ => True) (disconnect_QS _ _ _) ?_ ?_ ?_
  · intro _; exact QS.of_plain (M.Rel.throw ex)
  · intro _ _; exact ⟨fun c hc => by simp [Calm, hc]⟩
  · intro _ c1 _ _ b hb; simp at hb

theorem logonTail_plain (n : Int) : M.Rel RPlain (logonTail n) := by
  unfold logonTail
  plain_tac

/-- `disconnect`, then `return`: the value is the one given -/
theorem dropReturn_QS {α : Type} (env : Env) (lo : Option String) (a : α) :
    QS (fun r => r = a) (disconnect env st_DISCONNECTED_BROKEN_CONN lo >>= fun _ => (pure a : M α)) :=
  QS.bind (disconnect_QS _ _ _) (fun _ => QS.pure a) (fun _ _ => CalmFrom.pure a)
    (fun _ c1 _ _ b hb => by rw [M.pure_apply] at hb; cases hb; rfl)

theorem processLogon_QS (env : Env) (m : Msg) : QS (fun _ => True) (processLogon env m) := by
  rw [processLogon_eq]
  refine QS.bind_plain (M.Rel.assert _) fun _ => QS.bind_plain M.Rel.get fun c => QS.bind_plain (M.Rel.assert _) fun _ =>
    QS.bind_plain (M.Rel.liftE _) fun v => QS.bind_plain (M.Rel.int _) fun n => ?_
  have tail : QS (fun _ : Unit => True) (logonTail n) := QS.of_plain (logonTail_plain n)
  refine QS.ite (QS.bind_plain (M.Rel.assert _) fun _ => QS.ite ((dropReturn_QS env _ ()).mono fun _ _ => trivial)
    (QS.ite ?_ tail)) tail
  unfold logonAnswer
  refine QS.bind_plain (M.Rel.liftE _) fun e => QS.bind_plain (M.Rel.liftE _) fun h => ?_
  exact QS.bind (G := fun _ => False) (logonReply_QS env _) (fun _ => tail) (fun _ h => h.elim) (fun _ _ h => h.elim)

section head
variable (env : Env) (m : Msg)

theorem headTail_plain : M.Rel RPlain (headTail env m) := by
  unfold headTail
  plain_tac

theorem headSkip_plain : M.Rel RPlain (headSkip env m) := by
  unfold headSkip
  plain_tac

/-- after a handler that has disconnected, `headTail` returns at once -/
theorem headTail_after {G : Unit → Prop} {x : M Unit} (hx : QS G x) :
    QS (fun r => r = none) (x >>= fun _ => headTail env m) :=
  QS.bind hx (fun _ => QS.of_plain (headTail_plain env m))
    (fun _ _ => ⟨fun c hc => by rw [headTail_closed env m (isDisc_le hc)]; exact ⟨rfl, hc⟩⟩)
    (fun _ c1 _ hd b hb => by rw [headTail_closed env m (isDisc_le hd)] at hb; cases hb; rfl)

theorem headRest_QS : QS (fun r => r = none) (headRest env m) := by
  by_cases hA : m.mtype = mLogon
  · rw [headRest_logon hA]; exact headTail_after env m (processLogon_QS env m)
  by_cases h5 : m.mtype = mLogout
  · rw [headRest_logout h5]; exact headTail_after env m (processLogout_QS env m)
  by_cases h4 : m.mtype = mSequenceReset
  · rw [headRest_seqreset h4]
    refine QS.bind_plain (processSeqreset_plain m) fun ok => ?_
    split
    · exact QS.of_plain (headTail_plain env m)
    · exact QS.of_plain (headSkip_plain env m)
  · rw [headRest_plain hA h4 h5]; exact QS.of_plain (headTail_plain env m)

theorem headMid_QS : QS (fun r => r = none) (headMid env m) := by
  unfold headMid
  refine QS.bind_plain M.Rel.get fun c1 => QS.ite (dropReturn_QS env none none) (headRest_QS env m)

theorem processHead_QS : QS (fun r => r = none) (processHead env m) := by
  rw [processHead_eq]
  refine QS.bind_plain M.Rel.get fun c => QS.bind_plain (M.Rel.assert _) fun _ => ?_
  refine QS.ite (QS.ite (dropReturn_QS env none none) ?_) (headMid_QS env m)
  exact QS.bind_plain (stateSet_plain (by decide)) fun _ =>
    QS.bind_plain (RPlain.modify fun _ => rfl) fun _ => headMid_QS env m
end head

theorem processDispatch_QS (env : Env) (sr : Msg → Bool) (m : Msg) (v : Bool) (n : Int) :
    QS (fun _ => True) (processDispatch env sr m v n) := by
  unfold processDispatch
  qs_tac [processHeartbeat_QS _ _]

theorem processMessage_QS (env : Env) (sr : Msg → Bool) (m : Msg) :
    QS (fun _ => True) (processMessage env sr m) := by
  unfold processMessage
  refine QS.bind_plain (RSame.to (validateIntegrity_same m)) ?_
  intro integ
  split
  · exact disconnect_QS _ _ _
  · exact disconnect_QS _ _ _
  · refine QS.bind (G := fun r => r = none) (swallow_QS (G := fun r => r = none) none rfl (processHead_QS env m)) ?_ ?_ ?_
    · intro head
      split
      · exact QS.pure _
      · refine QS.bind (G := fun _ => True) (swallow_QS (G := fun _ => True) () trivial (processDispatch_QS env sr m _ _)) ?_ ?_ ?_
        · intro _
          apply QS.ite
          · exact QS.of_plain (finalizeMessage_plain env m)
          · exact QS.pure _
        · intro _ _
          split
          · exact finalizeMessage_calm env m
          · exact CalmFrom.pure _
        · intros; trivial
    · intro head hhead
      subst hhead
      exact CalmFrom.pure _
    · intros; trivial

theorem tickLate_QS (env : Env) : QS (fun _ => True) (tickLate env) := by
  unfold tickLate tickLate2
  qs_tac [disconnect_QS _ _ _]

theorem tickBody_QS (env : Env) : QS (fun _ => True) (tickBody env) := by
  rw [tickBody_eq]
  qs_tac [tickLate_QS _]

end AsyncFix.Session
