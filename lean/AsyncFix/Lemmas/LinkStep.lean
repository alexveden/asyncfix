import AsyncFix.Lemmas.LinkFrames
import AsyncFix.Lemmas.SessionHandlers

/-!
C07: the handler equations of the session model in the form the Link proofs use them (a frame of the peer given by
`InFrame`), and the few only this family needs; what the simulation asks of one entry point of an endpoint (`StepOK`),
and the connections the handlers leave behind (`discTail` and `sentFresh` of `SessionHandlers`, `askConn` and
`counted` defined here) with their abstraction and well-formedness; `send_msg` of a freshly numbered message
(`sendCore_out`); the phases of `_process_message` that every frame shares (`gap_sim`, `count_sim`) and their
composition (`StepOK.seq`).

A connection in the middle of `_process_message` may be in a state it never rests in (LOGON_INITIAL_RECV,
RECV_SEQNUM_TOO_HIGH), so well-formedness is split: `ConnFacts` is the part of `ConnGood` that does not speak of
the state, the transport or the watermark.
-/
namespace AsyncFix.Link

open AsyncFix.Session AsyncFix.Generated AsyncFix.Generated.ConnEnum
open AsyncFix.Session.Msg AsyncFix.Session.Rows

section handlers

variable {env : Env} {sr : Msg → Bool} {c c1 c2 c3 : Conn} {f : Msg} {n : Int} {e1 e2 e3 : List Effect}

theorem getD_N_eq_Y (o : Option String) : (o.getD "N" = "Y") ↔ o = some "Y" := by
  cases o with
  | none => exact ⟨fun h => absurd h (by decide), fun h => nomatch h⟩
  | some v => simp

/-- the header fields of a frame of the peer -/
structure InFrame (c : Conn) (f : Msg) (n : Int) : Prop where
  h8 : f.get? tBeginString = some Proto.beginString
  h49 : f.get? tSenderCompID = some c.sess.target
  h56 : f.get? tTargetCompID = some c.sess.sender
  h34 : f.get? tMsgSeqNum = some (pyStr n)

/-- the frame is not "too low": `_validate_integrity` returns `None` -/
def NotLow (c : Conn) (f : Msg) (n : Int) : Prop :=
  c.sess.nextIn ≤ n ∨ f.mtype = mSequenceReset ∨ (c.state = st_RESENDREQ_AWAITING ∧ f.get? tPossDupFlag = some "Y")

theorem validateIntegrity_ok (hi : InFrame c f n) (hv : NotLow c f n) :
    validateIntegrity f c = ⟨.ok .good, c, []⟩ :=
  validateIntegrity_good hi.h8 hi.h49 hi.h56 hi.h34 (pyInt_pyStr n)
    (hv.imp_right (Or.imp_right (And.imp_right (getD_N_eq_Y _).mpr)))

def tooLowText (e n : Int) : String := "MsgSeqNum is too low, expected " ++ pyStr e ++ ", got " ++ pyStr n

theorem validateIntegrity_tooLow (hi : InFrame c f n) (hn : n < c.sess.nextIn) (h4 : f.mtype ≠ mSequenceReset)
    (hpd : ¬ (c.state = st_RESENDREQ_AWAITING ∧ f.get? tPossDupFlag = some "Y")) :
    validateIntegrity f c = ⟨.ok (.reason (tooLowText c.sess.nextIn n)), c, []⟩ :=
  Session.validateIntegrity_tooLow hi.h8 hi.h49 hi.h56 hi.h34 (pyInt_pyStr n) hn h4
    fun h => hpd ⟨h.1, (getD_N_eq_Y _).mp h.2⟩

/-- the connection after `_finalize_message` counted a frame filed under `k`: the expectation becomes `ret + 1`
(`ret` = what `set_next_num_in` returned); a resend wait ends when `ret` reaches the watermark -/
def counted (env : Env) (c : Conn) (rows : Rows) (k ret : Int) : Conn :=
  let c1 := stamped env { c with sess := { c.sess with nextIn := ret + 1 } } ret
  { c1 with journal := { c1.journal with inb := rows, inSeq := k } }

section counted
variable (env : Env) (c : Conn) (rows : Rows) (k ret : Int)

theorem counted_state : (counted env c rows k ret).state =
    if c.state = st_RESENDREQ_AWAITING ∧ c.maxResend ≤ ret then st_ACTIVE else c.state := rfl
theorem counted_maxResend : (counted env c rows k ret).maxResend =
    if c.state = st_RESENDREQ_AWAITING ∧ c.maxResend ≤ ret then 0 else c.maxResend := rfl
theorem counted_sess : (counted env c rows k ret).sess = { c.sess with nextIn := ret + 1 } := rfl
theorem counted_journal : (counted env c rows k ret).journal = { c.journal with inb := rows, inSeq := k } := rfl
theorem counted_role : (counted env c rows k ret).role = c.role := rfl
theorem counted_sock : (counted env c rows k ret).sock = c.sock := rfl

end counted

theorem finalizeMessage_eq {k ret : Int} {rows : Rows}
    (hnext : setNextNumIn f c = ⟨.ok ret, { c with sess := { c.sess with nextIn := ret + 1 } }, []⟩)
    (h0 : 0 < ret) (hw : c.state = st_RESENDREQ_AWAITING → 0 < c.maxResend)
    (h34 : f.get? tMsgSeqNum = some (pyStr k)) (hins : Rows.insert k f c.journal.inb = some rows) :
    finalizeMessage env f c = ⟨.ok (), counted env c rows k ret,
      if c.state = st_RESENDREQ_AWAITING ∧ c.maxResend ≤ ret then [.onState st_ACTIVE] else []⟩ := by
  rw [finalizeMessage_counted env hnext h0 hw, persistInbound_numbered h34 (pyInt_pyStr k),
    persist_in_of_insert (stamped env { c with sess := { c.sess with nextIn := ret + 1 } } ret).journal k f rows hins]
  simp [counted, promoted]
  rfl

structure GapFrame (f : Msg) (nw : Int) : Prop where
  h4 : f.mtype = mSequenceReset
  h123 : f.get? tGapFillFlag = some "Y"
  h36 : f.get? tNewSeqNo = some (pyStr nw)

section head
variable {v : Bool}

/-- a frame that is neither Logon, SequenceReset nor Logout, in a logged-on phase: what the gap check says -/
theorem processHead_gap (h7 : st_LOGON_INITIAL_SENT < c.state) (hA : f.mtype ≠ mLogon)
    (h4 : f.mtype ≠ mSequenceReset) (h5 : f.mtype ≠ mLogout) (h34 : f.get? tMsgSeqNum = some (pyStr n))
    (hg : checkSeqnumGaps env n c = ⟨.ok v, c1, e1⟩) :
    processHead env f c = ⟨.ok (some (v, n)), c1, e1⟩ := by
  rw [processHead_plain env h7 hA h4 h5 h34 (pyInt_pyStr n), M.bind_ok hg]
  simp

end head

end handlers

/-- what the simulation needs of one entry point of endpoint `s`: the abstraction of the new connection, of the
frames written and of the messages delivered is what the abstract model says; well-formedness is kept -/
structure StepOK (s : Side) (r : ARes) (c' : Conn) (eff : List Effect) : Prop where
  conn : absConn c' = r.c
  wr : (writesOf eff).map absFrame = r.wr
  dl : (deliveriesOf eff).map absDelivered = r.dl
  good : ConnGood s c'
  frames : ∀ g ∈ writesOf eff, FrameGood s.name s.other.name g

variable {s : Side} {env : Env} {c c' : Conn} {f : Msg} {n : Int}

structure ConnFacts (s : Side) (c : Conn) : Prop where
  snd : c.sess.sender = s.name
  tgt : c.sess.target = s.other.name
  role : c.role = roleInitiator ∨ c.role = roleAcceptor
  e1 : 1 ≤ c.sess.nextIn
  o1 : 1 ≤ c.sess.nextOut
  rows : RowsGood s.name s.other.name c.sess.nextOut c.journal.out
  inb : AllLt c.sess.nextIn c.journal.inb
  outLt : AllLt c.sess.nextOut c.journal.out
  sndLatin : isLatin1 c.sess.sender = true
  tgtLatin : isLatin1 c.sess.target = true

theorem isLatin1_sideName (s : Side) : isLatin1 s.name = true := by
  cases s
  · exact isLatin1_nameI
  · exact isLatin1_nameA

theorem ConnFacts.of (snd : c.sess.sender = s.name) (tgt : c.sess.target = s.other.name)
    (role : c.role = roleInitiator ∨ c.role = roleAcceptor) (e1 : 1 ≤ c.sess.nextIn) (o1 : 1 ≤ c.sess.nextOut)
    (rows : RowsGood s.name s.other.name c.sess.nextOut c.journal.out) (inb : AllLt c.sess.nextIn c.journal.inb) :
    ConnFacts s c :=
  { snd, tgt, role, e1, o1, rows, inb, outLt := rowsGood_allLt rows,
    sndLatin := by rw [snd]; exact isLatin1_sideName s, tgtLatin := by rw [tgt]; exact isLatin1_sideName s.other }

theorem connFacts (hc : ConnGood s c) : ConnFacts s c :=
  .of hc.snd hc.tgt hc.role hc.e1 hc.o1 hc.rows hc.inb

theorem ConnFacts.good (hf : ConnFacts s c) (hst : restState c.state)
    (hsock : c.sock = decide (st_DISCONNECTED_BROKEN_CONN < c.state))
    (hw : c.state = st_RESENDREQ_AWAITING → 0 < c.maxResend) : ConnGood s c :=
  ⟨hf.snd, hf.tgt, hst, hsock, hf.role, hf.e1, hf.o1, hf.rows, hw, hf.inb⟩

/-- the facts only look at the session, the journal and the role -/
theorem ConnFacts.congr (hf : ConnFacts s c) (h1 : c'.sess = c.sess) (h2 : c'.journal = c.journal)
    (h3 : c'.role = roleInitiator ∨ c'.role = roleAcceptor) : ConnFacts s c' := by
  obtain ⟨snd, tgt, _, e1, o1, rows, inb, outLt, sndLatin, tgtLatin⟩ := hf
  exact ⟨h1 ▸ snd, h1 ▸ tgt, h3, h1 ▸ e1, h1 ▸ o1, h1 ▸ h2 ▸ rows, h1 ▸ h2 ▸ inb, h1 ▸ h2 ▸ outLt,
    h1 ▸ sndLatin, h1 ▸ tgtLatin⟩

theorem rowsGood_push {snd tgt : String} {o : Int} {rs : Rows} {f : Msg} (h : RowsGood snd tgt o rs)
    (ho : 1 ≤ o) (hf : FrameGood snd tgt f) (h34 : f.get? tMsgSeqNum = some (pyStr o)) :
    RowsGood snd tgt (o + 1) (rs ++ [(o, f)]) := rowsGood_append h ho hf h34

/-- a freshly numbered frame of the endpoint's own was journaled -/
theorem ConnFacts.sentFresh (hf : ConnFacts s c) {fr : Msg} (hg : FrameGood s.name s.other.name fr)
    (h34 : fr.get? tMsgSeqNum = some (pyStr c.sess.nextOut)) : ConnFacts s (sentFresh c fr) :=
  .of hf.snd hf.tgt hf.role hf.e1 (by show 1 ≤ c.sess.nextOut + 1; have := hf.o1; omega)
    (rowsGood_append hf.rows hf.o1 hg h34) hf.inb

/-- **`send_msg` after the gate, of a freshly numbered message** (Logon, Logout, ResendRequest, application): journaled
and written, a well-formed frame on a connection that keeps its facts.  Abstractly it is `AConn.push` of the kind
of the message (`absConn_sentFresh`, `absFrame_build`). -/
theorem sendCore_out {m : Msg} (hf : ConnFacts s c) (hs : c.sock = true) (hl3 : isLatin1 env.stamp = true)
    (hm : OutMsg m) (hp : Plain m) :
    sendCore env m c = ⟨.ok (), sentFresh c (buildFrame c.sess env.stamp m c.sess.nextOut),
        [.write (buildFrame c.sess env.stamp m c.sess.nextOut)]⟩ ∧
      FrameGood s.name s.other.name (buildFrame c.sess env.stamp m c.sess.nextOut) ∧
      ConnFacts s (sentFresh c (buildFrame c.sess env.stamp m c.sess.nextOut)) := by
  have hg : FrameGood s.name s.other.name (buildFrame c.sess env.stamp m c.sess.nextOut) := by
    have := hm.frameGood (s := c.sess) (stamp := env.stamp) c.sess.nextOut hf.sndLatin hf.tgtLatin hl3
    rwa [hf.snd, hf.tgt] at this
  exact ⟨sendCore_journaled env (encodeSeq_fresh hp.1 hp.2 c) (kindOK_ne hm.kind).2 hg.lat (insert_append _ _ _ hf.outLt) hs, hg,
    hf.sentFresh hg (buildFrame_get_seq ..)⟩

/-- the same through the gate, in a phase where it lets the message pass -/
theorem sendMsg_out {m : Msg} (hf : ConnFacts s c) (hs : c.sock = true) (hl3 : isLatin1 env.stamp = true)
    (hm : OutMsg m) (hp : Plain m)
    (h6 : st_NETWORK_CONN_ESTABLISHED < c.state)
    (h7 : ¬ (c.role = roleInitiator ∧ c.state = st_LOGON_INITIAL_SENT ∧ m.mtype ≠ mLogout)) :
    sendMsg env m c = ⟨.ok (), sentFresh c (buildFrame c.sess env.stamp m c.sess.nextOut),
        [.write (buildFrame c.sess env.stamp m c.sess.nextOut)]⟩ ∧
      FrameGood s.name s.other.name (buildFrame c.sess env.stamp m c.sess.nextOut) ∧
      ConnFacts s (sentFresh c (buildFrame c.sess env.stamp m c.sess.nextOut)) := by
  rw [sendMsg_pass env h6 h7]
  exact sendCore_out hf hs hl3 hm hp

/-- on a fresh transport the gate lets Logon / Logout through and makes the endpoint an initiator first -/
theorem sendMsg_out_conn {m : Msg} (hf : ConnFacts s c) (hs : c.sock = true) (hl3 : isLatin1 env.stamp = true)
    (hm : OutMsg m) (hp : Plain m)
    (h6 : c.state = st_NETWORK_CONN_ESTABLISHED) (hty : m.mtype = mLogon ∨ m.mtype = mLogout) :
    sendMsg env m c = ⟨.ok (), sentFresh { setState c st_LOGON_INITIAL_SENT with role := roleInitiator }
          (buildFrame c.sess env.stamp m c.sess.nextOut),
        [.onState st_LOGON_INITIAL_SENT, .write (buildFrame c.sess env.stamp m c.sess.nextOut)]⟩ ∧
      FrameGood s.name s.other.name (buildFrame c.sess env.stamp m c.sess.nextOut) ∧
      ConnFacts s (sentFresh { setState c st_LOGON_INITIAL_SENT with role := roleInitiator }
        (buildFrame c.sess env.stamp m c.sess.nextOut)) := by
  obtain ⟨hcore, hg, hf1⟩ := sendCore_out (env := env)
    (hf.congr (c' := { setState c st_LOGON_INITIAL_SENT with role := roleInitiator }) rfl rfl (Or.inl rfl)) hs hl3 hm hp
  refine ⟨?_, hg, hf1⟩
  rw [sendMsg, M.bind_ok (sendGate_conn h6 hty), hcore]
  rfl

theorem sock_of_state (hc : ConnGood s c) (h : st_DISCONNECTED_BROKEN_CONN < c.state) : c.sock = true := by
  rw [hc.sock]; simpa using h

theorem state_of_sock (hc : ConnGood s c) (hs : c.sock = true) :
    c.state = st_NETWORK_CONN_ESTABLISHED ∨ c.state = st_LOGON_INITIAL_SENT ∨ c.state = st_RESENDREQ_AWAITING ∨
      c.state = st_ACTIVE := by
  have h := hc.sock
  rw [hs] at h
  have h3 : st_DISCONNECTED_BROKEN_CONN < c.state := by simpa using h.symm
  rcases hc.st with h | h | h | h | h | h | h
  · rw [h] at h3; exact absurd h3 (by decide)
  · rw [h] at h3; exact absurd h3 (by decide)
  · rw [h] at h3; exact absurd h3 (by decide)
  · exact Or.inl h
  · exact Or.inr (Or.inl h)
  · exact Or.inr (Or.inr (Or.inl h))
  · exact Or.inr (Or.inr (Or.inr h))

theorem absSt_conn (h : c.state = st_NETWORK_CONN_ESTABLISHED) : (absConn c).st = .conn := by
  rw [absConn, h]; rfl
theorem absSt_sent (h : c.state = st_LOGON_INITIAL_SENT) : (absConn c).st = .sent := by
  rw [absConn, h]; rfl
theorem absSt_awaiting (h : c.state = st_RESENDREQ_AWAITING) : (absConn c).st = .awaiting := by
  rw [absConn, h]; rfl
theorem absSt_active (h : c.state = st_ACTIVE) : (absConn c).st = .active := by
  rw [absConn, h]; rfl

theorem absConn_e (c : Conn) : (absConn c).e = c.sess.nextIn := rfl
theorem absConn_ini (c : Conn) : (absConn c).ini = (c.role == roleInitiator) := rfl

theorem absSt_disc_iff (hc : ConnGood s c) : (absConn c).st = .disc ↔ c.sock = false := by
  rw [hc.sock]
  show absSt c.state = .disc ↔ _
  rcases hc.st with h | h | h | h | h | h | h <;> rw [h] <;> decide

theorem absSt_active_iff (hc : ConnGood s c) : (absConn c).st = .active ↔ c.state = st_ACTIVE := by
  show absSt c.state = .active ↔ _
  rcases hc.st with h | h | h | h | h | h | h <;> rw [h] <;> decide

theorem absSt_awaiting_iff (x : Nat) : absSt x = .awaiting ↔ x = st_RESENDREQ_AWAITING := by
  unfold absSt
  simp only [st_DISCONNECTED_BROKEN_CONN, st_NETWORK_CONN_ESTABLISHED, st_LOGON_INITIAL_SENT, st_RESENDREQ_AWAITING,
    beq_iff_eq]
  constructor
  · intro h; split at h <;> (try cases h); rename_i h1; split at h <;> (try cases h); rename_i h2
    split at h <;> (try cases h); rename_i h3; split at h <;> (try cases h); assumption
  · rintro rfl; rfl

/-- the connection and nothing else: the frame is ignored -/
theorem stepOK_same (hc : ConnGood s c) {eff : List Effect} (h7 : writesOf eff = []) (h8 : deliveriesOf eff = []) :
    StepOK s { c := absConn c } c eff :=
  ⟨rfl, by simp [h7], by simp [h8], hc, by simp [h7]⟩

theorem writesOf_discTail (c : Conn) (d : Nat) : writesOf (discTail c d).2 = [] := by
  rw [discTail_eff]; split <;> rfl

theorem deliveriesOf_discTail (c : Conn) (d : Nat) : deliveriesOf (discTail c d).2 = [] := by
  rw [discTail_eff]; split <;> rfl

/-- `disconnect` into the state `d` -/
theorem stepOK_dropped (hc : ConnGood s c) {d : Nat} (h1 : 1 ≤ d) (h3 : d ≤ st_DISCONNECTED_BROKEN_CONN)
    {eff : List Effect} (h7 : writesOf eff = []) (h8 : deliveriesOf eff = []) :
    StepOK s { c := (absConn c).drop } (discTail (discReset c) d).1 eff := by
  have hd : d = 1 ∨ d = 2 ∨ d = 3 := by simp only [st_DISCONNECTED_BROKEN_CONN] at h3; omega
  refine ⟨?_, by simp [h7], by simp [h8], ((connFacts hc).congr (c' := (discTail (discReset c) d).1) rfl rfl hc.role).good ?_ ?_ ?_, by simp [h7]⟩
  · rcases hd with h | h | h <;> subst h <;> rfl
  · rcases hd with h | h | h <;> subst h <;> simp [discTail, restState, st_DISCONNECTED_NOCONN_TODAY,
      st_DISCONNECTED_WCONN_TODAY, st_DISCONNECTED_BROKEN_CONN]
  · rcases hd with h | h | h <;> subst h <;> rfl
  · rcases hd with h | h | h <;> subst h <;> intro h <;> cases h

/-- a Logout is numbered, journaled and written on `c0` (watermark already reset), then the connection dropped -/
theorem stepOK_logoutDropped {c0 : Conn} (hf : ConnFacts s c0) (hm : c0.maxResend = 0) {text : String}
    (ht : isLatin1 text = true) (hl3 : isLatin1 env.stamp = true) {eff : List Effect}
    (hw : writesOf eff = [buildFrame c0.sess env.stamp (logoutMsg text) c0.sess.nextOut])
    (hd : deliveriesOf eff = []) :
    StepOK s { c := ((absConn c0).push .logout).1.drop, wr := [((absConn c0).push .logout).2] }
      (discTail (sentFresh c0 (buildFrame c0.sess env.stamp (logoutMsg text) c0.sess.nextOut))
        st_DISCONNECTED_BROKEN_CONN).1 eff := by
  have hfg := (outMsg_logout ht).frameGood (s := c0.sess) (stamp := env.stamp) c0.sess.nextOut hf.sndLatin hf.tgtLatin hl3
  rw [hf.snd, hf.tgt] at hfg
  refine ⟨?_, by simp [hw, absFrame_build, kind_logout, AConn.push, absConn], by simp [hd],
    ConnFacts.good (ConnFacts.congr (hf.sentFresh hfg (buildFrame_get_seq ..)) rfl rfl hf.role)
      (by simp [discTail, restState]) rfl (fun h => nomatch h), by simp [hw, hfg]⟩
  simp [absConn, discTail, sentFresh, AConn.push, AConn.drop, (outMsg_logout ht).absRow, kind_logout, AKind.entry, hm]
  rfl

def askFrame (env : Env) (c : Conn) : Msg := buildFrame c.sess env.stamp (resendRequestMsg c.sess.nextIn) c.sess.nextOut

/-- the connection after `_check_seqnum_gaps` asked for a resend up to `n` -/
def askConn (env : Env) (c : Conn) (n : Int) : Conn :=
  setState (sentFresh { c with maxResend := n } (askFrame env c)) st_RESENDREQ_AWAITING

theorem askConn_state (env : Env) (c : Conn) (n : Int) : (askConn env c n).state = st_RESENDREQ_AWAITING := rfl
theorem askConn_sock (env : Env) (c : Conn) (n : Int) : (askConn env c n).sock = c.sock := rfl
theorem askConn_maxResend (env : Env) (c : Conn) (n : Int) : (askConn env c n).maxResend = n := rfl

theorem askFrame_good (hf : ConnFacts s c) (hl3 : isLatin1 env.stamp = true) :
    FrameGood s.name s.other.name (askFrame env c) := by
  have := (outMsg_resendReq c.sess.nextIn).frameGood (s := c.sess) (stamp := env.stamp) c.sess.nextOut hf.sndLatin hf.tgtLatin hl3
  rwa [hf.snd, hf.tgt] at this

/-- a gap seen in a logged-on phase other than RESENDREQ_AWAITING -/
theorem checkSeqnumGaps_askConn (hf : ConnFacts s c) (hs : c.sock = true) (hl3 : isLatin1 env.stamp = true)
    (h7 : st_LOGON_INITIAL_SENT < c.state) (hst : c.state ≠ st_RESENDREQ_AWAITING) (hn : c.sess.nextIn < n) :
    checkSeqnumGaps env n c =
      ⟨.ok false, askConn env c n, [.write (askFrame env c), .onState st_RESENDREQ_AWAITING]⟩ :=
  checkSeqnumGaps_ask hn hst (sendMsg_out (hf.congr (c' := { c with maxResend := n }) rfl rfl hf.role) hs hl3
    (outMsg_resendReq c.sess.nextIn) (resendRequestMsg_plain _)
    (Nat.lt_trans (by decide) h7) (fun h => Nat.ne_of_gt h7 h.2.1)).1

theorem askConn_good (hf : ConnFacts s c) (hs : c.sock = true) (hl3 : isLatin1 env.stamp = true)
    (hn : c.sess.nextIn < n) : ConnGood s (askConn env c n) :=
  ((hf.congr (c' := { c with maxResend := n }) rfl rfl hf.role).sentFresh (askFrame_good hf hl3)
    (buildFrame_get_seq ..)).congr (c' := askConn env c n) rfl rfl hf.role |>.good
    (by rw [askConn_state]; simp [restState])
    (by rw [askConn_sock, askConn_state, hs]; rfl)
    (fun _ => by rw [askConn_maxResend]; have := hf.e1; omega)

theorem absConn_askConn (c : Conn) (n : Int) : absConn (askConn env c n) = ((absConn c).askResend n).1 := by
  -- the ResendRequest is journaled on the connection that carries the watermark already, then the state is set
  show ({ absConn (sentFresh { c with maxResend := n } (askFrame env c)) with st := .awaiting } : AConn) = _
  rw [show askFrame env c = buildFrame ({ c with maxResend := n } : Conn).sess env.stamp (resendRequestMsg c.sess.nextIn)
    ({ c with maxResend := n } : Conn).sess.nextOut from rfl, absConn_sentFresh (outMsg_resendReq _), kind_resendReq]
  rfl

theorem absFrame_askFrame (c : Conn) (n : Int) : absFrame (askFrame env c) = ((absConn c).askResend n).2 := by
  rw [askFrame, absFrame_build, kind_resendReq]; rfl

/-- a step that ends by asking for a resend: the frames `pre` written before, then the ResendRequest -/
theorem stepOK_askConn (hf : ConnFacts s c) (hs : c.sock = true) (hl3 : isLatin1 env.stamp = true)
    (hn : c.sess.nextIn < n) {a : AConn} (ha : a.askResend n = (absConn c).askResend n)
    {eff : List Effect} {pre : List Msg} (hw : writesOf eff = pre ++ [askFrame env c]) (hd : deliveriesOf eff = [])
    (hpre : ∀ g ∈ pre, FrameGood s.name s.other.name g) :
    StepOK s { c := (a.askResend n).1, wr := pre.map absFrame ++ [(a.askResend n).2] } (askConn env c n) eff := by
  rw [ha]
  refine ⟨absConn_askConn c n, by simp [hw, absFrame_askFrame c n], by simp [hd], askConn_good hf hs hl3 hn, ?_⟩
  intro g hg
  rw [hw] at hg
  rcases List.mem_append.mp hg with h | h
  · exact hpre g h
  · rw [List.mem_singleton.mp h]; exact askFrame_good hf hl3

/-- the effects of `_finalize_message` write and deliver nothing -/
theorem writesOf_ite_onState (p : Prop) [Decidable p] (x : Nat) :
    writesOf (if p then [Effect.onState x] else []) = [] := by split <;> rfl

theorem deliveriesOf_ite_onState (p : Prop) [Decidable p] (x : Nat) :
    deliveriesOf (if p then [Effect.onState x] else []) = [] := by split <;> rfl

theorem counted_good (hc : ConnGood s c) (h3 : st_DISCONNECTED_BROKEN_CONN < c.state) {k ret : Int}
    (h0 : 0 < ret) (hk : k ≤ ret) (hlt : AllLt k c.journal.inb) :
    ConnGood s (counted env c (c.journal.inb ++ [(k, f)]) k ret) := by
  have hf := connFacts hc
  refine ConnFacts.good (.of hf.snd hf.tgt hf.role (by show 1 ≤ ret + 1; omega) hf.o1 hf.rows
    (allLt_append_last hlt (by show k < ret + 1; omega))) ?_ ?_ ?_
  · rw [counted_state]; split
    · simp [restState]
    · exact hc.st
  · rw [counted_sock, counted_state]; split
    · exact sock_of_state hc h3
    · exact hc.sock
  · rw [counted_state, counted_maxResend]; split
    · intro h; cases h
    · exact hc.w

theorem absConn_counted (c : Conn) (rows : Rows) (k ret : Int) :
    absConn (counted env c rows k ret) = (absConn c).advance (ret + 1) := by
  have e : absSt c.state = .awaiting ↔ c.state = st_RESENDREQ_AWAITING := absSt_awaiting_iff _
  unfold AConn.advance
  by_cases h : c.state = st_RESENDREQ_AWAITING ∧ c.maxResend ≤ ret
  · have h' : ((absConn c).st = .awaiting && ret + 1 - 1 ≥ (absConn c).w) = true := by
      simp [absConn, e.mpr h.1, h.2]
    rw [if_pos h']; simp [absConn, counted_state, counted_maxResend, counted_sess, counted_journal, counted_role, h]; rfl
  · have h' : ¬ ((absConn c).st = .awaiting && ret + 1 - 1 ≥ (absConn c).w) = true := by
      simpa [e, absConn] using h
    rw [if_neg h']; simp [absConn, counted_state, counted_maxResend, counted_sess, counted_journal, counted_role, h]

/-! A path through `_process_message` is a sequence of phases (head handler, gap check, dispatch, count); each phase is
matched with the abstract model once, and a path is their composition. -/

def ARes.seq (r1 r2 : ARes) : ARes := { c := r2.c, wr := r1.wr ++ r2.wr, dl := r1.dl ++ r2.dl }

theorem StepOK.seq {r1 r2 : ARes} {c1 c2 : Conn} {e1 e2 : List Effect} (h1 : StepOK s r1 c1 e1)
    (h2 : StepOK s r2 c2 e2) : StepOK s (r1.seq r2) c2 (e1 ++ e2) :=
  ⟨h2.conn, by rw [writesOf_append, List.map_append, h1.wr, h2.wr]; rfl,
    by rw [deliveriesOf_append, List.map_append, h1.dl, h2.dl]; rfl, h2.good,
    fun g hg => by rw [writesOf_append] at hg; exact (List.mem_append.mp hg).elim (h1.frames g) (h2.frames g)⟩

/-- logged on: the two states in which frames are dispatched -/
def Est (c : Conn) : Prop := c.state = st_ACTIVE ∨ c.state = st_RESENDREQ_AWAITING

theorem Est.past_sent (h : Est c) : st_LOGON_INITIAL_SENT < c.state := by rcases h with h | h <;> rw [h] <;> decide

theorem Est.abs (h : Est c) : (absConn c).st = .active ∨ (absConn c).st = .awaiting :=
  h.imp absSt_active absSt_awaiting

/-- `_check_seqnum_gaps` in the abstract model -/
def AConn.gap (a : AConn) (n : Int) : ARes :=
  if a.e < n ∧ a.st ≠ .awaiting then { c := (a.askResend n).1, wr := [(a.askResend n).2] } else { c := a }

theorem AConn.gap_le {a : AConn} {n : Int} (h : n ≤ a.e) : a.gap n = { c := a } :=
  if_neg fun hc => absurd hc.1 (Int.not_lt.mpr h)

theorem AConn.gap_awaiting {a : AConn} (n : Int) (h : a.st = .awaiting) : a.gap n = { c := a } :=
  if_neg fun hc => hc.2 h

theorem AConn.gap_ask {a : AConn} {n : Int} (hn : a.e < n) (hst : a.st ≠ .awaiting) :
    a.gap n = { c := (a.askResend n).1, wr := [(a.askResend n).2] } := if_pos ⟨hn, hst⟩

/-- the gap check, whatever the frame: valid iff the number is not above the expectation -/
theorem gap_sim (hc : ConnGood s c) (hl3 : isLatin1 env.stamp = true) (hst : Est c) (n : Int) :
    ∃ c1 e1, checkSeqnumGaps env n c = ⟨.ok (decide (n ≤ c.sess.nextIn)), c1, e1⟩ ∧
      StepOK s ((absConn c).gap n) c1 e1 ∧ Est c1 ∧ c1.sess.nextIn = c.sess.nextIn := by
  by_cases hn : n ≤ c.sess.nextIn
  · refine ⟨c, [], by rw [decide_eq_true hn]; exact checkSeqnumGaps_le env hn, ?_, hst, rfl⟩
    rw [AConn.gap_le (show n ≤ (absConn c).e from hn)]
    exact stepOK_same hc rfl rfl
  have hgt : c.sess.nextIn < n := by omega
  rw [decide_eq_false hn]
  rcases hst with ha | ha
  · have hs := sock_of_state hc (by rw [ha]; decide)
    refine ⟨_, _, checkSeqnumGaps_askConn (connFacts hc) hs hl3 (by rw [ha]; decide) (by rw [ha]; decide) hgt, ?_,
      Or.inr rfl, rfl⟩
    rw [AConn.gap_ask (show (absConn c).e < n from hgt) (by rw [absSt_active ha]; decide)]
    exact stepOK_askConn (pre := []) (connFacts hc) hs hl3 hgt rfl rfl rfl (by simp)
  · refine ⟨c, [], checkSeqnumGaps_awaiting env hgt ha, ?_, Or.inr ha, rfl⟩
    rw [AConn.gap_awaiting n (absSt_awaiting ha)]
    exact stepOK_same hc rfl rfl

/-- the count: `_finalize_message` of a frame filed under `n` when `set_next_num_in` accepts it and returns `ret` -/
theorem count_sim {ret : Int} (hc : ConnGood s c) (hst : Est c) (h34 : f.get? tMsgSeqNum = some (pyStr n))
    (hnext : setNextNumIn f c = ⟨.ok ret, { c with sess := { c.sess with nextIn := ret + 1 } }, []⟩)
    (h0 : 0 < ret) (hn : n ≤ ret) (hlt : AllLt n c.journal.inb) :
    ∃ c3 e3, finalizeMessage env f c = ⟨.ok (), c3, e3⟩ ∧ StepOK s { c := (absConn c).advance (ret + 1) } c3 e3 :=
  ⟨_, _, finalizeMessage_eq hnext h0 hc.w h34 (insert_append _ _ _ hlt), absConn_counted .., by simp [writesOf_ite_onState],
    by simp [deliveriesOf_ite_onState], counted_good hc (Nat.lt_trans (by decide) hst.past_sent) h0 hn hlt,
    by simp [writesOf_ite_onState]⟩

end AsyncFix.Link
