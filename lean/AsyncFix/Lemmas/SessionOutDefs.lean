import AsyncFix.Lemmas.SessionOwn

/-!
C05 definitions: what a well-formed outbound journal row is (`RowOk`), the invariant `OutInv`, new
messages among the written frames (`newWrites`, by `isNew` of `SessionOwn`; `numbered`), retransmitted copies (`Copy`),
what a journal slot holds for a frame that was once sent (`Slot`), and the step relation `Good` that
every handler of the session layer satisfies, with its reflexivity and transitivity and its two constructors: a step that
sends no new message (`Good.of_noNew`) and a step that sends exactly one (`Good.newSend`).  Last, a fact about
`Journal.recoverOut` that the read-back statement of Props/C05 needs (`recoverOut_single`).
-/
namespace AsyncFix.Session

open AsyncFix.Generated AsyncFix.Generated.ConnEnum

/-- the frame's MsgSeqNum(34) as the journaler / the peer read it: `int(frame[34])` -/
def seqOf (f : Msg) : Option Int := (f.get? tMsgSeqNum).bind pyInt

/-- an outbound journal row under key `n` as `send_msg` leaves it: numbered `n`, MsgType field =
message type, the header / trailer fields `_process_resend` deletes are present, single-byte text. -/
structure RowOk (f : Msg) (n : Int) : Prop where
  seq : f.get? tMsgSeqNum = some (pyStr n)
  ty : f.get? tMsgType = some f.mtype
  h8 : (f.get? tBeginString).isSome = true
  h9 : (f.get? tBodyLength).isSome = true
  h52 : (f.get? tSendingTime).isSome = true
  h49 : (f.get? tSenderCompID).isSome = true
  h56 : (f.get? tTargetCompID).isSome = true
  h10 : (f.get? tCheckSum).isSome = true
  lat : frameLatin1 f = true

theorem RowOk.seqOf {f : Msg} {n : Int} (h : RowOk f n) : seqOf f = some n := by
  simp [Session.seqOf, h.seq, pyInt_pyStr]

theorem buildFrame_seqOf (s : Session) (stamp : String) (m : Msg) (seq : Int) :
    seqOf (buildFrame s stamp m seq) = some seq := by
  simp [seqOf, buildFrame_get_seq, pyInt_pyStr]

theorem buildFrame_rowOk (s : Session) (stamp : String) (m : Msg) (seq : Int)
    (hl : frameLatin1 (buildFrame s stamp m seq) = true) : RowOk (buildFrame s stamp m seq) seq :=
  ⟨rfl, rfl, rfl, rfl, rfl, rfl, rfl, buildFrame_has_checkSum s stamp m seq, hl⟩

/-- **The C05 invariant.**  `counter`: stored next-outbound = the session's counter; `rows`: every
outbound row sits under its own MsgSeqNum, below the counter; `sorted`: the primary key;
`latin`: CompIDs are single-byte text (otherwise nothing can be sent at all);
`sock`: a connection that is not in a disconnected state has its transport. -/
structure OutInv (c : Conn) : Prop where
  counter : c.journal.outSeq + 1 = c.sess.nextOut
  rows : ∀ p ∈ c.journal.out, RowOk p.2 p.1 ∧ p.1 < c.sess.nextOut
  sorted : Rows.Sorted c.journal.out
  latin : isLatin1 c.sess.sender = true ∧ isLatin1 c.sess.target = true
  sock : st_DISCONNECTED_BROKEN_CONN < c.state → c.sock = true

theorem OutInv.allLt {c : Conn} (h : OutInv c) : Rows.AllLt c.sess.nextOut c.journal.out :=
  fun p hp => (h.rows p hp).2

def newWrites : List Effect → List Msg
  | [] => []
  | .write f :: r => if isNew f then f :: newWrites r else newWrites r
  | _ :: r => newWrites r

theorem newWrites_append (a b : List Effect) : newWrites (a ++ b) = newWrites a ++ newWrites b := by
  induction a with
  | nil => rfl
  | cons e r ih =>
    cases e <;> simp only [List.cons_append, newWrites, ih]
    split <;> simp

def allWrites : List Effect → List Msg
  | [] => []
  | .write f :: r => f :: allWrites r
  | _ :: r => allWrites r

theorem allWrites_append (a b : List Effect) : allWrites (a ++ b) = allWrites a ++ allWrites b := by
  induction a with
  | nil => rfl
  | cons e r ih => cases e <;> simp [allWrites, ih]

def numbered : Int → List Msg → Prop
  | _, [] => True
  | b, f :: r => seqOf f = some b ∧ numbered (b + 1) r

theorem numbered_append (b : Int) (l1 l2 : List Msg) :
    numbered b (l1 ++ l2) ↔ numbered b l1 ∧ numbered (b + l1.length) l2 := by
  induction l1 generalizing b with
  | nil => simp [numbered]
  | cons f r ih =>
    simp only [List.cons_append, numbered, ih, List.length_cons, and_assoc]
    have : b + 1 + (r.length : Int) = b + ((r.length + 1 : Nat) : Int) := by omega
    rw [this]

theorem numbered_mem {b : Int} {l : List Msg} (h : numbered b l) {f : Msg} (hf : f ∈ l) :
    ∃ n, seqOf f = some n ∧ b ≤ n ∧ n < b + l.length := by
  induction l generalizing b with
  | nil => simp at hf
  | cons g r ih =>
    rcases List.mem_cons.mp hf with e | hr
    · subst e; exact ⟨b, h.1, by omega, by simp; omega⟩
    · obtain ⟨n, h1, h2, h3⟩ := ih h.2 hr
      exact ⟨n, h1, by omega, by simp; omega⟩

/-- `g` is `f` itself or what (repeated) resend servicing made of it: header / trailer stripped,
PossDupFlag=Y, OrigSendingTime, re-encoded under the same session. -/
inductive Copy (snd tgt : String) : Msg → Msg → Prop
  | refl (f : Msg) : Copy snd tgt f f
  | resent {f g : Msg} (stamp : String) (rp : Msg) (n : Int) :
      Copy snd tgt f g → prepareReplay g = .ok rp →
      Copy snd tgt f (buildFrame { sender := snd, target := tgt } stamp rp n)

/-- why a sent frame may be represented by a gap fill: its type is never retransmitted, or the
application's `should_replay` declined it (or a retransmitted copy of it). -/
def Declined (sr : Msg → Bool) (snd tgt : String) (f : Msg) : Prop :=
  ConnEnum.noReplay.contains f.mtype = true ∨ ∃ g, Copy snd tgt f g ∧ sr g = false

/-- what the journal holds under `n` for a frame `f` that went out under `n`: `f` or a retransmitted
copy of it; or – only when `f` is `Declined` – a SequenceReset-GapFill row or nothing (inside a
multi-number gap fill). -/
def Slot (sr : Msg → Bool) (c : Conn) (n : Int) (f : Msg) : Prop :=
  match Rows.find n c.journal.out with
  | some g => Copy c.sess.sender c.sess.target f g ∨
      (g.mtype = mSequenceReset ∧ Declined sr c.sess.sender c.sess.target f)
  | none => Declined sr c.sess.sender c.sess.target f

/-- Step relation.  `U` = "the journal-content claims (`Slot`) are wanted" (they hold across every
ResendRequest, while the numbers fit SQLite's INTEGER); `X` = "no ResendRequest is serviced at all" (then
rows stay identical: `keepRow`, `freshRow`). -/
structure Good (sr : Msg → Bool) (U X : Prop) (c c' : Conn) (es : List Effect) : Prop where
  inv : OutInv c'
  ids : c'.sess.sender = c.sess.sender ∧ c'.sess.target = c.sess.target
  num : numbered c.sess.nextOut (newWrites es)
  cnt : c'.sess.nextOut = c.sess.nextOut + (newWrites es).length
  keepSlot : U → c'.sess.nextOut ≤ sysMaxsize + 1 →
    ∀ n f, n < c.sess.nextOut → Slot sr c n f → Slot sr c' n f
  freshSlot : U → c'.sess.nextOut ≤ sysMaxsize + 1 →
    ∀ f ∈ newWrites es, ∀ n, seqOf f = some n → Slot sr c' n f
  keepRow : X → ∀ n g, Rows.find n c.journal.out = some g → Rows.find n c'.journal.out = some g
  freshRow : X → ∀ f ∈ newWrites es, ∀ n, seqOf f = some n → Rows.find n c'.journal.out = some f

/-- connections that agree on everything C05 talks about -/
structure OutEq (c c' : Conn) : Prop where
  sess : c'.sess.nextOut = c.sess.nextOut ∧ c'.sess.sender = c.sess.sender ∧ c'.sess.target = c.sess.target
  out : c'.journal.out = c.journal.out
  outSeq : c'.journal.outSeq = c.journal.outSeq

theorem Slot.congr {sr : Msg → Bool} {c c' : Conn} (h : OutEq c c') {n : Int} {f : Msg}
    (hs : Slot sr c n f) : Slot sr c' n f := by
  unfold Slot at *
  rw [h.out, h.sess.2.1, h.sess.2.2]; exact hs

theorem Good.of_noNew {sr : Msg → Bool} {U X : Prop} {c c' : Conn} {es : List Effect} (hI : OutInv c')
    (hids : c'.sess.sender = c.sess.sender ∧ c'.sess.target = c.sess.target)
    (hcnt : c'.sess.nextOut = c.sess.nextOut) (hes : newWrites es = [])
    (hslot : U → c'.sess.nextOut ≤ sysMaxsize + 1 → ∀ n f, n < c.sess.nextOut → Slot sr c n f → Slot sr c' n f)
    (hrow : X → ∀ n g, Rows.find n c.journal.out = some g → Rows.find n c'.journal.out = some g) :
    Good sr U X c c' es where
  inv := hI
  ids := hids
  num := by rw [hes]; trivial
  cnt := by simp [hes, hcnt]
  keepSlot := hslot
  freshSlot := by intro _ _ f hf; rw [hes] at hf; cases hf
  keepRow := hrow
  freshRow := by intro _ f hf; rw [hes] at hf; cases hf

theorem Good.of_outEq {sr : Msg → Bool} {U X : Prop} {c c' : Conn} {es : List Effect} (hI : OutInv c')
    (h : OutEq c c') (hes : newWrites es = []) : Good sr U X c c' es :=
  Good.of_noNew hI h.sess.2 h.sess.1 hes (fun _ _ _ _ _ hs => hs.congr h) (fun _ n g hg => by rw [h.out]; exact hg)

theorem OutEq.refl (c : Conn) : OutEq c c := ⟨⟨rfl, rfl, rfl⟩, rfl, rfl⟩

theorem OutInv.of_outEq {c c' : Conn} (hI : OutInv c) (h : OutEq c c')
    (hsock : st_DISCONNECTED_BROKEN_CONN < c'.state → c'.sock = true) : OutInv c' := by
  refine ⟨by rw [h.outSeq, h.sess.1]; exact hI.counter, ?_, by rw [h.out]; exact hI.sorted,
    by rw [h.sess.2.1, h.sess.2.2]; exact hI.latin, hsock⟩
  intro p hp; rw [h.out] at hp; rw [h.sess.1]; exact hI.rows p hp

theorem Good.refl {sr : Msg → Bool} {U X : Prop} {c : Conn} (hI : OutInv c) : Good sr U X c c [] :=
  Good.of_outEq hI (OutEq.refl c) rfl

theorem Good.trans {sr : Msg → Bool} {U X : Prop} {c c1 c2 : Conn} {e1 e2 : List Effect}
    (h1 : Good sr U X c c1 e1) (h2 : Good sr U X c1 c2 e2) : Good sr U X c c2 (e1 ++ e2) where
  inv := h2.inv
  ids := ⟨h2.ids.1.trans h1.ids.1, h2.ids.2.trans h1.ids.2⟩
  num := by
    rw [newWrites_append, numbered_append]
    refine ⟨h1.num, ?_⟩
    rw [← h1.cnt]; exact h2.num
  cnt := by
    rw [newWrites_append, h2.cnt, h1.cnt]; simp; omega
  keepSlot := by
    intro hU hB n f hn hs
    have hc1 : c1.sess.nextOut ≤ c2.sess.nextOut := by rw [h2.cnt]; omega
    have hcc : c.sess.nextOut ≤ c1.sess.nextOut := by rw [h1.cnt]; omega
    exact h2.keepSlot hU hB n f (by omega) (h1.keepSlot hU (by omega) n f hn hs)
  freshSlot := by
    intro hU hB f hf n hn
    have hc1 : c1.sess.nextOut ≤ c2.sess.nextOut := by rw [h2.cnt]; omega
    rw [newWrites_append] at hf
    rcases List.mem_append.mp hf with hf | hf
    · obtain ⟨n', h1', _, h3⟩ := numbered_mem h1.num hf
      rw [hn] at h1'; cases h1'
      exact h2.keepSlot hU hB n f (by rw [h1.cnt]; exact h3) (h1.freshSlot hU (by omega) f hf n hn)
    · exact h2.freshSlot hU hB f hf n hn
  keepRow := fun hX n g hg => h2.keepRow hX n g (h1.keepRow hX n g hg)
  freshRow := by
    intro hX f hf n hn
    rw [newWrites_append] at hf
    rcases List.mem_append.mp hf with hf | hf
    · exact h2.keepRow hX n f (h1.freshRow hX f hf n hn)
    · exact h2.freshRow hX f hf n hn

theorem Good.newSend {sr : Msg → Bool} {U X : Prop} {c c' : Conn} {f : Msg} {es : List Effect} (hI : OutInv c)
    (hsock : st_DISCONNECTED_BROKEN_CONN < c'.state → c'.sock = true)
    (hs1 : c'.sess.nextOut = c.sess.nextOut + 1) (hs2 : c'.sess.sender = c.sess.sender)
    (hs3 : c'.sess.target = c.sess.target)
    (hout : c'.journal.out = c.journal.out ++ [(c.sess.nextOut, f)])
    (hseq : c'.journal.outSeq = c.sess.nextOut) (hrow : RowOk f c.sess.nextOut)
    (hes : newWrites es = [f]) : Good sr U X c c' es := by
  have hfind : ∀ n, Rows.find n c'.journal.out =
      if n = c.sess.nextOut then some f else Rows.find n c.journal.out := by
    intro n; rw [hout]; exact Rows.find_append_last _ _ _ _ hI.allLt
  refine {
    inv := ?_, ids := ⟨hs2, hs3⟩, num := ?_, cnt := ?_, keepSlot := ?_, freshSlot := ?_,
    keepRow := ?_, freshRow := ?_ }
  · refine ⟨by rw [hseq, hs1], ?_, ?_, by rw [hs2, hs3]; exact hI.latin, hsock⟩
    · intro p hp
      rw [hout] at hp
      rcases List.mem_append.mp hp with hp | hp
      · have := hI.rows p hp; exact ⟨this.1, by rw [hs1]; omega⟩
      · simp only [List.mem_singleton] at hp; subst hp; exact ⟨hrow, by rw [hs1]; simp only; omega⟩
    · rw [hout]; exact Rows.sorted_append_last _ _ _ hI.sorted hI.allLt
  · rw [hes]; exact ⟨hrow.seqOf, trivial⟩
  · rw [hes, hs1]; simp
  · intro _ _ n g hn hs
    unfold Slot at *
    rw [hfind, if_neg (by omega), hs2, hs3]; exact hs
  · intro _ _ g hg n hn
    rw [hes] at hg; simp only [List.mem_singleton] at hg; subst hg
    rw [hrow.seqOf] at hn; cases hn
    unfold Slot
    rw [hfind, if_pos rfl]
    exact Or.inl (Copy.refl _)
  · intro _ n g hg
    have : n < c.sess.nextOut := (hI.rows _ (Rows.find_mem hg)).2
    rw [hfind, if_neg (by omega)]; exact hg
  · intro _ g hg n hn
    rw [hes] at hg; simp only [List.mem_singleton] at hg; subst hg
    rw [hrow.seqOf] at hn; cases hn
    rw [hfind, if_pos rfl]

/-- `recover_messages(n, n)` on an ascending journal -/
theorem recoverOut_single (j : Journal) (hs : Rows.Sorted j.out) (n : Int) (f : Msg)
    (h : Rows.find n j.out = some f) : j.recoverOut n n = [f] := by
  unfold Journal.recoverOut Rows.range
  have hm := Rows.find_mem h
  have : ∀ (rs : Rows), Rows.Sorted rs → (n, f) ∈ rs →
      (rs.filter fun p => decide (n ≤ p.1) && decide (p.1 ≤ n)) = [(n, f)] := by
    intro rs
    induction rs with
    | nil => intro _ hm; cases hm
    | cons p r ih =>
      intro hs hm
      have hs' := List.pairwise_cons.mp hs
      rcases List.mem_cons.mp hm with e | hr
      · subst e
        have : (r.filter fun p => decide (n ≤ p.1) && decide (p.1 ≤ n)) = [] := by
          rw [List.filter_eq_nil_iff]
          intro q hq
          have := hs'.1 q hq
          simp only [Bool.and_eq_true, decide_eq_true_eq, not_and]
          intro _; simp only at this; omega
        simp [List.filter, this]
      · have hlt := hs'.1 (n, f) hr
        have : (decide (n ≤ p.1) && decide (p.1 ≤ n)) = false := by
          simp only [Bool.and_eq_false_iff, decide_eq_false_iff_not]
          simp only at hlt; left; omega
        simp only [List.filter, this]
        exact ih hs'.2 hr
  rw [this j.out hs hm]; rfl

end AsyncFix.Session
