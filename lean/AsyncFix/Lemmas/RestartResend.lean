import AsyncFix.Lemmas.RestartRecv
import AsyncFix.Lemmas.SessionResendRel

/-!
Restart family: resend servicing (`_process_resend`).  Inside, the outbound counter is rewound and the
stored counter follows the re-journaled frames; every frame written in between carries its own number
(GapFill / PossDupFlag=Y), so whatever happens the session object and the inbound side are untouched
(`RResend`).  On a run without exception the second `set_seq_num` restores stored = live: `Good`.
-/

namespace AsyncFix.Restart

open AsyncFix.Session AsyncFix.Generated AsyncFix.Generated.ConnEnum

/-- a row above EndSeqNo goes back into the journal unsent (fix da179c4) -/
theorem persistOutboundRow_rr (n : Int) (row : Msg) : M.Rel RResend (persistOutboundRow n row) := by
  constructor
  intro c
  unfold persistOutboundRow
  rw [M.get_bind_apply]
  cases hj : c.journal.persist .outbound n row with
  | none => simp only [M.throw_apply]; exact Compositional.refl c
  | some j =>
    obtain ⟨_, _, rfl⟩ := persist_out_inv hj
    exact ⟨rfl, rfl, rfl, rfl, NoNewWrites.nil⟩

/-- every frame the loop sends carries its own number: a GapFill, or the copy of a row with PossDupFlag=Y -/
theorem resendLoop_rr (env : Env) (sr : Msg → Bool) (endNo : Int) (rows : List Msg) (a b : Int) :
    M.Rel RResend (resendLoop env sr endNo rows a b) :=
  resendLoop_rel env sr endNo persistOutboundRow_rr (fun _ _ => sendMsg_rr env _ (ownSeq_gapFill _ _)) rows
    (fun _ _ _ rp _ _ hrp => sendMsg_rr env rp (ownSeq_of_possdup (prepareReplay_possdup hrp))) a b

/-- the part of `_process_resend` between its two `set_seq_num` calls -/
def resendMid (env : Env) (sr : Msg → Bool) (e : Int) (rows : List Msg) (b cur : Int) : M Unit := do
  let (gfb, gfe) ← resendLoop env sr e rows b b
  M.assert (decide (gfe ≤ cur))
  let gfe2 := min (e + 1) cur
  if gfb < gfe2 then sendMsg env (gapFillMsg gfb gfe2) else pure ()

theorem resendMid_rr (env : Env) (sr : Msg → Bool) (e : Int) (rows : List Msg) (b cur : Int) :
    M.Rel RResend (resendMid env sr e rows b cur) := by
  unfold resendMid
  apply M.Rel.bind (resendLoop_rr env sr e rows b b)
  intro p
  obtain ⟨gfb, gfe⟩ := p
  apply M.Rel.bind (M.Rel.assert _)
  intro _
  apply M.Rel.ite
  · exact sendMsg_rr env _ (ownSeq_gapFill _ _)
  · exact M.Rel.pure _

variable {g : List Effect → Bool} [EffGuard g] {om : Option Msg}

def resendTail : M Unit := do
  let c2 ← M.get
  if c2.state != st_RESENDREQ_AWAITING then stateSet st_ACTIVE else pure ()

attribute [local irreducible] stateSet M.bind' M.pure' M.throw M.tryCatch M.get M.modify M.emit M.liftE M.assert M.int in
/-- `_process_resend` enters RESENDREQ_HANDLING and leaves it for ACTIVE, unless awaiting -/
theorem stateSet_unless_awaiting (s : Nat) : M.Rel Quietly (do
    let c ← M.get
    if c.state != st_RESENDREQ_AWAITING then stateSet s else pure ()) := by
  rel_tac [stateSet_quietly]

/-- rewind; replay; restore; tail – started in the state whose counter is `cur` -/
def replayBody (env : Env) (sr : Msg → Bool) (e : Int) (rows : List Msg) (b cur : Int) : M Unit := do
  setSeqNum (some b) none
  resendMid env sr e rows b cur
  setSeqNum (some cur) none
  resendTail

theorem replayBody_good (env : Env) (sr : Msg → Bool) (en : Int) (rows : List Msg) (b : Int) (c : Conn) :
    ∀ a c' e, replayBody env sr en rows b c.sess.nextOut c = ⟨.ok a, c', e⟩ → g e = true → Good om c c' e := by
  intro a c' e h hg
  unfold replayBody at h
  have hs1 := setSeqNum_out_apply b c
  by_cases hb : b > 0
  case neg => rw [if_neg hb] at hs1; rw [M.bind_err hs1] at h; cases h
  rw [if_pos hb] at hs1
  rw [M.bind_ok hs1] at h
  simp only [List.nil_append] at h
  rcases hm : resendMid env sr en rows b c.sess.nextOut
      { c with sess := { c.sess with nextOut := b }, journal := c.journal.setSeq b c.sess.nextIn }
    with ⟨r, c2, e2⟩
  have hrel := (resendMid_rr env sr en rows b c.sess.nextOut).out
      { c with sess := { c.sess with nextOut := b }, journal := c.journal.setSeq b c.sess.nextIn }
  rw [hm] at hrel
  cases r with
  | error ex => rw [M.bind_err hm] at h; simp at h
  | ok u =>
    rw [M.bind_ok hm] at h
    have hs2 := setSeqNum_out_apply c.sess.nextOut c2
    by_cases hcur : c.sess.nextOut > 0
    case neg => rw [if_neg hcur] at hs2; rw [M.bind_err hs2] at h; cases h
    rw [if_pos hcur] at hs2
    rw [M.bind_ok hs2] at h
    rcases ht : resendTail
        { c2 with sess := { c2.sess with nextOut := c.sess.nextOut },
                  journal := c2.journal.setSeq c.sess.nextOut c2.sess.nextIn } with ⟨r4, c4, e4⟩
    rw [ht] at h
    simp only [List.nil_append, Out.mk.injEq] at h
    obtain ⟨hr, hc, he⟩ := h
    subst hr hc he
    have hg4 : g e4 = true := by
      have := hg
      rw [EffGuard.app (g := g), Bool.and_eq_true] at this
      exact this.2
    have htail : Good om _ c4 e4 :=
      (OkSpec.ofRel (g := g) ((stateSet_unless_awaiting _).mono fun _ _ _ q => q.frame.good)).out _ _ _ _ ht hg4
    have hmid : Good om c
        { c2 with sess := { c2.sess with nextOut := c.sess.nextOut },
                  journal := c2.journal.setSeq c.sess.nextOut c2.sess.nextIn } e2 := by
      refine ⟨fun _ => ?_, ?_, hrel.nw.below _, Or.inr (Or.inl ?_), ⟨?_, ?_, ?_⟩, ?_⟩
      · show c.sess.nextOut - 1 + 1 = c.sess.nextOut; omega
      · exact Int.le_refl _
      · show c2.sess.nextIn - 1 + 1 = c2.sess.nextIn; omega
      · show c2.sess.sender = c.sess.sender; rw [hrel.sess]
      · show c2.sess.target = c.sess.target; rw [hrel.sess]
      · show c2.hb = c.hb; rw [hrel.hb]
      · show 0 < c.sess.nextIn → 0 < c2.sess.nextIn; rw [hrel.sess]; exact id
    have := Compositional.trans hmid htail
    simpa using this

theorem resendReplay_eq (env : Env) (sr : Msg → Bool) (rows : List Msg) (cur b e : Int) :
    resendReplay env sr rows cur b e = replayBody env sr e rows b cur := by
  simp only [resendReplay, replayBody, resendMid, resendTail, bind_assoc, M.ite_bind, pure_bind]

/-- The counter `_process_resend` remembers is read off the connection that `resendServe` starts from: the steps in
between only check the state and read the request. -/
theorem processResend_good (env : Env) (sr : Msg → Bool) (m : Msg) :
    OkRel g (Good om) (processResend env sr m) := by
  have rest : OkRel g (Good om) (resendBody env sr m) := by
    unfold resendBody
    refine OkRel.bind (OkRel.assert _) fun _ => OkSpec.get_bind fun c => ?_
    refine OkSpec.bind_same (M.Rel.assert (R := RSame) _) fun _ =>
      OkSpec.bind_same (M.Rel.liftE (R := RSame) _) fun vb => OkSpec.bind_same (M.Rel.int (R := RSame) _) fun b =>
      OkSpec.bind_same (M.Rel.liftE (R := RSame) _) fun ve => OkSpec.bind_same (M.Rel.int (R := RSame) _) fun e0 => ?_
    unfold resendServe
    split
    · exact (OkRel.ite (stateSet_good _) (OkRel.pure _)).conseq fun _ _ _ _ h _ => h
    · rw [resendReplay_eq]
      exact ⟨fun c1 a c' e h hg hc => by subst hc; exact replayBody_good env sr _ _ b c1 a c' e h hg⟩
  rw [processResend_eq]
  refine OkRel.bind OkRel.get fun c0 => ?_
  split
  · exact OkRel.bind (stateSet_good _) fun _ => rest
  · exact rest

attribute [local irreducible] processResend processTestRequest processHeartbeat M.bind' M.pure' M.throw
  M.tryCatch M.get M.modify M.emit M.liftE M.assert M.int in
theorem processDispatch_good (env : Env) (sr : Msg → Bool) (m : Msg) (valid : Bool) (n : Int) :
    OkRel excFree (Good om) (processDispatch env sr m valid n) := by
  unfold processDispatch
  ok_tac [processResend_good, processTestRequest_good, processHeartbeat_good, Good.emit]

end AsyncFix.Restart
