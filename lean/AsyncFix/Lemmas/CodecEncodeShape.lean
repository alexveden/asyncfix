/-
The encoder's output: `assemble` is `frameOf` of the rendered fields (`assemble_eq`, the one place where its
string arithmetic is done), which is `mkFrame` of the header fields followed by the body's wire-order fields.
-/
import AsyncFix.Model.Codec.Encode
import AsyncFix.Lemmas.CodecSpec
import AsyncFix.Lemmas.CodecDec
namespace AsyncFix.Model.Codec

theorem field_eq_fieldBytes (t v : Bytes) : field t v = fieldBytes t v := rfl

/-- header fields the encoder puts in front of the body, in wire order after BeginString/BodyLength -/
def hdrFlds (mtype sender target seq now : Bytes) : List Fld :=
  [⟨tag35, mtype⟩, ⟨tag49, sender⟩, ⟨tag56, target⟩, ⟨tag34, seq⟩, ⟨tag52, now⟩]

/-- the body entries the encoder emits: everything except 34 / 52 / 49 / 56 -/
def bodyOf (m : Msg) : Cont := m.body.filter fun n => !skipTags.contains n.tag

/-- the frame the encoder builds around already rendered fields `flds` (MsgType first): each followed by SOH,
BeginString and BodyLength in front, CheckSum behind -/
def frameOf (bs : Bytes) (flds : List Bytes) : Bytes :=
  let body := join SOH flds ++ [SOH]
  let pre := field [56] bs ++ SOH :: (field [57] (natToDec body.length) ++ SOH :: body)
  pre ++ field [49, 48] (dec3 (sum pre % 256)) ++ [SOH]

theorem assemble_eq (bs : Bytes) (m : Msg) (s : Session) (seq now : Bytes) :
    assemble bs m s seq now =
      match addCont (bodyOf m) with
      | .error k => .error k
      | .ok rest => .ok (frameOf bs (field tag35e m.mtype :: field tag49 s.sender :: field tag56 s.target ::
          field tag34 seq :: field tag52 now :: rest)) := by
  unfold assemble bodyOf
  simp only [bind, Except.bind, pure, Except.pure]
  cases addCont _ with
  | error k => rfl
  | ok rest =>
    dsimp only
    -- `B`: the body behind MsgType; BodyLength `len(B) + len(mt) + 1` is the length of `mt ++ SOH :: B`
    generalize hB : join SOH ([field tag49 s.sender, field tag56 s.target, field tag34 seq, field tag52 now]
      ++ rest) ++ [SOH] = B
    have hb : join SOH (field tag35e m.mtype :: field tag49 s.sender :: field tag56 s.target ::
        field tag34 seq :: field tag52 now :: rest) ++ [SOH] = field tag35e m.mtype ++ SOH :: B := by
      rw [← hB]; simp [join]
    have hl : (field tag35e m.mtype ++ SOH :: B).length = B.length + (field tag35e m.mtype).length + 1 := by
      simp only [List.length_append, List.length_cons]; omega
    simp only [frameOf, hb, hl]
    simp only [join, List.append_assoc, List.cons_append, List.nil_append]

theorem frameOf_map (bs : Bytes) (fs : List Fld) (h : fs ≠ []) :
    frameOf bs (fs.map fun f => fieldBytes f.tag f.val) = mkFrame bs fs := by
  simp only [frameOf, join_map_bodyBytes fs h, mkFrame, headBytes, field_eq_fieldBytes, List.append_assoc,
    List.cons_append, List.nil_append]

theorem assemble_eq_mkFrame (bs : Bytes) (m : Msg) (s : Session) (seq now : Bytes) (flat : List Fld)
    (hflat : addCont (bodyOf m) = .ok (flat.map fun f => fieldBytes f.tag f.val)) :
    assemble bs m s seq now = .ok (mkFrame bs (hdrFlds m.mtype s.sender s.target seq now ++ flat)) := by
  rw [assemble_eq, hflat, ← frameOf_map _ _ (by simp [hdrFlds])]
  rfl

/-- a message that is no SequenceReset and whose PossDupFlag(43) entry, if there is one, is a plain value
other than `"Y"` is given the session's next number, which is consumed -/
theorem selectSeq_fresh (m : Msg) (s : Session) (hm : (m.mtype == mtSeqReset) = false)
    (hpd : ∀ n, m.body.find? tag43 = some n → ∃ t v, n = .leaf t v ∧ (v == [89]) = false) :
    selectSeq m s false = .ok (intToDec s.nextOut, { s with nextOut := s.nextOut + 1 }) := by
  unfold selectSeq
  cases hf : m.body.find? tag43 with
  | none => simp [hm, bind, Except.bind, pure, Except.pure]
  | some n =>
    obtain ⟨t, v, rfl, hv⟩ := hpd n hf
    simp [hm, hv, bind, Except.bind, pure, Except.pure]

/-- what a successful sequence-number selection returned: the message's own number with the session left alone
(raw mode, SequenceReset, PossDup), or the session's next number, which is consumed -/
theorem selectSeq_ok {m : Msg} {s s' : Session} {rawSeq : Bool} {seq : Bytes}
    (h : selectSeq m s rawSeq = .ok (seq, s')) :
    (∃ n, seqOf m.body = .ok n ∧ seq = intToDec n ∧ s' = s) ∨
    (rawSeq = false ∧ (m.mtype == mtSeqReset) = false ∧ seq = intToDec s.nextOut ∧
      s' = { s with nextOut := s.nextOut + 1 }) := by
  have bind_ok : ∀ {α β : Type} {x : Except Kind α} {f : α → Except Kind β} {b : β},
      x >>= f = .ok b → ∃ a, x = .ok a ∧ f a = .ok b := by
    intro α β x f b hx
    cases x with
    | error k => cases hx
    | ok a => exact ⟨a, rfl, hx⟩
  -- a message that keeps its number leaves the session alone
  have keep : (seqOf m.body >>= fun n => (pure (intToDec n, s) : Except Kind (Bytes × Session))) = .ok (seq, s') →
      ∃ n, seqOf m.body = .ok n ∧ seq = intToDec n ∧ s' = s := fun hk => by
    obtain ⟨n, hs, hn⟩ := bind_ok hk
    cases hn; exact ⟨n, hs, rfl, rfl⟩
  have keep34 : (if (!m.body.has tag34) = true then throw Kind.encodingError
      else seqOf m.body >>= fun n => (pure (intToDec n, s) : Except Kind (Bytes × Session))) = .ok (seq, s') →
      ∃ n, seqOf m.body = .ok n ∧ seq = intToDec n ∧ s' = s := fun hk => by
    split at hk
    · cases hk
    · exact keep hk
  unfold selectSeq at h
  split at h
  · exact .inl (keep h)
  · next hraw =>
    split at h
    · exact .inl (keep34 h)
    · next hmt =>
      -- whatever the PossDupFlag lookup returns, the rest runs on some `pd`
      extract_lets rest at h
      obtain ⟨pd, hpd⟩ : ∃ pd, rest pd = .ok (seq, s') := by
        split at h <;> exact (bind_ok h).imp fun _ hh => hh.2
      cases pd
      · cases hpd; exact .inr ⟨by simpa using hraw, by simpa using hmt, rfl, rfl⟩
      · exact .inl (keep34 hpd)

end AsyncFix.Model.Codec
