/-
The field loop of `Codec.decode` never raises (C10 part 1; also used by C01 / C03).

Invariant `Inv tbl s`: in the message under construction and in the item of every open
repeating-group frame, an entry whose tag is a key of the group table is a `.group` node
(plain / error entries never carry a group tag, because a group tag always takes the first
branch of `stepField`), and every open frame's own tag is a key of the table.  Under it
`Cont.addGroup` never hits its `AttributeError` branch, `Cont.setStr` is only called behind
a `has` test, and so `stepCore`, hence `stepField` (`stepField_eq`), returns `.ok` and re-establishes the invariant.
-/
import AsyncFix.Lemmas.CodecStep
namespace AsyncFix.Model.Codec

def Node.isGroup : Node → Bool
  | .group _ _ => true
  | _ => false

/-- entries with a group tag are group nodes -/
def ContOK (tbl : Tbl) (c : Cont) : Prop :=
  ∀ n ∈ c, n.isGroup = true ∨ tbl.members? n.tag = none

def FrameOK (tbl : Tbl) (f : Frame) : Prop :=
  tbl.members? f.gtag ≠ none ∧ ContOK tbl f.item

def StackOK (tbl : Tbl) (st : List Frame) : Prop := ∀ f ∈ st, FrameOK tbl f

def Inv (tbl : Tbl) (s : DState) : Prop := ContOK tbl s.top ∧ StackOK tbl s.stack

theorem ContOK_nil (tbl : Tbl) : ContOK tbl [] := by
  intro n h; cases h

theorem Inv_init (tbl : Tbl) : Inv tbl {} := by
  refine ⟨ContOK_nil tbl, ?_⟩
  intro f h; cases h

theorem ContOK_append {tbl : Tbl} {c : Cont} {n : Node} (hc : ContOK tbl c)
    (hn : n.isGroup = true ∨ tbl.members? n.tag = none) : ContOK tbl (c ++ [n]) := by
  intro m hm
  rcases List.mem_append.1 hm with h | h
  · exact hc m h
  · simp only [List.mem_singleton] at h; subst h; exact hn

theorem setStr_ok {tbl : Tbl} {c : Cont} {t : Tag} (v : Bytes) (hc : ContOK tbl c)
    (ht : tbl.members? t = none) (hh : c.has t = false) :
    ∃ c', c.setStr t v = .ok c' ∧ ContOK tbl c' := by
  refine ⟨c ++ [.leaf t v], ?_, ContOK_append (n := .leaf t v) hc (Or.inr ht)⟩
  simp [Cont.setStr, hh]

theorem setErr_ok {tbl : Tbl} {c : Cont} {t : Tag} (hc : ContOK tbl c)
    (ht : tbl.members? t = none) : ContOK tbl (c.setErr t) := by
  unfold Cont.setErr Cont.put
  split
  · intro m hm
    rcases List.mem_map.1 hm with ⟨a, ha, rfl⟩
    split
    · exact Or.inr ht
    · exact hc a ha
  · exact ContOK_append hc (Or.inr ht)

theorem addGroup_ok {tbl : Tbl} {c : Cont} {t : Tag} (item : Cont) (hc : ContOK tbl c)
    (ht : tbl.members? t ≠ none) :
    ∃ c', c.addGroup t item = .ok c' ∧ ContOK tbl c' := by
  unfold Cont.addGroup
  cases hf : Cont.find? c t with
  | none =>
    exact ⟨_, rfl, ContOK_append hc (Or.inl rfl)⟩
  | some n =>
    have hmem : n ∈ c := List.mem_of_find?_eq_some hf
    have htag : n.tag = t := by
      have := List.find?_some hf
      exact eq_of_beq this
    have hg : n.isGroup = true := by
      rcases hc n hmem with h | h
      · exact h
      · rw [htag] at h; exact absurd h ht
    cases n with
    | leaf _ _ => cases hg
    | err _ => cases hg
    | group t' items =>
      refine ⟨_, rfl, ?_⟩
      intro m hm
      rcases List.mem_map.1 hm with ⟨a, ha, rfl⟩
      cases a with
      | leaf _ _ => exact hc _ ha
      | err _ => exact hc _ ha
      | group t'' its =>
        dsimp only
        split
        · exact Or.inl rfl
        · exact Or.inl rfl

theorem closeTop_ok {tbl : Tbl} {top : Cont} {st : List Frame}
    (ht : ContOK tbl top) (hs : StackOK tbl st) :
    ∃ top' st', closeTop top st = .ok (top', st') ∧ ContOK tbl top' ∧ StackOK tbl st' := by
  match st with
  | [] => exact ⟨top, [], rfl, ht, hs⟩
  | [f] =>
    have hf := hs f (List.mem_singleton.2 rfl)
    obtain ⟨c', h1, h2⟩ := addGroup_ok f.item ht hf.1
    refine ⟨c', [], ?_, h2, ?_⟩
    · simp only [closeTop, bind, Except.bind, h1, pure, Except.pure]
    · intro g hg; cases hg
  | f :: p :: rest =>
    have hf := hs f (by simp)
    have hp := hs p (by simp)
    obtain ⟨c', h1, h2⟩ := addGroup_ok f.item hp.2 hf.1
    refine ⟨top, { p with item := c' } :: rest, ?_, ht, ?_⟩
    · simp only [closeTop, bind, Except.bind, h1, pure, Except.pure]
    · intro g hg
      rcases List.mem_cons.1 hg with h | h
      · subst h; exact ⟨hp.1, h2⟩
      · exact hs g (by simp [h])

theorem closeWhile_ok {tbl : Tbl} (tag : Tag) :
    ∀ (n : Nat) (top : Cont) (st : List Frame), st.length = n →
      ContOK tbl top → StackOK tbl st →
      ∃ top' st', closeWhile tag top st = .ok (top', st') ∧ ContOK tbl top' ∧ StackOK tbl st' := by
  intro n
  induction n with
  | zero =>
    intro top st hl ht hs
    have : st = [] := List.length_eq_zero_iff.1 hl
    subst this
    exact ⟨top, [], by simp [closeWhile], ht, hs⟩
  | succ n ih =>
    intro top st hl ht hs
    match st, hl with
    | f :: rest, hl =>
      unfold closeWhile
      split
      · exact ⟨top, f :: rest, rfl, ht, hs⟩
      · obtain ⟨top', st', h1, h2, h3⟩ := closeTop_ok ht hs
        have hlen := closeTop_length h1
        split
        · rename_i k hk; rw [h1] at hk; cases hk
        · rename_i t2 s2 hk
          rw [h1] at hk
          cases hk
          apply ih top' st' _ h2 h3
          simp only [List.length_cons] at hlen hl
          omega

theorem StackOK_cons {tbl : Tbl} {f : Frame} {st : List Frame} (hf : FrameOK tbl f) (hs : StackOK tbl st) :
    StackOK tbl (f :: st) := by
  intro g hg
  rcases List.mem_cons.1 hg with rfl | h
  · exact hf
  · exact hs g h

theorem afterClose_ok {tbl : Tbl} {s : DS} (t v : Bytes) (ht : ContOK tbl s.1) (hs : StackOK tbl s.2) :
    ∃ s', afterClose tbl s t v = .ok s' ∧ ContOK tbl s'.1 ∧ StackOK tbl s'.2 := by
  unfold afterClose
  cases hm : tbl.members? t with
  | some ms => exact ⟨_, rfl, ht, StackOK_cons ⟨by rw [hm]; exact Option.some_ne_none _, ContOK_nil tbl⟩ hs⟩
  | none =>
    obtain ⟨top, st⟩ := s
    match st, hs with
    | [], hs =>
      dsimp only
      split
      · exact ⟨_, rfl, setErr_ok ht hm, hs⟩
      · obtain ⟨c', h1, h2⟩ := setStr_ok v ht hm (Bool.eq_false_iff.2 ‹_›)
        rw [h1]; exact ⟨_, rfl, h2, hs⟩
    | f :: rest, hs =>
      have hf := hs f (by simp)
      dsimp only
      split
      · -- start the next item of the group
        obtain ⟨top2, st2, h4, h5, h6⟩ := closeTop_ok ht hs
        rw [h4]
        exact ⟨_, rfl, h5, StackOK_cons ⟨hf.1, ContOK_append (ContOK_nil tbl) (n := .leaf t v) (Or.inr hm)⟩ h6⟩
      · exact ⟨_, rfl, ht, StackOK_cons ⟨hf.1, ContOK_append hf.2 (n := .leaf t v) (Or.inr hm)⟩
          (fun g hg => hs g (List.mem_cons_of_mem _ hg))⟩

/-- the invariant speaks of `(top, stack)` only: it is kept by `stepCore`, whatever the bookkeeping does -/
theorem stepField_ok {tbl : Tbl} (ck : Nat) {s : DState} (tag value : Bytes) (hi : Inv tbl s) :
    ∃ s', stepField tbl ck s tag value = .ok s' ∧ Inv tbl s' := by
  rw [stepField_eq, stepCore]
  obtain ⟨top', st', h1, h2, h3⟩ := closeWhile_ok tag _ s.top s.stack rfl hi.1 hi.2
  rw [h1]
  obtain ⟨s', h4, h5, h6⟩ := afterClose_ok (s := (top', st')) tag value h2 h3
  dsimp only
  rw [h4]
  exact ⟨_, rfl, h5, h6⟩

theorem fieldLoop_ok_inv (tbl : Tbl) (ck : Nat) :
    ∀ (fields : List Bytes) (s : DState), Inv tbl s →
      ∃ r, fieldLoop tbl ck s fields = .ok r ∧ ∀ s', r = some s' → Inv tbl s' := by
  intro fields
  induction fields with
  | nil => intro s hi; exact ⟨some s, rfl, fun s' h => by cases h; exact hi⟩
  | cons m rest ih =>
    intro s hi
    unfold fieldLoop
    split
    · exact ⟨none, rfl, nofun⟩
    · split
      · exact ⟨none, rfl, nofun⟩
      · rename_i tag value _ _ _ _
        obtain ⟨s', h1, h2⟩ := stepField_ok ck tag value hi
        simp only [bind, Except.bind, h1]
        exact ih s' h2

theorem fieldLoop_inv (tbl : Tbl) (ck : Nat) :
    ∀ (fields : List Bytes) (s s' : DState), Inv tbl s →
      fieldLoop tbl ck s fields = .ok (some s') → Inv tbl s' := by
  intro fields s s' hi h
  obtain ⟨r, hr, hinv⟩ := fieldLoop_ok_inv tbl ck fields s hi
  rw [h] at hr
  cases hr
  exact hinv s' rfl

theorem fieldLoop_no_raise (tbl : Tbl) (ck : Nat) (fields : List Bytes) :
    ∃ r, fieldLoop tbl ck {} fields = .ok r :=
  let ⟨r, hr, _⟩ := fieldLoop_ok_inv tbl ck fields {} (Inv_init tbl)
  ⟨r, hr⟩

end AsyncFix.Model.Codec
