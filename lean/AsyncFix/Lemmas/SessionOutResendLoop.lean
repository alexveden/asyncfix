import AsyncFix.Lemmas.SessionOutSend
import AsyncFix.Lemmas.SessionResendLoop

/-!
C05, resend servicing, the loop: the rows of the invariant are rows the closed form of the loop accepts
(`RowOk.toC06`); what C05 says of a frame the loop wrote (`sent_row`) and of the journal after the
requested rows (`LoopOut`), read off `sentRows`.
-/
namespace AsyncFix.Session

open AsyncFix.Generated AsyncFix.Generated.ConnEnum

theorem RowOk.toC06 {f : Msg} {n : Int} (h : RowOk f n) : C06.RowOK n f :=
  ⟨⟨_, h.seq, pyInt_pyStr n⟩, h.ty, h.h8, h.h9, h.h52, h.h49, h.h56, h.h10, h.lat⟩

/-- the row is retransmitted: not a session-level type and `should_replay` accepts it -/
def Replayable (sr : Msg → Bool) (g : Msg) : Prop :=
  (ConnEnum.noReplay.contains g.mtype || !sr g) = false

theorem newWrites_map_write {l : Rows} (h : ∀ p ∈ l, isNew p.2 = false) :
    newWrites (l.map fun p => Effect.write p.2) = [] := by
  induction l with
  | nil => rfl
  | cons p r ih =>
    rw [List.map_cons, newWrites, if_neg (by rw [h p List.mem_cons_self]; decide)]
    exact ih fun q hq => h q (List.mem_cons_of_mem _ hq)

theorem Rows.find_none_of_ne {k : Int} {rs : Rows} (h : ∀ p ∈ rs, p.1 ≠ k) : Rows.find k rs = none := by
  cases hf : Rows.find k rs with
  | none => rfl
  | some g => exact absurd rfl (h _ (Rows.find_mem hf))

/-- a frame the loop wrote (`mem_sentRows`): a GapFill, or the copy of a replayed row; either way a
well-formed row under its number that takes no new number -/
theorem sent_row {env : Env} {sr : Msg → Bool} {c : Conn} (hx : LoopCtx env c) {rs : Rows}
    (hrs : ∀ p ∈ rs, RowOk p.2 p.1) {p : Int × Msg}
    (hp : (∃ z, p = (p.1, buildFrame c.sess env.stamp (gapFillMsg p.1 z) p.1)) ∨
      ∃ row, (p.1, row) ∈ rs ∧ skips sr row = false ∧
        p = (p.1, buildFrame c.sess env.stamp (replayMsg row) p.1)) :
    RowOk p.2 p.1 ∧ isNew p.2 = false ∧
      (p.2.mtype = mSequenceReset ∨ ∃ g rp, (p.1, g) ∈ rs ∧ Replayable sr g ∧ prepareReplay g = .ok rp ∧
        p.2 = buildFrame c.sess env.stamp rp p.1) := by
  rcases hp with ⟨z, h⟩ | ⟨g, h1, h2, h⟩
  · rw [h]
    exact ⟨buildFrame_rowOk _ _ _ _ (C06.rowOK_gapFrame hx.lsender hx.ltarget hx.lstamp _ _).latin,
      by rw [buildFrame_isNew]; rfl, Or.inl rfl⟩
  · have hg := (hrs _ h1).toC06
    rw [h]
    exact ⟨buildFrame_rowOk _ _ _ _ (C06.rowOK_replayFrame hx.lsender hx.ltarget hx.lstamp hg).latin,
      by rw [buildFrame_isNew]; simp [isNew, possDup_replayMsg],
      Or.inr ⟨g, _, h1, h2, prepareReplay_ok hg.header, rfl⟩⟩

structure LoopOut (env : Env) (sr : Msg → Bool) (c : Conn) (rs : List (Int × Msg)) (gfb e cur : Int)
    (J' : Rows) (gfb' gfe' : Int) (es : List Effect) : Prop where
  le : gfb ≤ gfb'
  leE : gfb' = gfb ∨ gfb' ≤ e + 1
  leCur : gfb' ≤ cur
  gfeCur : gfe' ≤ cur
  sorted : Rows.Sorted J'
  allLt : Rows.AllLt gfb' J'
  rowOk : ∀ p ∈ J', RowOk p.2 p.1
  noNew : newWrites es = []
  below : ∀ k, k < gfb → Rows.find k J' = Rows.find k c.journal.out
  above : ∀ k g', gfb ≤ k → Rows.find k J' = some g' →
    g'.mtype = mSequenceReset ∨ ∃ g rp, (k, g) ∈ rs ∧ Replayable sr g ∧ prepareReplay g = .ok rp ∧
      g' = buildFrame c.sess env.stamp rp k
  copies : ∀ p ∈ rs, Replayable sr p.2 →
    ∃ rp, prepareReplay p.2 = .ok rp ∧ Rows.find p.1 J' = some (buildFrame c.sess env.stamp rp p.1)

/-- the requested rows (numbers `≤ e`), followed by any further rows `tl` -/
theorem resendLoop_spec (env : Env) (sr : Msg → Bool) (e cur : Int) (tl : List Msg)
    (rs : List (Int × Msg)) (c : Conn) (gfb gfe : Int) (hx : LoopCtx env c)
    (hs : Rows.Sorted c.journal.out) (hlt : Rows.AllLt gfb c.journal.out)
    (hrow : ∀ p ∈ c.journal.out, RowOk p.2 p.1) (hrs : Rows.Sorted rs)
    (hall : ∀ p ∈ rs, RowOk p.2 p.1 ∧ gfb ≤ p.1 ∧ p.1 < cur ∧ p.1 ≤ e) (hb : gfb ≤ cur) (he : gfe ≤ cur) :
    ∃ J' o' gfb' gfe' es,
      resendLoop env sr e (rs.map (·.2) ++ tl) gfb gfe c =
        Out.pre es (resendLoop env sr e tl gfb' gfe' (C06.withOut c J' o')) ∧
      LoopOut env sr c rs gfb e cur J' gfb' gfe' es := by
  obtain ⟨os, heq⟩ := resendLoop_run env sr e tl rs gfb gfe c hx hlt hrs
    fun p hp => ⟨(hall p hp).2.1, (hall p hp).2.2.2, (hall p hp).1.toC06⟩
  obtain ⟨k1, k2, k3⟩ := sentRows_keys c.sess env.stamp sr rs gfb gfe hrs fun p hp => (hall p hp).2.1
  have hle := loopVars_le sr (m := cur) rs gfb gfe hb fun p hp => (hall p hp).2.2.1
  have hleE := (loopVars_le sr (m := max gfb (e + 1)) rs gfb gfe (by omega)
    fun p hp => by have := (hall p hp).2.2.2; omega).1
  have hmem := fun p (hp : p ∈ sentRows c.sess env.stamp sr rs gfb) =>
    sent_row (sr := sr) hx (fun q hq => (hall q hq).1) (mem_sentRows hp)
  have hsorted : Rows.Sorted (c.journal.out ++ sentRows c.sess env.stamp sr rs gfb) :=
    Rows.sorted_append hs k2 fun p hp q hq => Int.lt_of_lt_of_le (hlt p hp) (k3 q hq).1
  refine ⟨_, os, _, _, _, heq, k1, by omega, hle.1, hle.2 he, hsorted, ?_, ?_, ?_, ?_, ?_, ?_⟩
  · intro p hp
    rcases List.mem_append.mp hp with h | h
    · have := hlt p h; omega
    · exact (k3 p h).2
  · intro p hp
    exact (List.mem_append.mp hp).elim (hrow p) fun h => (hmem p h).1
  · exact newWrites_map_write fun p hp => (hmem p hp).2.1
  · intro k hk
    rw [Rows.find_append, Rows.find_none_of_ne (rs := sentRows _ _ _ _ _) fun p hp => by
      have := (k3 p hp).1; omega]
    cases Rows.find k c.journal.out <;> rfl
  · intro k g' hk hf
    rcases List.mem_append.mp (Rows.find_mem hf) with h | h
    · have := hlt _ h; simp only at this; omega
    · exact (hmem _ h).2.2
  · intro p hp hrep
    exact ⟨_, prepareReplay_ok (hall p hp).1.toC06.header,
      Rows.find_of_mem hsorted (List.mem_append_right _ (copy_mem_sentRows hrep gfb hp))⟩

end AsyncFix.Session
