import AsyncFix.Lemmas.TesterLock

/-!
C20 helper lemmas: the Logon exchange from freshly connected endpoints, for ANY acceptor-side connection
that looks like `AccStart` (both the tester's `mkAcceptor` and a real `realAcceptor` do).
-/
namespace AsyncFix.Tester
open AsyncFix.Session AsyncFix.Generated AsyncFix.Generated.ConnEnum

/-- the initiator before the script: connected, nothing sent yet -/
structure Start (ci : Conn) : Prop where
  st : ci.state = st_NETWORK_CONN_ESTABLISHED
  sock : ci.sock = true
  noreq : ci.testReqId = none
  posIn : 0 < ci.sess.nextIn
  posOut : 0 < ci.sess.nextOut
  fresh : JFresh ci
  latinS : isLatin1 ci.sess.sender = true
  latinT : isLatin1 ci.sess.target = true

/-- an acceptor-side connection waiting for the Logon of `ci` -/
structure AccStart (ci ca : Conn) : Prop where
  st : ca.state = st_NETWORK_CONN_ESTABLISHED
  sock : ca.sock = true
  noreq : ca.testReqId = none
  fresh : JFresh ca
  peer : Peer ci ca

/-- the Logon the script starts with -/
structure LogonMsg (m : Msg) : Prop where
  ty : m.mtype = mLogon
  noPossDup : (m.get? tPossDupFlag).getD "N" ≠ "Y"
  latin1 : latin1Msg m = true
  has98 : m.has tEncryptMethod = true
  has108 : m.has tHeartBtInt = true

theorem latin1_of_get? {m : Msg} {t : Nat} {v : String} (hm : latin1Msg m = true) (h : m.get? t = some v) : isLatin1 v = true := by
  simp only [latin1Msg, Bool.and_eq_true, List.all_eq_true] at hm
  exact hm.2 (t, v) (Msg.lookup_mem h)

/-- connection of the initiator after its first Logon went out -/
def iAfterLogonSent (ci : Conn) (env : Env) (m : Msg) : Conn :=
  { afterSend ci env m with state := st_LOGON_INITIAL_SENT, role := roleInitiator }

/-- … and after the acceptor's Logon came back -/
def iAfterLogon (ci : Conn) (env : Env) (m g : Msg) : Conn :=
  { afterIn (afterSend ci env m) env g with state := st_ACTIVE, role := roleInitiator, wasActive := true }

/-- the acceptor after the Logon exchange -/
def aAfterLogon (ca : Conn) (env : Env) (f : Msg) : Conn :=
  { afterIn (afterSend ca env (logonReply f)) env f with state := st_ACTIVE, role := roleAcceptor, wasActive := true }

section fields
variable (c : Conn) (env : Env) (m g f : Msg)

@[simp] theorem iAfterLogon_nextIn : (iAfterLogon c env m g).sess.nextIn = c.sess.nextIn + 1 := rfl
@[simp] theorem aAfterLogon_nextIn : (aAfterLogon c env f).sess.nextIn = c.sess.nextIn + 1 := rfl
@[simp] theorem aAfterLogon_sender : (aAfterLogon c env f).sess.sender = c.sess.sender := rfl
@[simp] theorem aAfterLogon_target : (aAfterLogon c env f).sess.target = c.sess.target := rfl
@[simp] theorem aAfterLogon_journal :
    (aAfterLogon c env f).journal = jIn (afterSend c env (logonReply f)) f := rfl

end fields

theorem appSend_logon {env : Env} {ci : Conn} {m : Msg} (h : Start ci) (hm : LogonMsg m) (henv : isLatin1 env.stamp = true) :
    appSend env ci m = (iAfterLogonSent ci env m, [.onState st_LOGON_INITIAL_SENT, .write (sentFrame ci env m)]) := by
  have hb : Sendable ci env m (jOut ci env m) :=
    ⟨by rw [hm.ty]; decide, hm.noPossDup, sentFrame_latin1 h.latinS h.latinT henv hm.latin1, jOut_spec env m h.fresh, h.sock⟩
  have hg := sendGate_conn (m := m) h.st (Or.inl hm.ty)
  rw [setState_of_ne (by decide)] at hg
  have hc := sendCore_sendable (c := { ci with state := st_LOGON_INITIAL_SENT, role := roleInitiator }) (hb.congr rfl rfl rfl)
    (fun e => absurd (hm.ty.symm.trans e) (by decide))
  exact M.run_ok ((M.bind_ok hg).trans (congrArg (fun o : Out Unit => (⟨o.res, o.conn, _ ++ o.eff⟩ : Out Unit)) hc))

theorem logonReply_latin1 {f : Msg} {e h : String} (h98 : f.get? tEncryptMethod = some e) (h108 : f.get? tHeartBtInt = some h)
    (he : isLatin1 e = true) (hh : isLatin1 h = true) : latin1Msg (logonReply f) = true := by
  simp [latin1Msg, logonReply, Msg.mk', h98, h108, he, hh]; decide

theorem recv_logon_acc {sr : Msg → Bool} {env : Env} {ci ca : Conn} {m : Msg} (hs : Start ci) (h : AccStart ci ca)
    (hm : LogonMsg m) (henv : isLatin1 env.stamp = true) :
    recv sr env ca (sentFrame ci env m) =
      (aAfterLogon ca env (sentFrame ci env m),
       [.onState st_LOGON_INITIAL_RECV, .write (sentFrame ca env (logonReply (sentFrame ci env m))), .onState st_ACTIVE,
        .onLogon true]) := by
  obtain ⟨e, he⟩ := Option.isSome_iff_exists.mp (show (m.get? tEncryptMethod).isSome = true from hm.has98)
  obtain ⟨b, hb⟩ := Option.isSome_iff_exists.mp (show (m.get? tHeartBtInt).isSome = true from hm.has108)
  have h98 : (sentFrame ci env m).get? tEncryptMethod = some e := by
    unfold sentFrame; rw [buildFrame_get?_other _ _ _ _ (by decide)]; exact he
  have h108 : (sentFrame ci env m).get? tHeartBtInt = some b := by
    unfold sentFrame; rw [buildFrame_get?_other _ _ _ _ (by decide)]; exact hb
  have hra := logonReply_latin1 h98 h108 (latin1_of_get? hm.latin1 he) (latin1_of_get? hm.latin1 hb)
  have hpos : 0 < ca.sess.nextIn := by rw [h.peer.oi]; exact hs.posOut
  have hj1 := jOut_spec env (logonReply (sentFrame ci env m)) h.fresh
  have hj2 := jIn_spec (sentFrame ci env m) (jfresh_afterSend env (logonReply (sentFrame ci env m)) h.fresh)
  have := recv_logon_acceptor (sr := sr) (env := env) (addressed_peer h.peer env m) h.st hm.ty h98 h108
    ⟨(logonReplyMsg_plain _ _).1, (logonReplyMsg_plain _ _).2,
     sentFrame_latin1 (by rw [h.peer.ts]; exact hs.latinT) (by rw [h.peer.st]; exact hs.latinS) henv hra, hj1, h.sock⟩
    hpos hj2
  rw [this]
  rfl

theorem recv_logon_ini {sr : Msg → Bool} {env : Env} {ci ca : Conn} {m : Msg} (hs : Start ci) (h : AccStart ci ca) (r : Msg)
    (hr : r.mtype = mLogon) :
    recv sr env (iAfterLogonSent ci env m) (sentFrame ca env r) =
      (iAfterLogon ci env m (sentFrame ca env r), [.onState st_ACTIVE, .onLogon true]) := by
  have ha : Addressed (iAfterLogonSent ci env m) (sentFrame ca env r) (iAfterLogonSent ci env m).sess.nextIn :=
    addressed_sentFrame env r h.peer.symm.st h.peer.symm.ts h.peer.io
  have hf : JFresh (iAfterLogonSent ci env m) := by
    have := jfresh_afterSend env m hs.fresh
    exact ⟨this.out, this.inb⟩
  have := recv_logon_initiator (sr := sr) (env := env) ha rfl rfl hr hs.posIn (jIn_spec (sentFrame ca env r) hf)
  rw [this]
  rfl

end AsyncFix.Tester
